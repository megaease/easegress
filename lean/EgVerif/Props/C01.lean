import EgVerif.Proofs.Mux
import EgVerif.Gen.FactsC01
import EgVerif.Proofs.MuxIR
import EgVerif.Proofs.MuxCache
import EgVerif.Proofs.MuxSearchIR
/-!
# C01 — HTTP routing: the first rule/path matching host, path, method and headers wins

Property theorems about `Model/Mux.lean` (`search`, `rewrite`, `serve`: line-by-line models of
`muxInstance.search` with the cache off, `MuxPath.rewrite`, and the prefix of
`muxInstance.serveHTTP`), for **every** rule set, request and regexp oracle. The reference router
is `Spec/Mux.lean` (`entries`, `full`, `route`).

"No IP filters" is expressed in two equivalent ways: the configuration has none (`NoFilters`), or
every filter allows (`unfiltered o`). The filtered statement is C05's (`Props/C05.lean`).
-/
namespace EgVerif.C01
open EgVerif.Mux EgVerif.Mux.Spec

def NoFilters (c : Cfg) : Prop :=
  c.ipFilter = none ∧ ∀ r ∈ c.rules, r.ipFilter = none ∧ ∀ e ∈ r.paths, e.ipFilter = none

/-- **C01 central theorem**: without IP filters the two-level loop with its `headerMismatch` /
`methodMismatch` flags computes exactly the declarative reference router — first fully matching
entry in rule-then-path order, else 400 > 405 > 404. -/
theorem search_eq_spec (o : Oracle) (c : Cfg) (q : Req) (h : NoFilters c) :
    search o c q = route o c q := by
  rw [search_eq_routeF]
  have : denied o c q = false := by
    unfold denied applying deniedBy
    rw [List.any_eq_false]
    intro f hf
    have : f = none := by
      rcases List.mem_cons.mp hf with rfl | hf
      · exact h.1
      · obtain ⟨r, hr, _, rfl | ⟨e, he, rfl, _⟩⟩ := mem_applyingFrom hf
        · exact (h.2 r hr).1
        · exact (h.2 r hr).2 e he
    subst this; simp [allowIP]
  simp [routeF, this]

/-- The same for any configuration when every filter allows. -/
theorem search_eq_spec_allow_all (o : Oracle) (c : Cfg) (q : Req) :
    search (unfiltered o) c q = route o c q := search_unfiltered o c q

theorem mem_entries_iff (o : Oracle) (c : Cfg) (q : Req) (ri pi : Nat) (e : PathEntry) :
    (ri, pi, e) ∈ entries o c q ↔
      ∃ r, c.rules[ri]? = some r ∧ hostOK o r q = true ∧ r.paths[pi]? = some e := by
  unfold entries
  rw [mem_entriesFrom]
  simp

/-- **First match wins**: a request is dispatched to entry `(ri, pi)` only if that entry belongs to
a host-matching rule, matches path, method and headers, and **no** entry earlier in
rule-then-path order (of a host-matching rule) matches completely. -/
theorem first_match_wins (o : Oracle) (c : Cfg) (q : Req) (ri pi : Nat) (e : PathEntry)
    (h : search (unfiltered o) c q = .path ri pi e) :
    (∃ r, c.rules[ri]? = some r ∧ hostOK o r q = true ∧ r.paths[pi]? = some e) ∧
    full o q (ri, pi, e) = true ∧
    ∀ ri' pi' r' e', (ri' < ri ∨ (ri' = ri ∧ pi' < pi)) → c.rules[ri']? = some r' →
      hostOK o r' q = true → r'.paths[pi']? = some e' → full o q (ri', pi', e') = false := by
  rw [search_unfiltered] at h
  have hfind : (entries o c q).find? (full o q) = some (ri, pi, e) := routeOf_eq_path.mp h
  refine ⟨(mem_entries_iff o c q _ _ _).mp (List.mem_of_find?_eq_some hfind), List.find?_some hfind, ?_⟩
  intro ri' pi' r' e' hlt hr hh hp
  have hmem := (mem_entries_iff o c q _ _ _).mpr ⟨r', hr, hh, hp⟩
  -- `entries` is sorted by rule, then path; everything before the first full match fails `full`
  obtain ⟨_, as, bs, hl, has⟩ := List.find?_eq_some_iff_append.mp hfind
  have hsorted := pairwise_entriesFrom o q c.rules 0
  unfold entries at hmem hl
  rw [hl, List.pairwise_append] at hsorted
  rcases List.mem_append.mp (hl ▸ hmem) with h1 | h1
  · simpa using has _ h1
  · rcases List.mem_cons.mp h1 with h2 | h2
    · cases h2; omega
    · have := (List.pairwise_cons.mp hsorted.2.1).1 _ h2
      unfold before at this; dsimp only at this; omega

/-- Completeness: the request is dispatched to a path **iff** some entry matches completely. -/
theorem dispatched_iff (o : Oracle) (c : Cfg) (q : Req) :
    (∃ ri pi e, search (unfiltered o) c q = .path ri pi e) ↔
      ∃ x ∈ entries o c q, full o q x = true := by
  rw [search_unfiltered, ← List.find?_isSome, Option.isSome_iff_exists]
  simp only [route, routeOf_eq_path, Prod.exists]

/-- **Status precedence** when no entry matches completely: 400 iff some entry matched path and
method but failed its header condition; otherwise 405 iff some entry matched the path but not the
method; otherwise 404. No other failure code is produced without IP filters. -/
theorem status_precedence (o : Oracle) (c : Cfg) (q : Req) (n : Nat)
    (h : search (unfiltered o) c q = .code n) :
    (∀ x ∈ entries o c q, full o q x = false) ∧
    (n = 400 ↔ ∃ x ∈ entries o c q, hdrFail o q x = true) ∧
    (n = 405 ↔ (∀ x ∈ entries o c q, hdrFail o q x = false) ∧ ∃ x ∈ entries o c q, methFail o q x = true) ∧
    (n = 404 ↔ (∀ x ∈ entries o c q, hdrFail o q x = false) ∧ ∀ x ∈ entries o c q, methFail o q x = false) ∧
    (n = 400 ∨ n = 405 ∨ n = 404) := by
  rw [search_unfiltered] at h
  obtain ⟨hnone, rfl⟩ := routeOf_eq_code.mp h
  refine ⟨fun x hx => by simpa using List.find?_eq_none.mp hnone x hx, ?_⟩
  have allFalse : ∀ p : Entry → Bool, (∀ x ∈ entries o c q, p x = false) ↔ (entries o c q).any p = false :=
    fun p => by simp only [List.any_eq_false, Bool.not_eq_true]
  simp only [failCode, Bool.false_or, allFalse, ← List.any_eq_true]
  cases (entries o c q).any (hdrFail o q) <;> cases (entries o c q).any (methFail o q) <;> simp

/-- **Rewrite**: exactly as `rewriteTarget` specifies — empty target leaves the path alone; an exact
match replaces the whole path; a prefix match replaces the prefix; otherwise the regexp's
`ReplaceAllString`. -/
theorem rewrite_spec (σ : Nat → String → String → String) (e : PathEntry) (p : String) :
    (e.rewriteTarget = "" → rewrite σ e p = some p) ∧
    (e.rewriteTarget ≠ "" → e.path ≠ "" → e.path = p → rewrite σ e p = some e.rewriteTarget) ∧
    (e.rewriteTarget ≠ "" → ¬(e.path ≠ "" ∧ e.path = p) → e.pathPrefix ≠ "" →
      e.pathPrefix.isPrefixOf p = true →
      rewrite σ e p = some (e.rewriteTarget ++ String.ofList (p.toList.drop e.pathPrefix.length))) ∧
    (∀ i, e.rewriteTarget ≠ "" → ¬(e.path ≠ "" ∧ e.path = p) →
      ¬(e.pathPrefix ≠ "" ∧ e.pathPrefix.isPrefixOf p = true) → e.pathRE = some i →
      rewrite σ e p = some (σ i p e.rewriteTarget)) := by
  have exact : (e.path != "" && e.path == p) = true ↔ e.path ≠ "" ∧ e.path = p := by simp
  have pre : (e.pathPrefix != "" && e.pathPrefix.isPrefixOf p) = true ↔
      e.pathPrefix ≠ "" ∧ e.pathPrefix.isPrefixOf p = true := by simp
  have tgt : (e.rewriteTarget == "") = true ↔ e.rewriteTarget = "" := by simp
  unfold rewrite
  simp only [exact, pre, tgt]
  refine ⟨fun h => if_pos h, fun h1 h2 h3 => ?_, fun h1 h2 h3 h4 => ?_, fun i h1 h2 h3 h4 => ?_⟩
  · rw [if_neg h1, if_pos ⟨h2, h3⟩]
  · rw [if_neg h1, if_neg h2, if_pos ⟨h3, h4⟩]
  · rw [if_neg h1, if_neg h2, if_neg h3, h4]

/-- `Path.Validate`: a rewrite target needs something to match against. -/
def PathValid (e : PathEntry) : Prop :=
  e.rewriteTarget ≠ "" → ¬(e.path = "" ∧ e.pathPrefix = "" ∧ e.pathRE = none)

/-- For a validated path that matched the request, `rewrite` never reaches the nil `pathRE`
(the Go comment "sure (mp.pathRE != nil && …) is true"), and yields the specified path. -/
theorem rewrite_total (o : Oracle) (σ : Nat → String → String → String) (e : PathEntry) (q : Req)
    (hv : PathValid e) (hm : matchPath o e q = true) :
    rewrite σ e q.path = some (rewritten σ e q.path) := by
  unfold rewrite rewritten
  cases hre : e.pathRE with
  | some i => simp only [apply_ite some]
  | none =>
    cases h0 : (e.rewriteTarget == "")
    · cases h1 : (e.path != "" && e.path == q.path)
      · cases h2 : (e.pathPrefix != "" && e.pathPrefix.isPrefixOf q.path)
        · -- no regexp, no exact or prefix match: only the empty condition matches, and it allows no target
          simp [matchPath, hre, reMatch, h1, h2] at hm
          exact absurd ⟨hm.1, hm.2, hre⟩ (hv (by simpa using h0))
        · rfl
      · rfl
    · rfl

/-- A failure route becomes the response status and no handler runs. -/
theorem code_route_sets_status (o : Oracle) (σ : Nat → String → String → String) (c : Cfg) (x : Bool)
    (bs : List String) (q : Req) (n : Nat) (h : search o c q = .code n) :
    serve o σ c x bs q = .status n := by
  simp [serve, serveRoute, h]

/-- A matched backend name that does not exist yields 503 and no handler runs. -/
theorem unknown_backend_503 (o : Oracle) (σ : Nat → String → String → String) (c : Cfg) (x : Bool)
    (bs : List String) (q : Req) (ri pi : Nat) (e : PathEntry) (h : search o c q = .path ri pi e)
    (hb : e.backend ∉ bs) : serve o σ c x bs q = .status 503 := by
  simp [serve, serveRoute, h, hb]

/-- A handler runs only for a matched route whose backend exists, and it is that backend. -/
theorem handled_only_matched (o : Oracle) (σ : Nat → String → String → String) (c : Cfg) (x : Bool)
    (bs : List String) (q : Req) (b p hst xf : String) (h : serve o σ c x bs q = .handled b p hst xf) :
    ∃ ri pi e, search o c q = .path ri pi e ∧ e.backend = b ∧ b ∈ bs ∧ rewrite σ e q.path = some p ∧
      hst = q.host := by
  obtain ⟨ri, pi, e, hs, h1, h2, h3, h4, _⟩ := serveRoute_eq_handled h
  exact ⟨ri, pi, e, hs, h1, h2, h3, h4⟩

def CfgValid (c : Cfg) : Prop := ∀ r ∈ c.rules, ∀ e ∈ r.paths, PathValid e

/-- The model's own behaviour is accepted by the executable specification the judge applies to
the implementation (`Spec.expect` / `Spec.satisfies`), for every validated configuration — with
or without IP filters. -/
theorem serve_satisfies_spec (o : Oracle) (σ : Nat → String → String → String) (c : Cfg) (x : Bool)
    (bs : List String) (q : Req) (hv : CfgValid c) :
    satisfies (expect o σ c bs q) (serve o σ c x bs q) = true := by
  unfold serve expect
  rw [search_eq_routeF]
  cases hr : routeF o c q with
  | code n => simp [serveRoute, satisfies]
  | path ri pi e =>
    simp only [serveRoute]
    cases hb : bs.contains e.backend
    · simp [satisfies]
    · -- the entry is a validated, path-matching entry of the configuration
      have hroute : route o c q = .path ri pi e := by
        unfold routeF at hr; split at hr
        · cases hr
        · exact hr
      have hfm := first_match_wins o c q ri pi e (by rw [search_unfiltered]; exact hroute)
      obtain ⟨⟨r, hr1, _, hr3⟩, hfull, _⟩ := hfm
      have hpv : PathValid e := hv r (List.mem_of_getElem? hr1) e (List.mem_of_getElem? hr3)
      have hmp : matchPath o e q = true := by
        unfold full at hfull
        simp only [Bool.and_eq_true] at hfull
        rw [← pathOK_eq]; exact hfull.1.1
      rw [rewrite_total o σ e q hpv hmp]
      simp [satisfies]

/-- **Port ignored**: the routing decision reads the `Host` header only through its port-stripped form
(`hostNoPort`; that this *is* `net.SplitHostPort` of the raw host is `match_regenerated_from_source`).
Two requests that differ only in the raw `Host` — another port, or none — get the same route, for
every rule set (exact hosts and host regexps alike), with or without IP filters. -/
theorem search_port_insensitive (o : Oracle) (c : Cfg) (q : Req) (h : String) :
    search o c (withHost q h) = search o c q := by
  rw [search_eq_routeF, search_eq_routeF]
  unfold routeF denied applying deniedBy
  rw [route_congr (q := q) (q' := withHost q h) c (fun _ => rfl) rfl rfl rfl,
    applyingFrom_congr (q := q) (q' := withHost q h) (fun _ => rfl) rfl]
  rfl

/-- … and the handler then sees the same path / X-Forwarded-For and the raw `Host` it was sent. -/
theorem serve_port_insensitive (o : Oracle) (σ : Nat → String → String → String) (c : Cfg) (x : Bool)
    (bs : List String) (q : Req) (h : String) :
    serve o σ c x bs (withHost q h) =
      match serve o σ c x bs q with
      | .handled b p _ xf => .handled b p h xf
      | other => other := by
  simp only [serve, search_port_insensitive]
  cases search o c q with
  | code n => rfl
  | path ri pi e =>
    simp only [serveRoute]
    split
    · rfl
    · have hp : (withHost q h).path = q.path := rfl
      rw [hp]
      cases rewrite σ e q.path <;> rfl

/-- **`appendXForwardedFor`**: an empty header becomes the client address; a header that already
contains it (`strings.Contains`) is left alone; otherwise `,address` is appended; in every case the
resulting header contains the address. -/
theorem xff_after (v ip : String) :
    (v = "" → xffAfter v ip = ip) ∧
    (v ≠ "" → isInfix ip.toList v.toList = true → xffAfter v ip = v) ∧
    (v ≠ "" → isInfix ip.toList v.toList = false → xffAfter v ip = v ++ "," ++ ip) ∧
    isInfix ip.toList (xffAfter v ip).toList = true := by
  refine ⟨?_, ?_, ?_, ?_⟩
  · intro h; simp [xffAfter, h]
  · intro h1 h2; simp [xffAfter, h1, h2]
  · intro h1 h2; simp [xffAfter, h1, h2]
  · unfold xffAfter
    split
    · have := isInfix_append_left ip.toList []; simpa using this
    · split
      · assumption
      · have := isInfix_append_left ip.toList (v.toList ++ [','])
        simpa [String.toList_append] using this

/-- Appending is idempotent: a second hop with the same client address does not grow the header. -/
theorem xff_idempotent (v ip : String) (h : xffAfter v ip ≠ "") :
    xffAfter (xffAfter v ip) ip = xffAfter v ip :=
  (xff_after (xffAfter v ip) ip).2.1 h (xff_after v ip).2.2.2

/-- The handler sees the appended header exactly when `spec.XForwardedFor` is set. -/
theorem handled_xff (o : Oracle) (σ : Nat → String → String → String) (c : Cfg) (x : Bool)
    (bs : List String) (q : Req) (b p hst xf : String) (h : serve o σ c x bs q = .handled b p hst xf) :
    xf = if x then xffAfter (q.get xffKey) q.ip else q.get xffKey := by
  obtain ⟨_, _, _, _, _, _, _, _, h⟩ := serveRoute_eq_handled h
  exact h

example : xffAfter "" "1.2.3.4" = "1.2.3.4" ∧ xffAfter "9.9.9.9" "1.2.3.4" = "9.9.9.9,1.2.3.4" ∧
    xffAfter "9.9.9.9,1.2.3.4" "1.2.3.4" = "9.9.9.9,1.2.3.4" ∧ xffAfter "11.2.3.45" "1.2.3.4" = "11.2.3.45" := by decide +kernel

/-- The route codes, the 503 of a `GetHandler` miss, the order of the two tail tests of
`search` (header mismatch before method mismatch) and the order of the steps of `serveHTTP`
(search → GetHandler → rewrite → appendXForwardedFor → FetchPayload → Handle) are as modelled. -/
theorem mux_facts :
    Gen.FactsC01.extractionFailed = false ∧
    Gen.FactsC01.routeCodes = [("notFound", 404), ("forbidden", 403), ("methodNotAllowed", 405), ("badRequest", 400)] ∧
    Gen.FactsC01.unknownBackendStatus = 503 ∧
    Gen.FactsC01.searchTailConds = ["headerMismatch", "methodMismatch"] ∧
    Gen.FactsC01.serveCallOrder = ["search", "GetHandler", "rewrite", "appendXForwardedFor", "FetchPayload", "Handle"] ∧
    Gen.FactsC01.searchLoopOrder = ["match", "matchPath", "matchMethod", "matchHeaders"] :=
  ⟨rfl, rfl, rfl, rfl, rfl, rfl⟩

private def oEx : Oracle := { ρ := fun _ s => s == "/r/x", allow := fun _ _ => true }
private def hcEx : HeaderCond := ⟨"X-A", ["1"], none⟩
/-- Three rules; entry 2.1 (rule index 2, path index 1) is reached only after a header mismatch in
entry 0.1 and a method mismatch in 0.0; rule 1 does not match the host. -/
private def cEx : Cfg := { rules := [
  { host := "a", paths := [{ path := "/x", methods := ["POST"], backend := "b0" },
                           { path := "/x/1", headers := [hcEx], backend := "b1" }] },
  { host := "other", paths := [{ backend := "b2" }] },
  { hostRE := some 0, paths := [{ path := "/y", backend := "b3" },
                                 { path := "/x/1", rewriteTarget := "/r", backend := "b4" },
                                 { backend := "b5" }] } ] }
private def qEx : Req := { host := "a:80", hostNoPort := "a", method := "GET", path := "/x/1", hdr := [("X-A", "2")], ip := "1.2.3.4" }
private def oEx2 : Oracle := { ρ := fun _ s => s == "a", allow := fun _ _ => true }

example : NoFilters cEx := by
  unfold NoFilters; decide +kernel

example : CfgValid cEx := by
  unfold CfgValid PathValid; decide +kernel

example : search oEx2 cEx qEx = .path 2 1 { path := "/x/1", rewriteTarget := "/r", backend := "b4" } := by decide +kernel
example : serve oEx2 (fun _ p _ => p) cEx false ["b4"] qEx = .handled "b4" "/r" "a:80" "" := by decide +kernel
example : serve oEx2 (fun _ p _ => p) cEx false ["b0"] qEx = .status 503 := by decide +kernel
/-- the port is ignored: `a:80`, `a:8443` and `a` are routed alike (all have hostNoPort `a`) -/
example : search oEx2 cEx (withHost qEx "a:8443") = search oEx2 cEx qEx ∧ search oEx2 cEx (withHost qEx "a") = search oEx2 cEx qEx ∧
    serve oEx2 (fun _ p _ => p) cEx false ["b4"] (withHost qEx "a") = .handled "b4" "/r" "a" "" := by decide +kernel
/-- without rule 2 the same request gets 400 (header mismatch beats the method mismatch). -/
example : search oEx cEx qEx = .code 400 := by decide +kernel
example : search oEx cEx { qEx with hdr := [("X-A", "1")] } = .path 0 1 { path := "/x/1", headers := [hcEx], backend := "b1" } := by decide +kernel
/-- only the method mismatch of entry 0.0 is seen: 405; an unknown path: 404. -/
example : search oEx cEx { qEx with path := "/x" } = .code 405 := by decide +kernel
example : search oEx cEx { qEx with path := "/zz" } = .code 404 := by decide +kernel

/-! ### Regenerated tie by translation (`notes/IR.md`)

The `…IR` definitions are re-translated on every run from the current Go bodies (go/ast → Lean,
`harness/factextract/irlib.go`, loops as generated structural recursion); each equals the hand-written
model function on every input and oracle. The two loops of `matchHeaders`: `Proofs/MuxIR.lean`. -/

/-- `muxRule.match` (`sp` = `net.SplitHostPort`, `none` on error). -/
theorem match_regenerated_from_source (o : Oracle) (sp : String → Option String) (r : Rule) (q : Req)
    (h : q.hostNoPort = (sp q.host).getD q.host) :
    Gen.FactsC01IR.extractionFailed = false ∧ Gen.FactsC01IR.ruleMatchIR o sp r q = ruleMatch o r q := by
  refine ⟨rfl, ?_⟩
  have hh : (if (!(Gen.FactsC01IR.splitHostPort sp q.host).2.2) = true then (Gen.FactsC01IR.splitHostPort sp q.host).1
      else q.host) = q.hostNoPort := by
    rw [h, Gen.FactsC01IR.splitHostPort]; cases sp q.host <;> rfl
  simp only [Gen.FactsC01IR.ruleMatchIR, ruleMatch, hh, isSome_and_reMatch, Bool.if_true_left, Bool.if_false_right, Bool.and_true,
    Bool.decide_eq_true]

/-- `MuxPath.matchPath`. -/
theorem matchPath_regenerated_from_source (o : Oracle) (e : PathEntry) (q : Req) :
    Gen.FactsC01IR.extractionFailed = false ∧ Gen.FactsC01IR.matchPathIR o e q = matchPath o e q := by
  refine ⟨rfl, ?_⟩
  simp only [Gen.FactsC01IR.matchPathIR, matchPath, Bool.if_false_right, Bool.decide_eq_true, isSome_and_reMatch]

/-- `MuxPath.matchMethod`. -/
theorem matchMethod_regenerated_from_source (o : Oracle) (e : PathEntry) (q : Req) :
    Gen.FactsC01IR.extractionFailed = false ∧ Gen.FactsC01IR.matchMethodIR o e q = matchMethod e q := by
  refine ⟨rfl, ?_⟩
  unfold Gen.FactsC01IR.matchMethodIR matchMethod
  cases e.methods <;> rfl

/-- `MuxPath.matchHeaders` (both `range` loops). -/
theorem matchHeaders_regenerated_from_source (o : Oracle) (e : PathEntry) (q : Req) :
    Gen.FactsC01IR.extractionFailed = false ∧ Gen.FactsC01IR.matchHeadersIR o e q = matchHeaders o e q := by
  refine ⟨rfl, ?_⟩
  simp only [Gen.FactsC01IR.matchHeadersIR, matchHeaders, matchHeaders_regenerated_from_source_loop1,
    matchHeaders_regenerated_from_source_loop2]
  cases hm : e.matchAll
  · cases e.headers.any (fun h => condAny o h q) <;> simp
  · cases e.headers.all (fun h => condAll o h q) <;> simp

/-- `MuxPath.rewrite` (`none` = nil dereference of `mp.pathRE`). -/
theorem rewrite_regenerated_from_source (σ : Nat → String → String → String) (e : PathEntry) (q : Req) :
    Gen.FactsC01IR.extractionFailed = false ∧ Gen.FactsC01IR.rewriteIR σ e q = rewrite σ e q.path :=
  ⟨rfl, Mux.rewrite_regenerated_from_source σ e q⟩

/-- **`muxInstance.search`**: `Gen.FactsMuxIR.searchIR` is re-translated on every run from
the current body of `search` — both loops with their `continue`s, the `headerMismatch` / `methodMismatch`
flags, the three IP checks through the inlined local closure `allow`, the 400 / 405 / 404 tail. With the
cache lookup answering nil (always so with `cache == nil`, C01's setting) the route it returns is the
model's cache-less `search`, for all configurations, requests and oracles (`routeGo`: the Go route has
no rule / path indices). The cached half of the same generated definition is C12's. -/
theorem search_regenerated_from_source (o : Oracle) (c : Cfg) (q : Req) :
    Gen.FactsMuxIR.extractionFailed = false ∧
    (Gen.FactsMuxIR.searchIR o c q none).1 = MuxCache.routeGo (search o c q) := by
  refine ⟨rfl, ?_⟩
  rw [MuxCache.search_regenerated_from_source, MuxCache.searchMiss_fst]

/-- `allowIP` (nil filter allows; `none` would be a nil dereference). -/
theorem allowIP_regenerated_from_source (o : Oracle) (f : Option Nat) (ip : String) :
    Gen.FactsMuxIR.extractionFailed = false ∧ Gen.FactsMuxIR.allowIPIR o f ip = some (allowIP o f ip) :=
  ⟨rfl, MuxCache.allowIP_regenerated_from_source o f ip⟩

/-- **`Path.Validate`**: the hypothesis `PathValid` of `rewrite_total` / `serve_satisfies_spec` is no hand
transcription of `spec.go`: the body of `Path.Validate` is re-translated on every run and `PathValid e` is
exactly "`Validate` returns no error" (`PathRegexp` non-empty ⇔ `pathRE` compiled). -/
theorem pathValidate_regenerated_from_source (e : PathEntry) :
    Gen.FactsC01IR.extractionFailed = false ∧ (Gen.FactsC01IR.pathValidateIR e = false ↔ PathValid e) := by
  refine ⟨rfl, ?_⟩
  have hre : (Gen.FactsC01IR.reSrc e.pathRE == "") = e.pathRE.isNone := by cases e.pathRE <;> rfl
  simp [Gen.FactsC01IR.pathValidateIR, PathValid, hre]
  exact ⟨fun h hd a b c => hd (h a b c), fun h a b c => Decidable.by_contra fun hd => h hd a b c⟩

/-- non-vacuity of the X-Forwarded-For theorems: with `spec.XForwardedFor` the handler sees the appended
header; a second append of the same address changes nothing -/
example : serve oEx2 (fun _ p _ => p) cEx true ["b4"] { qEx with hdr := [("X-A", "2"), ("X-Forwarded-For", "9.9.9.9")] }
    = .handled "b4" "/r" "a:80" "9.9.9.9,1.2.3.4" := by decide +kernel
example : xffAfter "9.9.9.9" "1.2.3.4" ≠ "" ∧ xffAfter (xffAfter "9.9.9.9" "1.2.3.4") "1.2.3.4" = "9.9.9.9,1.2.3.4" := by decide +kernel

end EgVerif.C01
