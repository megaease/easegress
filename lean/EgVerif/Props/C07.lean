import EgVerif.Model.Payload
import EgVerif.Spec.Payload
import EgVerif.Gen.FactsC07
import EgVerif.Proofs.PayloadIR
import EgVerif.Model.ProxyE2E
/-!
# C07 — body limits: oversized requests get 413 unforwarded, big responses are withheld

Theorems about `Model.Payload` (line-by-line model of `Request/Response.FetchPayload`,
the limit selection and error mapping in `mux.serveHTTP` and `ServerPool.buildResponse`),
for **every** limit setting at both levels, **every** declared length and **every**
delivered length (no bound). `lim` is always the limit in force
(`Spec.limitInForce`: inner level unless 0, else outer level, else the default).
-/
namespace EgVerif.C07
open EgVerif.Payload

/-- The limit the code ends up using is the declarative "path, else server, else default". -/
theorem effective_limit (dflt inner outer : Int) :
    normLimit dflt (effLimit inner outer) = Spec.limitInForce dflt inner outer := by
  unfold normLimit effLimit Spec.limitInForce
  by_cases h1 : inner = 0 <;> by_cases h2 : outer = 0 <;> simp [h1, h2]

/-- Path level wins over server level whenever it is set (non-zero), whatever the server says. -/
theorem inner_level_wins (dflt inner outer : Int) (h : inner ≠ 0) :
    Spec.limitInForce dflt inner outer = inner := by
  simp [Spec.limitInForce, h]

theorem both_unset_default (dflt : Int) : Spec.limitInForce dflt 0 0 = dflt := by
  simp [Spec.limitInForce]

/-- **Central decision table**: for every limit and every source, `FetchPayload` behaves as
the size-based specification says. -/
theorem fetch_spec (dflt limit : Int) (s : Src) :
    Spec.fetchOK (normLimit dflt limit) s (fetch dflt limit s) = true := by
  generalize hl : normLimit dflt limit = lim
  unfold Spec.fetchOK
  by_cases h : lim < 0
  · simp [h, fetch_stream hl h]
  · rw [fetch_eq hl (Int.not_lt.mp h), if_neg h]
    cases Spec.isShort s
    · by_cases hb : lim < Spec.size s <;> simp [hb]
    · by_cases hb : lim < s.declared <;> simp [hb]

/-- A negative limit in force streams a body of any size (and any declared length). -/
theorem stream_any_size (dflt limit : Int) (s : Src) (h : normLimit dflt limit < 0) :
    fetch dflt limit s = .stream :=
  fetch_stream rfl h

/-- A body of exactly the limit passes intact, length-declared … -/
theorem exact_limit_ok_declared (dflt limit : Int) (n : Nat) (h : normLimit dflt limit = n) :
    fetch dflt limit ⟨n, n⟩ = .ok n := by
  simp [fetch_eq h (Int.natCast_nonneg n), Spec.isShort, Spec.size]

/-- … and chunked. -/
theorem exact_limit_ok_chunked (dflt limit : Int) (n : Nat) (h : normLimit dflt limit = n) :
    fetch dflt limit ⟨-1, n⟩ = .ok n := by
  simp [fetch_eq h (Int.natCast_nonneg n), Spec.isShort, Spec.size]

/-- One byte more than the limit is refused in both encodings. -/
theorem limit_plus_one_refused (dflt limit : Int) (n : Nat) (h : normLimit dflt limit = n) :
    fetch dflt limit ⟨(n + 1 : Nat), n + 1⟩ = .tooLarge ∧ fetch dflt limit ⟨-1, n + 1⟩ = .tooLarge := by
  constructor <;> simp [fetch_eq h (Int.natCast_nonneg n), Spec.isShort, Spec.size, Int.lt_succ]

/-! ### The mux: 413 / 400 are answered before the handler runs -/

/-- An oversized request (declared or chunked) is answered 413 and the handler — hence any
backend — never sees it. -/
theorem too_large_never_handled (dflt pathL serverL : Int) (s : Src)
    (hlim : 0 ≤ Spec.limitInForce dflt pathL serverL) (hshort : Spec.isShort s = false)
    (hbig : (Spec.size s : Int) > Spec.limitInForce dflt pathL serverL) :
    serve dflt pathL serverL s = ⟨413, false, .tooLarge⟩ := by
  simp [serve, fetch_eq (effective_limit dflt pathL serverL) hlim, hshort, hbig]

/-- A body shorter than its declared length is answered 400 (or 413 when the declared
length alone is over the limit), never handled. -/
theorem short_read_400 (dflt pathL serverL : Int) (s : Src)
    (hlim : 0 ≤ Spec.limitInForce dflt pathL serverL) (hshort : Spec.isShort s = true) :
    (serve dflt pathL serverL s).handled = false ∧
    ((serve dflt pathL serverL s).status = 400 ∨ (serve dflt pathL serverL s).status = 413) ∧
    (s.declared ≤ Spec.limitInForce dflt pathL serverL → (serve dflt pathL serverL s).status = 400) := by
  rw [serve, fetch_eq (effective_limit dflt pathL serverL) hlim, hshort, if_pos rfl]
  by_cases hb : Spec.limitInForce dflt pathL serverL < s.declared
  · simp [hb, Int.not_le.mpr hb]
  · simp [hb]

/-- A consistent body within the limit reaches the handler completely buffered. -/
theorem within_limit_handled (dflt pathL serverL : Int) (s : Src)
    (hlim : 0 ≤ Spec.limitInForce dflt pathL serverL) (hshort : Spec.isShort s = false)
    (hfit : (Spec.size s : Int) ≤ Spec.limitInForce dflt pathL serverL) :
    serve dflt pathL serverL s = ⟨0, true, .ok (Spec.size s)⟩ := by
  simp [serve, fetch_eq (effective_limit dflt pathL serverL) hlim, hshort, Int.not_lt.mpr hfit]

/-- With `-1` (any negative limit in force) every request is handled, as a stream. -/
theorem stream_always_handled (dflt pathL serverL : Int) (s : Src)
    (hlim : Spec.limitInForce dflt pathL serverL < 0) :
    serve dflt pathL serverL s = ⟨0, true, .stream⟩ := by
  rw [serve, fetch_stream (effective_limit dflt pathL serverL) hlim]

/-- The executable request-side specification used by the judge accepts the model. -/
theorem serve_meets_spec (dflt pathL serverL : Int) (s : Src) :
    Spec.requestOK (Spec.limitInForce dflt pathL serverL) s
      (serve dflt pathL serverL s).status (serve dflt pathL serverL s).handled = true := by
  have hl := effective_limit dflt pathL serverL
  generalize Spec.limitInForce dflt pathL serverL = lim at hl ⊢
  unfold Spec.requestOK
  by_cases h : lim < 0
  · simp [h, serve, fetch_stream hl h]
  · rw [serve, fetch_eq hl (Int.not_lt.mp h), if_neg h]
    cases Spec.isShort s
    · by_cases hb : lim < Spec.size s <;> simp [hb]
    · by_cases hb : lim < s.declared <;> simp [hb]

/-! ### The proxy: an oversized or short backend response is never delivered -/

theorem resp_too_large_is_5xx_not_delivered (dflt poolL proxyL : Int) (st : Nat) (s : Src)
    (hlim : 0 ≤ Spec.limitInForce dflt poolL proxyL) (hshort : Spec.isShort s = false)
    (hbig : (Spec.size s : Int) > Spec.limitInForce dflt poolL proxyL) :
    poolResp dflt poolL proxyL false st s = ⟨500, false, .tooLarge⟩ := by
  simp [poolResp, fetchResp_false, fetch_eq (effective_limit dflt poolL proxyL) hlim, hshort, hbig]

theorem resp_short_is_error (dflt poolL proxyL : Int) (st : Nat) (s : Src)
    (hlim : 0 ≤ Spec.limitInForce dflt poolL proxyL) (hshort : Spec.isShort s = true) :
    (poolResp dflt poolL proxyL false st s).status = 500 ∧
    (poolResp dflt poolL proxyL false st s).delivered = false := by
  rw [poolResp, fetchResp_false, fetch_eq (effective_limit dflt poolL proxyL) hlim, hshort, if_pos rfl]
  by_cases hb : Spec.limitInForce dflt poolL proxyL < s.declared <;> simp [hb]

theorem resp_within_delivered (dflt poolL proxyL : Int) (st : Nat) (s : Src)
    (hlim : 0 ≤ Spec.limitInForce dflt poolL proxyL) (hshort : Spec.isShort s = false)
    (hfit : (Spec.size s : Int) ≤ Spec.limitInForce dflt poolL proxyL) :
    poolResp dflt poolL proxyL false st s = ⟨st, true, .ok (Spec.size s)⟩ := by
  simp [poolResp, fetchResp_false, fetch_eq (effective_limit dflt poolL proxyL) hlim, hshort, Int.not_lt.mpr hfit]

/-- The reply to a HEAD request (declared length, no body) keeps the backend's status
whatever the limit (repaired code; the unrepaired code answered 500). -/
theorem head_reply_keeps_status (dflt poolL proxyL : Int) (st : Nat) (s : Src) :
    (poolResp dflt poolL proxyL true st s).status = st ∧
    (poolResp dflt poolL proxyL true st s).delivered = true := by
  unfold poolResp fetchResp
  by_cases hn : normLimit dflt (effLimit poolL proxyL) < 0 <;> simp [hn]

/-- The executable response-side specification used by the judge accepts the model. -/
theorem poolResp_meets_spec (dflt poolL proxyL : Int) (st : Nat) (s : Src) :
    Spec.responseOK (Spec.limitInForce dflt poolL proxyL) s st
      (poolResp dflt poolL proxyL false st s).status (poolResp dflt poolL proxyL false st s).delivered = true := by
  have hl := effective_limit dflt poolL proxyL
  generalize Spec.limitInForce dflt poolL proxyL = lim at hl ⊢
  unfold Spec.responseOK
  by_cases h : lim < 0
  · simp [h]
  · rw [poolResp, fetchResp_false, fetch_eq hl (Int.not_lt.mp h), if_neg h]
    cases Spec.isShort s
    · by_cases hb : lim < Spec.size s <;> simp [hb]
    · by_cases hb : lim < s.declared <;> simp [hb]

/-! ### Facts regenerated from the source on every run -/

/-- `DefaultMaxPayloadSize` is 4 MiB; `serveHTTP` calls `FetchPayload` before the handler and
leaves through `return` with 413 / 400 in the two error branches, and its write-out aborts the connection when
the copy of the response body fails; `buildResponse` returns the `FetchPayload` error and `doHandle` maps it to 500. -/
theorem facts_hold :
    Gen.FactsC07.extractionFailed = false ∧
    Gen.FactsC07.defaultMaxPayloadSize = 4194304 ∧
    Gen.FactsC07.muxTooLargeStatus = "http.StatusRequestEntityTooLarge" ∧
    Gen.FactsC07.muxOtherErrStatus = "http.StatusBadRequest" ∧
    Gen.FactsC07.muxErrBranchesReturn = true ∧
    Gen.FactsC07.muxFetchBeforeHandle = true ∧
    Gen.FactsC07.muxAbortsOnCopyError = true ∧
    Gen.FactsC07.poolFetchErrReturned = true ∧
    Gen.FactsC07.poolBuildErrStatus = "http.StatusInternalServerError" :=
  ⟨rfl, rfl, rfl, rfl, rfl, rfl, rfl, rfl, rfl⟩

/-! ### Regenerated tie by translation (notes/IR.md): the code itself, re-translated on every run

`Gen.FactsC07IR.*` are produced by `harness/factextract/facts_c07_ir.go` (go/ast → Lean) from the
*current* bodies of the four anchored mechanisms; the proofs are in `Proofs/PayloadIR.lean`. `error`
values are the enumeration `Payload.Err`, byte slices are known by length, the body reader is
stateful (`Payload.Rd`; contract of `io.ReadFull` / `io.ReadAll∘io.LimitReader` / `io.Copy` =
`readFull` / `readAllLimited` / `copyDiscard`, trusted and exercised by the `fetch` harness). -/

/-- `Request.FetchPayload` (request.go) = `fetch`, for every limit and every body source. -/
theorem fetchReq_regenerated_from_source (dflt limit : Int) (s : Src) :
    Gen.FactsC07IR.extractionFailed = false ∧
    toOutcome (Gen.FactsC07IR.fetchReqIR dflt limit false s) = some (fetch dflt limit s) :=
  ⟨rfl, Payload.fetchReq_regenerated_from_source dflt limit s⟩

/-- `Response.FetchPayload` (response.go) = `fetchResp`; `m` = method of the answered request. -/
theorem fetchResp_regenerated_from_source (dflt limit : Int) (m : Option String) (s : Src) :
    Gen.FactsC07IR.extractionFailed = false ∧
    toOutcome (Gen.FactsC07IR.fetchRespIR dflt limit m false s) = some (fetchResp dflt limit (m == some "HEAD") s) :=
  ⟨rfl, Payload.fetchResp_regenerated_from_source dflt limit m s⟩

/-- mux.go: limit selection, 413 / 400 mapping, `return` before the handler = `serve`. -/
theorem serve_regenerated_from_source (dflt pathL serverL : Int) (gf : Option Unit) (s : Src) :
    Gen.FactsC07IR.extractionFailed = false ∧
    (Gen.FactsC07IR.serveIR dflt pathL serverL gf false s).1 = (serve dflt pathL serverL s).status ∧
    (Gen.FactsC07IR.serveIR dflt pathL serverL gf false s).2.1 = (serve dflt pathL serverL s).handled ∧
    ((serve dflt pathL serverL s).handled = true →
      toOutcome ((Gen.FactsC07IR.serveIR dflt pathL serverL gf false s).2.2, .nil) = some (serve dflt pathL serverL s).payload) :=
  ⟨rfl, Payload.serve_regenerated_from_source dflt pathL serverL gf s⟩

/-- pool.go `buildResponse`: limit selection, error returned ⇔ not delivered (`spCtx.resp` stays nil ⇒ 500). -/
theorem buildResp_regenerated_from_source (dflt poolL proxyL : Int) (m : Option String) (err0 : Err)
    (st : Nat) (s : Src) :
    Gen.FactsC07IR.extractionFailed = false ∧
    (let r := Gen.FactsC07IR.buildRespIR dflt poolL proxyL m err0 false s
     let w := poolResp dflt poolL proxyL (m == some "HEAD") st s
     (r.1 = .nil ↔ w.delivered = true) ∧ r.2.1 = r.2.2 ∧
     (w.delivered = false → r.2.1 = none ∧ w.status = 500) ∧
     (w.delivered = true → w.status = st ∧ ∃ p, r.2.1 = some p ∧ toOutcome (p, .nil) = some w.payload)) :=
  ⟨rfl, Payload.buildResp_regenerated_from_source dflt poolL proxyL m err0 st s⟩

/-- non-vacuity: the translated code on concrete sources (11 chunked bytes against limit 10; a short body). -/
example : Gen.FactsC07IR.fetchReqIR 4194304 10 false ⟨-1, 11⟩ = (.bytes 10, .tooLarge) ∧
    Gen.FactsC07IR.fetchReqIR 4194304 10 false ⟨8, 5⟩ = (.bytes 5, .unexpectedEOF) ∧
    Gen.FactsC07IR.fetchReqIR 4194304 10 false ⟨8, 0⟩ = (.bytes 0, .unexpectedEOF) ∧
    Gen.FactsC07IR.fetchRespIR 4194304 0 (some "HEAD") false ⟨100, 0⟩ = (.bytes 0, .nil) ∧
    Gen.FactsC07IR.serveIR 4194304 10 1000 none false ⟨-1, 11⟩ = (413, false, .unset) ∧
    Gen.FactsC07IR.serveIR 4194304 0 (-1) (some ()) false ⟨-1, 11⟩ = (0, true, .stream) := by decide +kernel

/-! ### Limit selection at all four levels, `-1` at each level -/

/-- The complete table of the two-level selection (path/server for requests, pool/proxy for responses):
a negative inner level streams whatever the outer level says; a positive inner level is the limit even when
the outer level says `-1`; an unset inner level defers to the outer one — which may be `-1` (stream) —
and both unset give the default. -/
theorem limit_levels (dflt inner outer : Int) :
    (inner < 0 → Spec.limitInForce dflt inner outer = inner) ∧
    (inner > 0 → Spec.limitInForce dflt inner outer = inner) ∧
    (inner = 0 → outer ≠ 0 → Spec.limitInForce dflt inner outer = outer) ∧
    (inner = 0 → outer = 0 → Spec.limitInForce dflt inner outer = dflt) := by
  refine ⟨fun h => inner_level_wins dflt inner outer (Int.ne_of_lt h),
    fun h => inner_level_wins dflt inner outer (Int.ne_of_gt h), ?_, ?_⟩
  · rintro rfl h
    simp [Spec.limitInForce, h]
  · rintro rfl rfl
    exact both_unset_default dflt

/-- `-1` at each of the four levels, on the `serve` / `poolResp` models: (1) path `-1` streams over any
server value; (2) path unset, server `-1` streams; (3) a positive path limit is enforced although the server
says `-1`; (4)–(6) the same for pool / proxy. -/
theorem minus_one_at_each_level (dflt : Int) (outer : Int) (n : Nat) (st : Nat) (s : Src) (hn : 0 < n) :
    serve dflt (-1) outer s = ⟨0, true, .stream⟩ ∧
    serve dflt 0 (-1) s = ⟨0, true, .stream⟩ ∧
    serve dflt n (-1) ⟨-1, n + 1⟩ = ⟨413, false, .tooLarge⟩ ∧
    poolResp dflt (-1) outer false st s = ⟨st, true, .stream⟩ ∧
    poolResp dflt 0 (-1) false st s = ⟨st, true, .stream⟩ ∧
    poolResp dflt n (-1) false st ⟨-1, n + 1⟩ = ⟨500, false, .tooLarge⟩ := by
  have h1 : Spec.limitInForce dflt (-1) outer < 0 := by simp [Spec.limitInForce]
  have h2 : Spec.limitInForce dflt 0 (-1) < 0 := by simp [Spec.limitInForce]
  have h3 : Spec.limitInForce dflt (n : Int) (-1) = n := inner_level_wins dflt n (-1) (by omega)
  have h0 : 0 ≤ Spec.limitInForce dflt (n : Int) (-1) := by omega
  have hbig : (Spec.size ⟨-1, n + 1⟩ : Int) > Spec.limitInForce dflt (n : Int) (-1) := by
    simp [h3, Spec.size, Int.lt_succ]
  exact ⟨stream_always_handled _ _ _ _ h1, stream_always_handled _ _ _ _ h2,
    too_large_never_handled _ _ _ _ h0 rfl hbig,
    by simp [poolResp, fetchResp, effective_limit, h1], by simp [poolResp, fetchResp, effective_limit, h2],
    resp_too_large_is_5xx_not_delivered _ _ _ _ _ h0 rfl hbig⟩

/-- The request-side limits never touch the response and vice versa: `prepare` (mux + RequestAdaptor +
prepareRequest) is independent of pool / proxy limits, `proxyResp` (transport + buildResponse) of path / server
limits. (By construction of the model, not counted as an obligation: on the code side `serveIR` has no pool / proxy
parameter and `buildRespIR` no path / server parameter at all.) -/
example {β : Type} (ops : Proxy.BodyOps β) (canon : String → String) (cfg : Proxy.Cfg)
    (q : Proxy.ClientReq β) (x y : Int) (method : String) (outHdr : Proxy.Hdr) (reply : Proxy.BackendReply β) :
    Proxy.prepare ops canon { cfg with poolMax := x, proxyMax := y } q = Proxy.prepare ops canon cfg q ∧
    Proxy.proxyResp ops { cfg with pathMax := x, serverMax := y } method outHdr reply =
      Proxy.proxyResp ops cfg method outHdr reply := ⟨rfl, rfl⟩

/-! ### Lying Content-Length -/

/-- A body *longer* than it declares (within the limit): exactly the declared bytes are taken, never more,
and it is not an error (net/http cuts the rest off). -/
theorem lying_long_reads_declared (dflt limit : Int) (d a : Nat) (hd : 0 < d) (hda : d ≤ a)
    (hl : (d : Int) ≤ normLimit dflt limit) :
    fetch dflt limit ⟨d, a⟩ = .ok d := by
  have h0 : 0 ≤ normLimit dflt limit := by omega
  simp [fetch_eq rfl h0, Spec.isShort, Spec.size, Nat.not_lt.mpr hda, Int.not_lt.mpr hl]

/-- A declared length over the limit is refused **without reading a single byte** whatever the body
really contains — shown on the re-translated `FetchPayload`s themselves: no payload was installed
(`Pay.unset`), i.e. neither `io.ReadFull` nor `io.ReadAll` ran. -/
theorem declared_over_limit_refused_unread (dflt limit : Int) (d : Int) (a : Nat) (m : Option String) (failing : Bool)
    (h0 : 0 ≤ normLimit dflt limit) (hd : d > normLimit dflt limit) (hm : (m == some "HEAD") = false) :
    Gen.FactsC07IR.fetchReqIR dflt limit failing ⟨d, a⟩ = (.unset, .tooLarge) ∧
    Gen.FactsC07IR.fetchRespIR dflt limit m failing ⟨d, a⟩ = (.unset, .tooLarge) := by
  have hreq := fetchReqIR_declared_over (failing := failing) (s := ⟨d, a⟩) h0 hd
  refine ⟨hreq, ?_⟩
  rw [fetchRespIR_eq, if_neg (Int.not_lt.mpr h0), hm, if_neg Bool.false_ne_true, hreq]

/-- A declared length *shorter* … and one *longer* than what arrives, both directions, in one table: short ⇒
never handled / never delivered; long ⇒ exactly the declared bytes. -/
theorem lying_content_length_table (dflt pathL serverL poolL proxyL : Int) (d a st : Nat) (hd : 0 < d)
    (hq : (d : Int) ≤ Spec.limitInForce dflt pathL serverL) (hr : (d : Int) ≤ Spec.limitInForce dflt poolL proxyL) :
    (a < d → (serve dflt pathL serverL ⟨d, a⟩).handled = false ∧ (serve dflt pathL serverL ⟨d, a⟩).status = 400) ∧
    (a < d → (poolResp dflt poolL proxyL false st ⟨d, a⟩).delivered = false ∧
             (poolResp dflt poolL proxyL false st ⟨d, a⟩).status = 500) ∧
    (d ≤ a → serve dflt pathL serverL ⟨d, a⟩ = ⟨0, true, .ok d⟩) ∧
    (d ≤ a → poolResp dflt poolL proxyL false st ⟨d, a⟩ = ⟨st, true, .ok d⟩) := by
  have hq0 : 0 ≤ Spec.limitInForce dflt pathL serverL := by omega
  have hr0 : 0 ≤ Spec.limitInForce dflt poolL proxyL := by omega
  refine ⟨fun ha => ?_, fun ha => ?_, fun ha => ?_, fun ha => ?_⟩
  · obtain ⟨h1, _, h3⟩ := short_read_400 dflt pathL serverL ⟨d, a⟩ hq0 (by simp [Spec.isShort, ha])
    exact ⟨h1, h3 hq⟩
  · obtain ⟨h1, h2⟩ := resp_short_is_error dflt poolL proxyL st ⟨d, a⟩ hr0 (by simp [Spec.isShort, ha])
    exact ⟨h2, h1⟩
  · rw [serve, lying_long_reads_declared dflt _ d a hd ha ((effective_limit dflt pathL serverL).symm ▸ hq)]
  · rw [poolResp, fetchResp_false, lying_long_reads_declared dflt _ d a hd ha ((effective_limit dflt poolL proxyL).symm ▸ hr)]

/-! ### A body reader that fails instead of ending (short backend body behind the gzip compressor) -/

/-- Behind the Proxy's `compression:` the declared length is hidden from `FetchPayload`; the short read must
surface as the reader's error. Whatever the limit (≥ 0) and however many bytes came before the failure, the
outcome is an error — never `ok`: the response is not delivered (⇒ 500, `poolResp`'s error mapping). -/
theorem failing_reader_never_delivered (dflt limit : Int) (actual : Nat) (h : 0 ≤ normLimit dflt limit) :
    fetchFailing dflt limit actual = .shortRead ∨ fetchFailing dflt limit actual = .tooLarge := by
  simp only [fetchFailing, Int.not_lt.mpr h, if_false]
  split
  · exact .inl rfl
  · exact .inr rfl

example : fetchFailing 4194304 0 10 = .shortRead ∧ fetchFailing 4194304 5 10 = .tooLarge ∧
    fetchFailing 4194304 (-1) 10 = .stream := by decide +kernel

example : serve 4194304 (-1) 5 ⟨-1, 99⟩ = ⟨0, true, .stream⟩ ∧ serve 4194304 0 (-1) ⟨7, 7⟩ = ⟨0, true, .stream⟩ ∧
    serve 4194304 3 (-1) ⟨-1, 4⟩ = ⟨413, false, .tooLarge⟩ ∧
    Gen.FactsC07IR.fetchReqIR 4194304 3 false ⟨9, 2⟩ = (.unset, .tooLarge) ∧ fetch 4194304 10 ⟨4, 9⟩ = .ok 4 := by decide +kernel

/-! ### The reader oracle with failing readers: `fetchFailing` tied to the code -/

/-- Both `FetchPayload`s for either kind of body reader (ending with `io.EOF`, or failing with
`io.ErrUnexpectedEOF` after `actual` bytes) are the model's `fetchRd`. -/
theorem fetchRd_regenerated_from_source (dflt limit : Int) (m : Option String) (failing : Bool) (s : Src) :
    Gen.FactsC07IR.extractionFailed = false ∧
    toOutcome (Gen.FactsC07IR.fetchReqIR dflt limit failing s) = some (fetchRd dflt limit failing s) ∧
    toOutcome (Gen.FactsC07IR.fetchRespIR dflt limit m failing s) =
      some (if normLimit dflt limit < 0 then .stream else if (m == some "HEAD") then .ok 0 else fetchRd dflt limit failing s) :=
  ⟨rfl, Payload.fetchReqRd_regenerated_from_source dflt limit failing s,
    Payload.fetchRespRd_regenerated_from_source dflt limit m failing s⟩

/-- **`fetchFailing` is the translated `Response.FetchPayload` on a failing reader of hidden length** (what sits
behind the Proxy's gzip compressor or the transparent gunzip when the backend's body is short): with
`failing_reader_never_delivered`, such a response is never a success in buffered mode — a statement about
response.go, not about a hand-written function. -/
theorem fetchFailing_regenerated_from_source (dflt limit : Int) (m : Option String) (a : Nat)
    (hm : (m == some "HEAD") = false) :
    Gen.FactsC07IR.extractionFailed = false ∧
    toOutcome (Gen.FactsC07IR.fetchRespIR dflt limit m true ⟨-1, a⟩) = some (fetchFailing dflt limit a) :=
  ⟨rfl, Payload.fetchFailing_regenerated_from_source dflt limit m a hm⟩

/-! ### Stream mode: a short body is a visibly aborted transfer, never a clean success -/

section stream
open EgVerif.Proxy
variable {β : Type} (ops : BodyOps β)

/-- When the reader the mux copies the response from fails, in the specification's words: stream mode, not the reply
to a HEAD request, and the body is short (`Spec.isShort` makes the same two tests as `transportFails`) or the
transparent gunzip cannot decode it. -/
theorem bodyReaderFails_eq (cfg : Cfg) (method : String) (outHdr : Hdr) (reply : BackendReply β) :
    bodyReaderFails ops cfg method outHdr reply =
      (decide (Spec.limitInForce cfg.dflt cfg.poolMax cfg.proxyMax < 0) && (!(method == "HEAD") &&
        (Spec.isShort ⟨reply.cl, ops.len reply.body⟩ ||
          (gunzipApplies method outHdr reply && (ops.ungz reply.body).isNone)))) := by
  rw [bodyReaderFails, effective_limit]
  rfl

/-- **Stream mode, short backend body ⇒ the client's transfer is aborted** (the mux's copy of the response body
fails and it aborts the connection instead of ending the message — `fixes/C07-stream-abort.patch`, fact
`muxAbortsOnCopyError`): for every limit setting with a negative limit in force, every non-HEAD request that
reaches the Proxy, with or without `compression:` / the transparent gunzip in between, as long as no downstream
filter replaces the body. The status line may be out already; what the clause can and does guarantee is that
the client never sees a complete, clean message. -/
theorem stream_short_body_aborted (canon : String → String) (cfg : Cfg) (q : ClientReq β) (reply : BackendReply β)
    (m : ReqMsg β) (seen : BackendSeen β) (hp : prepare ops canon cfg q = .ready m seen)
    (hs : Spec.limitInForce cfg.dflt cfg.poolMax cfg.proxyMax < 0)
    (hhead : (q.method == "HEAD") = false)
    (hshort : Spec.isShort ⟨reply.cl, ops.len reply.body⟩ = true)
    (had : ∀ a, cfg.respAd = some a → a.body = "") :
    clientAborted ops canon cfg q reply = true := by
  have hd : (downstream cfg).all (fun a => a.body == "") = true := by
    unfold downstream
    cases hra : cfg.respAd with
    | none => rfl
    | some a => simp [had a hra]
  unfold clientAborted
  rw [hp]
  simp only
  rw [bodyReaderFails_eq, decide_eq_true hs, hhead, hshort, hd]
  rfl

/-- Conversely nothing is ever aborted in buffered mode (a short body is an error *status* there:
`resp_short_is_error`), nor in stream mode for an honest backend whose gzip (if the transport un-gzips it) decodes. -/
theorem not_aborted_when_buffered_or_honest (canon : String → String) (cfg : Cfg) (q : ClientReq β) (reply : BackendReply β)
    (h : 0 ≤ Spec.limitInForce cfg.dflt cfg.poolMax cfg.proxyMax ∨
         (Spec.isShort ⟨reply.cl, ops.len reply.body⟩ = false ∧ (ops.ungz reply.body).isSome = true)) :
    clientAborted ops canon cfg q reply = false := by
  unfold clientAborted
  cases hp : prepare ops canon cfg q with
  | early st | adaptorFailed => rfl
  | ready m seen =>
    simp only
    rw [bodyReaderFails_eq]
    rcases h with h | ⟨h1, h2⟩
    · rw [decide_eq_false (Int.not_lt.mpr h)]
      rfl
    · rw [h1, ← Option.not_isSome, h2]
      simp

/-! ### The e2e judge's executable specification accepts the model (`run`) -/

/-- Request direction: what `run` does with a request (answered by the mux itself / handed to the backend) meets
`Spec.requestOK` for the limit in force — the judge evaluates the same predicate on the observed status and
"backend contacted". (No RequestAdaptor, as in the C07 scenarios.) -/
theorem run_meets_requestOK (canon : String → String) (cfg : Cfg) (q : ClientReq β) (reply : BackendReply β)
    (hra : cfg.reqAd = none) :
    Spec.requestOK (Spec.limitInForce cfg.dflt cfg.pathMax cfg.serverMax) ⟨q.declared, ops.len q.body⟩
      (match run ops canon cfg q reply with | .early st => st | _ => 0)
      (match run ops canon cfg q reply with | .proxied _ _ _ => true | _ => false) = true := by
  have hspec := serve_meets_spec cfg.dflt cfg.pathMax cfg.serverMax ⟨q.declared, ops.len q.body⟩
  unfold run prepare
  simp only [hra]
  cases hh : (serve cfg.dflt cfg.pathMax cfg.serverMax ⟨q.declared, ops.len q.body⟩).handled
  · rw [hh] at hspec
    exact hspec
  · -- what the mux hands on it has not answered itself
    have hst : (serve cfg.dflt cfg.pathMax cfg.serverMax ⟨q.declared, ops.len q.body⟩).status = 0 := by
      unfold serve at hh ⊢
      split <;> simp_all
    rw [hh, hst] at hspec
    simp only [Bool.not_true, Bool.false_eq_true, if_false]
    cases hpr : proxyResp ops cfg q.method _ reply <;> simpa [hpr] using hspec

/-- Without `compression:` and without the transparent gunzip, `proxyResp` is `FetchPayload` on the backend's
reply as it is. -/
theorem proxyResp_plain (cfg : Cfg) (method : String) (outHdr : Hdr) (reply : BackendReply β)
    (hhead : (method == "HEAD") = false) (hc : cfg.compression = none) (hg : gunzipApplies method outHdr reply = false) :
    proxyResp ops cfg method outHdr reply =
      fetchPayload ops cfg.dflt (effLimit cfg.poolMax cfg.proxyMax) false ⟨reply.status, reply.hdr, reply.cl, .stream reply.body⟩ := by
  have ht : transportReply ops method outHdr reply = ⟨reply.status, reply.hdr, reply.cl, .stream reply.body⟩ := by
    simp [transportReply, hhead, hg]
  unfold proxyResp fetchOrFail compressed
  simp only [hc, ht, hhead]
  have : (transportFails ops method outHdr reply && decide (reply.cl < (0 : Int))) = false := by
    rcases Int.lt_or_le reply.cl 0 with h | h
    · simp [transportFails, hg, Int.not_le.mpr h]
    · simp [Int.not_lt.mpr h]
  simp [this]

/-- In the judge's response scenarios (no compression, no ResponseAdaptor, non-HEAD, no transparent gunzip) a proxied
run answers what `poolResp` says for the backend's reply as it is. -/
theorem run_proxied_plain (canon : String → String) (cfg : Cfg) (q : ClientReq β) (reply : BackendReply β)
    (seen : BackendSeen β) (cl : Resp β) (ok : Bool)
    (hhead : (q.method == "HEAD") = false) (hc : cfg.compression = none) (hra : cfg.respAd = none)
    (hg : gunzipApplies q.method seen.hdr reply = false)
    (hr : run ops canon cfg q reply = .proxied seen cl ok) :
    (∃ m, prepare ops canon cfg q = .ready m seen) ∧
    cl.status = (poolResp cfg.dflt cfg.poolMax cfg.proxyMax false reply.status ⟨reply.cl, ops.len reply.body⟩).status ∧
    ok = (poolResp cfg.dflt cfg.poolMax cfg.proxyMax false reply.status ⟨reply.cl, ops.len reply.body⟩).delivered := by
  unfold run at hr
  cases hp : prepare ops canon cfg q with
  | early st | adaptorFailed =>
    rw [hp] at hr
    cases hr
  | ready m s =>
    rw [hp] at hr
    simp only [] at hr
    have hseen : s = seen := by
      split at hr <;> exact (Result.proxied.inj hr).1
    subst hseen
    have hd : downstream cfg = [] := by rw [downstream, hra]
    rw [proxyResp_plain ops cfg q.method s.hdr reply hhead hc hg, fetchPayload, hd] at hr
    rw [poolResp]
    simp only [Pl.content] at hr
    generalize fetchResp cfg.dflt (effLimit cfg.poolMax cfg.proxyMax) false ⟨reply.cl, ops.len reply.body⟩ = o at hr ⊢
    cases o <;> obtain ⟨_, rfl, rfl⟩ := Result.proxied.inj hr <;> exact ⟨⟨m, rfl⟩, rfl, rfl⟩

/-- Response direction, buffered mode: status and "delivered" of `run` meet `Spec.responseOK` for the limit in force
(the scenarios of the judge: no compression, no adaptors, non-HEAD, no transparent gunzip). -/
theorem run_meets_responseOK (canon : String → String) (cfg : Cfg) (q : ClientReq β) (reply : BackendReply β)
    (seen : BackendSeen β) (cl : Resp β) (ok : Bool)
    (hhead : (q.method == "HEAD") = false) (hc : cfg.compression = none) (hra : cfg.respAd = none)
    (hg : gunzipApplies q.method seen.hdr reply = false)
    (hr : run ops canon cfg q reply = .proxied seen cl ok) :
    Spec.responseOK (Spec.limitInForce cfg.dflt cfg.poolMax cfg.proxyMax) ⟨reply.cl, ops.len reply.body⟩
      reply.status cl.status ok = true := by
  obtain ⟨_, h1, h2⟩ := run_proxied_plain ops canon cfg q reply seen cl ok hhead hc hra hg hr
  rw [h1, h2]
  exact poolResp_meets_spec _ _ _ _ _

/-- Response direction, **stream mode**: `run` + `clientAborted` meet `Spec.streamResponseOK` — a short body is an
aborted transfer, an honest one arrives complete with the backend's status (same scenario class). This is the
statement `Spec.responseOK` is silent about (`lim < 0 ⇒ true`). -/
theorem run_meets_streamResponseOK (canon : String → String) (cfg : Cfg) (q : ClientReq β) (reply : BackendReply β)
    (seen : BackendSeen β) (cl : Resp β) (ok : Bool)
    (hs : Spec.limitInForce cfg.dflt cfg.poolMax cfg.proxyMax < 0)
    (hhead : (q.method == "HEAD") = false) (hc : cfg.compression = none) (hra : cfg.respAd = none)
    (hg : gunzipApplies q.method seen.hdr reply = false)
    (hr : run ops canon cfg q reply = .proxied seen cl ok) :
    Spec.streamResponseOK ⟨reply.cl, ops.len reply.body⟩ reply.status cl.status (clientAborted ops canon cfg q reply) = true := by
  obtain ⟨⟨m, hp⟩, h1, _⟩ := run_proxied_plain ops canon cfg q reply seen cl ok hhead hc hra hg hr
  -- nothing downstream replaces the body, so the client sees the transport's reader: it fails iff the body is short
  have hab : clientAborted ops canon cfg q reply = Spec.isShort ⟨reply.cl, ops.len reply.body⟩ := by
    unfold clientAborted
    rw [hp]
    simp only
    rw [bodyReaderFails_eq, decide_eq_true hs, hhead, hg, downstream, hra]
    simp
  rw [h1, hab, Spec.streamResponseOK]
  cases Spec.isShort ⟨reply.cl, ops.len reply.body⟩ <;> simp [poolResp, fetchResp, effective_limit, hs]

end stream

/-! ### `effective_limit` over update histories -/

/-- Histories compose: what happens after a prefix depends on the prefix only through the spec it leaves in force. -/
theorem muxHistory_append (dflt : Int) (cur : Int × Int) (pre ops : List MuxOp) :
    muxHistory dflt cur (pre ++ ops) = muxHistory dflt cur pre ++ muxHistory dflt (specAfter cur pre) ops := by
  induction pre generalizing cur with
  | nil => rfl
  | cons o t ih =>
    cases o with
    | reload p s =>
      simp only [List.cons_append, muxHistory, specAfter]
      exact ih (p, s)
    | request x => simp only [List.cons_append, muxHistory, specAfter, ih cur, List.cons_append]

/-- **The limit applied to a request is the one of the spec in force when it arrives** — whatever updates came
before (only the server level changed, nothing changed, rules changed too, any number of them), the request right
after a history `pre` is served with `Spec.limitInForce` of the *latest* spec: over the limit ⇒ 413 unhandled, within
⇒ handled, negative ⇒ streamed. -/
theorem effective_limit_over_reload_histories (dflt : Int) (init : Int × Int) (pre : List MuxOp) (x : Src) (rest : List MuxOp) :
    (muxHistory dflt init (pre ++ .request x :: rest))[(muxHistory dflt init pre).length]? =
      some (serve dflt (specAfter init pre).1 (specAfter init pre).2 x) ∧
    Spec.requestOK (Spec.limitInForce dflt (specAfter init pre).1 (specAfter init pre).2) x
      (serve dflt (specAfter init pre).1 (specAfter init pre).2 x).status
      (serve dflt (specAfter init pre).1 (specAfter init pre).2 x).handled = true := by
  refine ⟨?_, serve_meets_spec _ _ _ _⟩
  rw [muxHistory_append]
  simp [muxHistory]

/-- In particular an update of the server level alone takes effect for the very next request. -/
theorem server_level_update_takes_effect (dflt : Int) (init : Int × Int) (pre : List MuxOp) (pathL serverL : Int) (x : Src) :
    muxHistory dflt init (pre ++ [.reload pathL serverL, .request x]) =
      muxHistory dflt init pre ++ [serve dflt pathL serverL x] := by
  rw [muxHistory_append]
  rfl

/-- Facts behind "the limits are read from the current spec at request time": the only place that writes a path's
`clientMaxBodySize` is `newMuxPath` (from the path's own spec value), `reload` builds every path through it and
publishes an instance carrying the new spec (`spec: spec`); the read side is `serve_regenerated_from_source`
(`route.path.clientMaxBodySize`, then `mi.spec.ClientMaxBodySize`). -/
theorem reload_facts :
    Gen.FactsC07.pathLimitWrittenOnlyByNewMuxPath = true ∧ Gen.FactsC07.reloadPublishesNewSpec = true := ⟨rfl, rfl⟩

/-- The seeded defect C07-m4 in the model: limit 64 → 16 by an update that leaves the rules alone; a 17-byte body
is refused by the code (413) but accepted with the stale table; 16 → -1: a 100 000-byte body streams, but is
refused with the stale table. -/
example :
    muxHistory 4194304 (0, 64) [.reload 0 16, .request ⟨17, 17⟩] = [⟨413, false, .tooLarge⟩] ∧
    muxHistoryStale 4194304 64 [(false, .reload 0 16), (false, .request ⟨17, 17⟩)] = [⟨0, true, .ok 17⟩] ∧
    muxHistory 4194304 (0, 16) [.reload 0 (-1), .request ⟨-1, 100000⟩] = [⟨0, true, .stream⟩] ∧
    muxHistoryStale 4194304 16 [(false, .reload 0 (-1)), (false, .request ⟨-1, 100000⟩)] = [⟨413, false, .tooLarge⟩] := by
  decide +kernel

/-! ### The int64 boundary: no overflow in either `FetchPayload` -/

/-- The model computes in unbounded `Int`; the Go code in `int64`. They agree because **neither `FetchPayload` does any
arithmetic**: the regenerated list of every `+ - * / % << >> & | ^`, unary minus, `++`/`--` and op-assignment in both
bodies is empty — the limit is only compared, converted between 64-bit integer types (`int(maxPayloadSize)`) and handed
to `io.LimitReader`; in particular no `limit + 1` exists that could wrap at `math.MaxInt64`. (The translated bodies
`fetchReqIR` / `fetchRespIR` contain no Int arithmetic either: the only sums are the `Nat` counters of consumed bytes.) -/
theorem fetch_no_int64_arithmetic : Gen.FactsC07.fetchArithmetic = [] := rfl

/-- A chunked body and an honestly declared one of `a` bytes pass intact through the re-translated code under any
limit in force `lim ≥ a`. -/
theorem within_limit_passes_intact {dflt limit lim : Int} (hl : normLimit dflt limit = lim) (a : Nat) (m : Option String)
    (ha : (a : Int) ≤ lim) (hm : (m == some "HEAD") = false) :
    toOutcome (Gen.FactsC07IR.fetchReqIR dflt limit false ⟨-1, a⟩) = some (.ok a) ∧
    toOutcome (Gen.FactsC07IR.fetchReqIR dflt limit false ⟨a, a⟩) = some (.ok a) ∧
    toOutcome (Gen.FactsC07IR.fetchRespIR dflt limit m false ⟨-1, a⟩) = some (.ok a) := by
  have h0 : 0 ≤ lim := by omega
  have hc : fetch dflt limit ⟨-1, a⟩ = .ok a := by simp [fetch_eq hl h0, Spec.isShort, Spec.size, Int.not_lt.mpr ha]
  have hd : fetch dflt limit ⟨a, a⟩ = .ok a := by simp [fetch_eq hl h0, Spec.isShort, Spec.size, Int.not_lt.mpr ha]
  refine ⟨?_, ?_, ?_⟩
  · rw [Payload.fetchReq_regenerated_from_source, hc]
  · rw [Payload.fetchReq_regenerated_from_source, hd]
  · rw [Payload.fetchResp_regenerated_from_source, hm, fetchResp_false, hc]

/-- … so the boundary behaves like any other limit, on the re-translated code itself: with `clientMaxBodySize` (or
`serverMaxBodySize`) of `math.MaxInt64` or `math.MaxInt64 - 1`, a chunked body of any size that fits and a declared one
pass intact, buffered — not "accepted with an empty payload". -/
theorem int64_boundary_limit_passes_intact (dflt : Int) (k : Nat) (hk : k ≤ 1) (a : Nat) (m : Option String)
    (ha : (a : Int) ≤ 9223372036854775807 - k) (hm : (m == some "HEAD") = false) :
    toOutcome (Gen.FactsC07IR.fetchReqIR dflt (9223372036854775807 - k) false ⟨-1, a⟩) = some (.ok a) ∧
    toOutcome (Gen.FactsC07IR.fetchReqIR dflt (9223372036854775807 - k) false ⟨a, a⟩) = some (.ok a) ∧
    toOutcome (Gen.FactsC07IR.fetchRespIR dflt (9223372036854775807 - k) m false ⟨-1, a⟩) = some (.ok a) := by
  have hne : (9223372036854775807 - (k : Int)) ≠ 0 := by omega
  exact within_limit_passes_intact (by simp [normLimit, hne]) a m ha hm

/-- non-vacuity / the seeded defect C07-m5 in numbers: at limit MaxInt64 a 100-byte chunked body is `ok 100`; a reader
limited to `MaxInt64 + 1` wrapped to `-2^63` would deliver nothing. -/
example : fetch 4194304 9223372036854775807 ⟨-1, 100⟩ = .ok 100 ∧
    (readAllLimited (⟨⟨-1, 100⟩, 0, false⟩, (-9223372036854775808 : Int))).1 = 0 := by decide +kernel

/-! ### Non-vacuity -/

private def exOpsS : Proxy.BodyOps (List Nat) :=
  ⟨List.length, fun b => 31 :: b, fun b => match b with | 31 :: t => some t | _ => none,
   fun s => s.toList.map Char.toNat, List.take, []⟩
private def exCfgS (proxyMax : Int) : Proxy.Cfg :=
  ⟨⟨"http://127.0.0.1:9", "127.0.0.1:9", false, false⟩, some 1, 4096, 50, 0, proxyMax, none, none, 4194304, {}, fun _ p _ => p, id⟩
private def exQS : Proxy.ClientReq (List Nat) := ⟨"PATCH", "/upload", "", "", "client.example", [], 3, [7, 7, 7]⟩
private def exReplyS : Proxy.BackendReply (List Nat) := ⟨200, [("Content-Length", ["101"])], 101, [5]⟩

/-- stream mode, a backend that declares 101 bytes and sends 1, compression on: the model says "aborted"; the same
reply in buffered mode is an error status instead (the replay input of fixes/C07-stream-abort.md). -/
example :
    Proxy.clientAborted exOpsS id (exCfgS (-1)) exQS exReplyS = true ∧ Proxy.clientAborted exOpsS id (exCfgS 0) exQS exReplyS = false ∧
    (match Proxy.run exOpsS id (exCfgS 0) exQS exReplyS with | .proxied _ cl ok => (cl.status, ok) | _ => (0, true)) = (500, false) :=
  by decide +kernel

/-- limit 10 at path level, 1000 at server level: 10 bytes pass, 11 chunked bytes get 413. -/
example : serve 4194304 10 1000 ⟨10, 10⟩ = ⟨0, true, .ok 10⟩ ∧
    serve 4194304 10 1000 ⟨-1, 11⟩ = ⟨413, false, .tooLarge⟩ ∧
    serve 4194304 0 0 ⟨-1, 4194304⟩ = ⟨0, true, .ok 4194304⟩ ∧
    serve 4194304 (-1) 5 ⟨-1, 99⟩ = ⟨0, true, .stream⟩ ∧
    serve 4194304 10 0 ⟨8, 5⟩ = ⟨400, false, .shortRead⟩ := by decide +kernel

example : poolResp 4194304 0 10 false 200 ⟨-1, 11⟩ = ⟨500, false, .tooLarge⟩ ∧
    poolResp 4194304 0 10 false 404 ⟨10, 10⟩ = ⟨404, true, .ok 10⟩ ∧
    poolResp 4194304 0 10 true 200 ⟨100, 0⟩ = ⟨200, true, .ok 0⟩ := by decide +kernel

end EgVerif.C07
