import EgVerif.Proofs.RateLimiter
import EgVerif.Proofs.RateLimiterExt
import EgVerif.Proofs.RateLimiterFilter
import EgVerif.Gen.FactsC09
import EgVerif.Proofs.RateLimiterIRb
import EgVerif.Proofs.URLRuleIR
import EgVerif.Proofs.RateLimiterIRr
/-!
# C09 — the rate limiter never releases more than `limitForPeriod` per period

Property theorems about `Model.RateLimiter.acquire` (a line-by-line model of
`RateLimiter.acquirePermission`), for **every** well-formed policy and **every**
non-decreasing arrival sequence (`Reach`); then the MQTT limiters, the `RateLimiter` filter and the ties by
translation. Lemmas are in `Proofs/RateLimiter*.lean` and `Proofs/URLRuleIR.lean`.
-/
namespace EgVerif.C09
open EgVerif.RateLimiter

/-- `Reach p s h lo`: `(s, h)` is the limiter state and history after some finite
non-decreasing sequence of single-permit arrivals, the last of which was at `lo`. -/
inductive Reach (p : Policy) : RL → Hist → Int → Prop
  | init : Reach p RateLimiter.init [] 0
  | step {s h lo} (now : Int) : Reach p s h lo → lo ≤ now →
      Reach p (acquire p s now 1).1 (h ++ [(now, (acquire p s now 1).2)]) now

theorem reach_inv {p : Policy} (wf : p.WF) {s h lo} (r : Reach p s h lo) :
    Inv p s h ∧ 0 ≤ lo ∧ s.cycle ≤ lo / p.P := by
  induction r with
  | init => exact ⟨inv_init wf, le_refl _, by simp [RateLimiter.init]⟩
  | step now _ hle ih =>
    obtain ⟨inv, hlo, hcy⟩ := ih
    have hnow : 0 ≤ now := le_trans hlo hle
    have := step_inv wf hnow (le_trans hcy (Int.ediv_le_ediv wf.hP hle)) inv
    exact ⟨this.1, hnow, this.2⟩

/-- What an arrival at `now ≥ lo` finds: the releases already placed in its own and the following
cycles are the `rebased` tokens packed `L` per cycle. With `acquire_eq` (the outcome as a function of
the rebased tokens) the per-arrival properties below are arithmetic about `clamp`. -/
theorem reach_arrival {p : Policy} (wf : p.WF) {s h lo} (r : Reach p s h lo) {now : Int} (hle : lo ≤ now) :
    0 ≤ now ∧ ∀ j : Nat, cnt p.P h (now / p.P + j) = clamp p.L (rebased p.L p.P s now - j * p.L) := by
  obtain ⟨inv, hlo, hcy⟩ := reach_inv wf r
  exact ⟨le_trans hlo hle, cnt_rebased wf (le_trans hcy (Int.ediv_le_ediv wf.hP hle)) inv⟩

def Sorted (lo : Int) : List Int → Prop
  | [] => True
  | a :: r => lo ≤ a ∧ Sorted a r

/-- `runH` (the executable history builder used by the judge) only produces reachable pairs. -/
theorem reach_runH {p : Policy} : ∀ (as : List Int) {s h lo}, Reach p s h lo → Sorted lo as →
    ∃ lo', Reach p (runH p s as h).1 (runH p s as h).2 lo'
  | [], _, _, lo, r, _ => ⟨lo, by simpa [runH] using r⟩
  | a :: rest, _, _, _, r, hs => by
    simp only [runH]
    exact reach_runH rest (Reach.step a r hs.1) hs.2

/-- **C09 main statement**: in each aligned refresh period at most `L` admitted requests
are released, for every arrival pattern. -/
theorem cycle_bound {p : Policy} (wf : p.WF) {s h lo} (r : Reach p s h lo) (c : Int) :
    cnt p.P h c ≤ p.L.toNat := by
  exact (reach_inv wf r).1.cnt_le c

theorem step_wait_bounds {p : Policy} (wf : p.WF) {s h lo} (r : Reach p s h lo) (now : Int)
    (hle : lo ≤ now) :
    let o := (acquire p s now 1).2
    (o.permitted = true → 0 ≤ o.wait ∧ o.wait ≤ p.T) ∧ (o.permitted = false → o.wait = p.T) := by
  obtain ⟨hnow, _⟩ := reach_arrival wf r hle
  have ht := rebased_nonneg p.L p.P s now
  simp only [acquire_eq wf s 1 hnow]
  split
  · exact ⟨fun hf => Bool.noConfusion hf, fun _ => rfl⟩
  · rename_i hlt
    refine ⟨fun _ => ?_, fun hf => Bool.noConfusion hf⟩
    split
    · exact ⟨le_refl _, wf.hT⟩
    · exact wait_bounds wf.hP ((Int.le_ediv_iff_mul_le wf.hL).mpr (by omega))
        (Int.lt_add_one_iff.mp ((Int.ediv_lt_iff_lt_mul wf.hL).mpr (by rw [mul_comm]; omega)))

/-- No admitted request is ever made to wait longer than `timeoutDuration` (or a negative time). -/
theorem wait_le_timeout {p : Policy} (wf : p.WF) {s h lo} (r : Reach p s h lo) :
    ∀ e ∈ h, (e.2.permitted = true → 0 ≤ e.2.wait ∧ e.2.wait ≤ p.T) ∧
             (e.2.permitted = false → e.2.wait = p.T) := by
  induction r with
  | init => intro e he; simp at he
  | step now r' hle ih =>
    intro e he
    rcases List.mem_append.mp he with h1 | h1
    · exact ih e h1
    · simp only [List.mem_singleton] at h1
      subst h1
      exact step_wait_bounds wf r' now hle

/-- A request arriving while its current period still has spare permits proceeds immediately. -/
theorem spare_immediate {p : Policy} (wf : p.WF) {s h lo} (r : Reach p s h lo) (now : Int)
    (hle : lo ≤ now) (hspare : cnt p.P h (now / p.P) < p.L.toNat) :
    (acquire p s now 1).2 = ⟨true, 0⟩ := by
  obtain ⟨hnow, hc⟩ := reach_arrival wf r hle
  have h0 := hc 0
  simp only [Nat.cast_zero, add_zero, zero_mul, sub_zero] at h0
  have hlt : rebased p.L p.P s now < p.L := by
    by_contra hge
    rw [h0, (clamp_eq_full wf.hL _).mpr (not_lt.mp hge)] at hspare
    exact lt_irrefl _ hspare
  rw [acquire_spare wf 1 hnow hlt]

/-- A request is rejected **iff** every period of its timeout horizon
`c, c+1, …, c + ⌊T/P⌋` already holds `L` reserved releases. -/
theorem reject_iff_horizon_full {p : Policy} (wf : p.WF) {s h lo} (r : Reach p s h lo) (now : Int)
    (hle : lo ≤ now) :
    (acquire p s now 1).2.permitted = false ↔
      ∀ j : Nat, (j : Int) ≤ p.T / p.P → cnt p.P h (now / p.P + j) = p.L.toNat := by
  obtain ⟨hnow, hc⟩ := reach_arrival wf r hle
  simp only [hc]
  rw [horizon_full_iff wf.hL (Int.ediv_nonneg wf.hT wf.hP.le), acquire_eq wf s 1 hnow]
  split <;> simp [*]

/-- Arrivals after an idle gap that covers every reserved period start from a clean slate. -/
theorem idle_gap_resets {p : Policy} (wf : p.WF) {s h lo} (r : Reach p s h lo) (now : Int)
    (hle : lo ≤ now) (hgap : s.tokens ≤ (now / p.P - s.cycle) * p.L) :
    (acquire p s now 1) = (⟨now / p.P, 1⟩, ⟨true, 0⟩) := by
  obtain ⟨hnow, _⟩ := reach_arrival wf r hle
  have h0 : rebased p.L p.P s now = 0 := by unfold rebased; simp only; split <;> omega
  rw [acquire_spare wf 1 hnow (by rw [h0]; exact wf.hL), h0]
  rfl

/-- **Regenerated tie (translator).** `Gen.FactsC09IR.acquireIR` is produced on every run by the
go/ast micro-translator (`harness/factextract/facts_c09_ir.go`) from the *current body* of
`RateLimiter.acquirePermission`; it coincides with the hand-written model `acquire` on every
input (enabled limiter). A source change that alters the arithmetic, a comparison or the branch
structure changes `acquireIR` and this obligation stops checking. -/
theorem acquire_regenerated_from_source (p : Policy) (s : RL) (now count : Int) :
    Gen.FactsC09IR.extractionFailed = false ∧
      Gen.FactsC09IR.acquireIR p s now count false = acquire p s now count :=
  ⟨rfl, RateLimiter.acquire_regenerated_from_source p s now count⟩

/-- Facts obligation (regenerated from the source on every run): the modelled function is
one critical section under the limiter's mutex with a single clock read, so concurrent
acquirers are a sequential history of `acquire` steps in lock order. -/
theorem acquire_serialised :
    Gen.FactsC09.extractionFailed = false ∧ Gen.FactsC09.acquireLocksFirst = true ∧
      Gen.FactsC09.acquireClockReads = 1 := by decide

/-! ### Non-vacuity: concrete reachable states meeting the hypotheses -/

private def pEx : Policy := { L := 2, P := 10, T := 10 }

example : pEx.WF := ⟨by decide, by decide, by decide⟩

/-- L = 2, P = 10, T = 10: five arrivals at time 3. Two go at once, two wait for
the next period (7 ns), the fifth is rejected because both horizon periods are full. -/
example : (runH pEx RateLimiter.init [3, 3, 3, 3, 3] []).2.map (·.2) =
    [⟨true, 0⟩, ⟨true, 0⟩, ⟨true, 7⟩, ⟨true, 7⟩, ⟨false, 10⟩] := by decide

example : Sorted 0 [3, 3, 3, 3, 3] := by simp [Sorted]

/-! ## The judge's executable specification accepts every reachable model history -/

theorem specHist_append (p : Policy) : ∀ (l b : Hist) (e : Int × Out),
    specHist p b (l ++ [e]) = (specHist p b l && specStep p (b ++ l) e)
  | [], b, e => by simp [specHist]
  | x :: l, b, e => by
    simp only [List.cons_append, specHist]
    rw [specHist_append p l (b ++ [x]) e, Bool.and_assoc]
    simp

theorem specStep_of_reach {p : Policy} (wf : p.WF) {s h lo} (r : Reach p s h lo) (now : Int) (hle : lo ≤ now) :
    specStep p h (now, (acquire p s now 1).2) = true := by
  have hb := step_wait_bounds wf r now hle
  have hcb := cycle_bound wf (Reach.step now r hle) (relCycle p.P (now, (acquire p s now 1).2))
  have hsp : cnt p.P h (now / p.P) < p.L.toNat → (acquire p s now 1).2 = ⟨true, 0⟩ := spare_immediate wf r now hle
  have hfull : ((List.range (p.T / p.P + 1).toNat).all
      (fun j => cnt p.P h (now / p.P + (j : Int)) == p.L.toNat)) = !(acquire p s now 1).2.permitted := by
    have hq : 0 ≤ p.T / p.P := Int.ediv_nonneg wf.hT wf.hP.le
    rw [Bool.eq_iff_iff, Bool.not_eq_true', reject_iff_horizon_full wf r now hle]
    simp only [List.all_eq_true, List.mem_range, beq_iff_eq]
    exact ⟨fun hh j hj => hh j (by omega), fun hh j hj => hh j (by omega)⟩
  simp only at hb
  unfold specStep
  simp only [hfull]
  generalize (acquire p s now 1).2 = o at *
  cases hperm : o.permitted with
  | true =>
    obtain ⟨w0, w1⟩ := hb.1 hperm
    simp only [if_true, Bool.not_true, Bool.not_false, Bool.and_true, Bool.and_eq_true, decide_eq_true_eq,
      Bool.or_eq_true, Bool.not_eq_true', decide_eq_false_iff_not, beq_iff_eq]
    refine ⟨⟨⟨w0, w1⟩, ?_⟩, hcb⟩
    by_cases hs : cnt p.P h (now / p.P) < p.L.toNat
    · right; rw [hsp hs]
    · left; exact hs
  | false =>
    simp only [Bool.false_eq_true, if_false, Bool.not_false, Bool.and_true, Bool.not_eq_true',
      decide_eq_false_iff_not]
    intro hs
    rw [hsp hs] at hperm
    cases hperm

/-- **The executable specification used by the judge accepts the model's own behaviour**: every
reachable history passes `specHist`. (Ties the judge's `spec` verdict to the theorems above: a
`spec = false` on an observation that the model reproduces would contradict this theorem.) -/
theorem spec_accepts_model {p : Policy} (wf : p.WF) {s h lo} (r : Reach p s h lo) :
    specHist p [] h = true := by
  induction r with
  | init => simp [specHist]
  | step now r' hle ih =>
    rw [specHist_append, ih, List.nil_append, specStep_of_reach wf r' now hle]
    rfl

/-! ## The MQTT limiters (timeout 0, `AcquireNPermission`, multi limiter)

A limiter with `timeoutDuration = 0` asked for `n ≥ 0` permits per arrival (`n` = packet size for the
byte limiter, `n = 1` for the request limiter). History entries are (arrival, permits asked, admitted);
with timeout 0 an admitted request never waits, so the period of release is the period of arrival.
The packed-token invariant of the core limiter needs one release per token; its place is taken by `VInv`
(`Proofs/RateLimiterExt.lean`): the tokens of the current period bound what was admitted in it and
stay below `L` + the largest admitted request. -/

/-- reachable states of a single limiter asked `n ≥ 0` permits per arrival -/
inductive ReachN (p : Policy) : RL → NHist → Int → Prop
  | init : ReachN p RateLimiter.init [] 0
  | step {s h lo} (now n : Int) : ReachN p s h lo → lo ≤ now → 0 ≤ n →
      ReachN p (acquire p s now n).1 (h ++ [(now, n, (acquire p s now n).2.permitted)]) now

theorem reachN_inv {p : Policy} (hL : 0 < p.L) (hP : 0 < p.P) (hT : p.T = 0) {s h lo}
    (r : ReachN p s h lo) : VInv p.L p.P s h ∧ 0 ≤ lo ∧ s.cycle ≤ lo / p.P := by
  induction r with
  | init => exact ⟨vinv_init p.P hL, le_refl _, by simp [RateLimiter.init]⟩
  | step now n _ hle hn ih =>
    obtain ⟨inv, hlo, hcy⟩ := ih
    have hnow : 0 ≤ now := le_trans hlo hle
    have := vinv_step false hn (le_trans hcy (Int.ediv_le_ediv hP hle)) inv
    rw [acquire_T0 hL hP hT _ n hnow]
    exact ⟨this.1, hnow, this.2⟩

/-- **MQTT byte limiter** (`AcquireNPermission(packet size)`, timeout 0): in every period the admitted
bytes stay below `bytesRate` + the largest admitted packet — for every arrival pattern and every
sequence of packet sizes; and an admitted packet never waits. -/
theorem mqtt_bytes_overshoot_lt_packet {p : Policy} (hL : 0 < p.L) (hP : 0 < p.P) (hT : p.T = 0)
    {s h lo} (r : ReachN p s h lo) (c : Int) : usedIn p.P h c < p.L + maxIn p.P h c :=
  (reachN_inv hL hP hT r).1.overshoot c

/-- **MQTT request limiter** (one permit per packet, timeout 0): at most `requestRate` packets are
admitted per period. (`usedIn` sums the permits of the admitted arrivals: with one permit each it
is their number.) -/
theorem mqtt_request_bound {p : Policy} (hL : 0 < p.L) (hP : 0 < p.P) (hT : p.T = 0)
    {s h lo} (r : ReachN p s h lo) (hone : ∀ e ∈ h, e.2.1 = 1) (c : Int) : usedIn p.P h c ≤ p.L :=
  usedIn_le_of_ones hone (mqtt_bytes_overshoot_lt_packet hL hP hT r c)

/-- reachable states of the two-dimensional multi limiter `[requests, bytes]` with timeout 0, with
the per-dimension histories -/
inductive ReachM (L0 L1 P : Int) : MRL → NHist → NHist → Int → Prop
  | init : ReachM L0 L1 P (minit ⟨[L0, L1], P, 0⟩) [] [] 0
  | step {s h0 h1 lo} (now n0 n1 : Int) : ReachM L0 L1 P s h0 h1 lo → lo ≤ now → 0 ≤ n0 → 0 ≤ n1 →
      ReachM L0 L1 P (macquire ⟨[L0, L1], P, 0⟩ s now [n0, n1]).1
        (h0 ++ [(now, n0, (macquire ⟨[L0, L1], P, 0⟩ s now [n0, n1]).2.permitted)])
        (h1 ++ [(now, n1, (macquire ⟨[L0, L1], P, 0⟩ s now [n0, n1]).2.permitted)]) now

theorem reachM_inv {L0 L1 P : Int} (hL0 : 0 < L0) (hL1 : 0 < L1) (hP : 0 < P) {s h0 h1 lo}
    (r : ReachM L0 L1 P s h0 h1 lo) :
    ∃ c t0 t1, s = ⟨c, [t0, t1]⟩ ∧ VInv L0 P ⟨c, t0⟩ h0 ∧ VInv L1 P ⟨c, t1⟩ h1 ∧ 0 ≤ lo ∧ c ≤ lo / P := by
  induction r with
  | init =>
    exact ⟨0, 0, 0, by simp [minit], vinv_init P hL0, vinv_init P hL1, le_refl _, by simp⟩
  | step now n0 n1 _ hle hn0 hn1 ih =>
    obtain ⟨c, t0, t1, hs, i0, i1, hlo, hcy⟩ := ih
    have hnow : 0 ≤ now := le_trans hlo hle
    have hmono : c ≤ now / P := le_trans hcy (Int.ediv_le_ediv hP hle)
    obtain ⟨e, e2, e3⟩ := macquire2_T0 L0 L1 P c t0 t1 now n0 n1 hnow
    have s0 := vinv_step (decide (rebased L1 P ⟨c, t1⟩ now ≥ L1)) hn0 hmono i0
    have s1 := vinv_step (decide (rebased L0 P ⟨c, t0⟩ now ≥ L0)) hn1 hmono i1
    rw [hs, e]
    refine ⟨_, _, _, rfl, s0.1, ?_, hnow, s0.2⟩
    simp only
    rw [e2, e3]
    exact s1.1

/-- **MQTT multi limiter** (`[requestRate, bytesRate]`, `AcquirePermission([1, size])`, timeout 0):
per period at most `requestRate` packets are admitted (first dimension, one permit per packet) and
the admitted bytes stay below `bytesRate` + the largest admitted packet. -/
theorem mqtt_multi_bounds {L0 L1 P : Int} (hL0 : 0 < L0) (hL1 : 0 < L1) (hP : 0 < P) {s h0 h1 lo}
    (r : ReachM L0 L1 P s h0 h1 lo) (c : Int) :
    usedIn P h0 c < L0 + maxIn P h0 c ∧ usedIn P h1 c < L1 + maxIn P h1 c ∧
    ((∀ e ∈ h0, e.2.1 = 1) → usedIn P h0 c ≤ L0) := by
  obtain ⟨_, _, _, _, i0, i1, _, _⟩ := reachM_inv hL0 hL1 hP r
  exact ⟨i0.overshoot c, i1.overshoot c, fun hone => usedIn_le_of_ones hone (i0.overshoot c)⟩

/-- `newLimiter` gives every limiter timeout 0 and a positive whole-second period, so the three
theorems above apply to whatever the MQTT proxy builds from a `RateLimit` spec. -/
theorem mqtt_newLimiter_policy (sp : RateLimitSpec) :
    match newLimiter (some sp) with
    | Limiter.none => sp.requestRate ≤ 0 ∧ sp.bytesRate ≤ 0
    | Limiter.multi p s => p.T = 0 ∧ 0 < p.P ∧ p.Ls = [sp.requestRate, sp.bytesRate] ∧
        0 < sp.requestRate ∧ 0 < sp.bytesRate ∧ s = minit p
    | Limiter.request p s => p.T = 0 ∧ 0 < p.P ∧ p.L = sp.requestRate ∧ 0 < p.L ∧ s = RateLimiter.init
    | Limiter.byte p s => p.T = 0 ∧ 0 < p.P ∧ p.L = sp.bytesRate ∧ 0 < p.L ∧ s = RateLimiter.init := by
  have hP := period_pos sp.timePeriod
  unfold newLimiter
  simp only
  generalize (if sp.timePeriod > 0 then sp.timePeriod else 1) * second = P at hP ⊢
  split_ifs with h0 h1 h2 h3
  · exact ⟨by omega, by omega⟩
  · exact ⟨rfl, hP, rfl, h1.1, h1.2, rfl⟩
  · exact ⟨rfl, hP, rfl, h2, rfl⟩
  · exact ⟨rfl, hP, rfl, h3, rfl⟩
  · exact ⟨by omega, by omega⟩

/-- Non-vacuity: bytesRate 10 per 1 s; packets 7, 7, 7 at t = 0: two are admitted (14 bytes
< 10 + 7), the third is refused; in the next period the 4 bytes of overshoot are carried. -/
example : ((Limiter.byte ⟨10, 1000000000, 0⟩ RateLimiter.init).run [(0, 7), (0, 7), (0, 7), (1000000000, 7), (1000000000, 7)])
    = [true, true, false, true, false] := by decide

/-! ## The `RateLimiter` filter: `Handle` and `reload`

`ms[i]` says whether URL rule `i` matches the request (computed by `urlrule`, an oracle here);
`rls[i]` is the limiter object of rule `i`; the heap maps object ids to limiter states. -/
section Filter
open EgVerif.RateLimiterFilter

/-- A request that matches no URL rule is never limited: no limiter is asked, nothing changes, no
response is written. -/
theorem unmatched_never_limited (now : Nat → Int) (ms : List Bool) (rls : List (Option Nat)) (h : Heap)
    (hall : ∀ b ∈ ms, b = false) : handle now ms rls h = some (h, noLimit) := by
  induction ms generalizing rls with
  | nil => cases rls <;> rfl
  | cons b ms ih =>
    obtain rfl : b = false := hall b List.mem_cons_self
    cases rls with
    | nil => rfl
    | cons _ rls =>
      rw [handle]
      exact ih rls fun b hb => hall b (List.mem_cons_of_mem _ hb)

/-- Only the first matching rule counts: the outcome of `Handle` is that of asking the limiter of
the first matching rule — whatever later rules (`ms`, `post`) match or hold — and no other limiter
object is touched. -/
theorem first_matching_rule_only (now : Nat → Int) (pre post : List (Option Nat)) (ms : List Bool)
    (id : Nat) (h : Heap) (l : Lim) (hl : heapGet h id = some l) :
    handle now (List.replicate pre.length false ++ true :: ms) (pre ++ some id :: post) h =
      handle now [true] [some id] h ∧
    ∃ h' out, handle now [true] [some id] h = some (h', out) ∧ out.asked = some id ∧
      ∀ id', id' ≠ id → heapGet h' id' = heapGet h id' := by
  constructor
  · rw [handle_skip, handle_at_match now ms post hl, handle_at_match now [] [] hl]
  · exact ⟨_, _, handle_at_match now [] [] hl, answer_asked _ _,
      fun _ hne => heapGet_heapSet_other h _ hne⟩

/-- A request is answered 429 exactly when the result is `rateLimited`, which happens exactly when
the limiter of the first matching rule refused; otherwise the result is empty and no response is
written (after waiting the duration the limiter imposed). -/
theorem reject_is_429 (now : Nat → Int) (ms : List Bool) (rls : List (Option Nat)) (h h' : Heap) (out : HOut)
    (e : handle now ms rls h = some (h', out)) :
    (out.result = "rateLimited" ↔ out.status = some 429) ∧
    (out.result = "rateLimited" ∨ (out.result = "" ∧ out.status = none)) ∧
    (out.result = "rateLimited" → ∃ id l, out.asked = some id ∧ heapGet h id = some l ∧
      (acquire l.policy l.state (now id) 1).2.permitted = false) := by
  rcases handle_out_shape now ms rls h h' out e with ⟨rfl, _, _⟩ | ⟨id, l, hl, _, rfl⟩
  · simp [noLimit]
  · cases hp : (acquire l.policy l.state (now id) 1).2.permitted with
    | false =>
      rw [answer_refused id hp]
      exact ⟨⟨fun _ => rfl, fun _ => rfl⟩, Or.inl rfl, fun _ => ⟨id, l, rfl, hl, hp⟩⟩
    | true =>
      rw [answer_permitted id hp]
      exact ⟨by simp, Or.inr ⟨rfl, rfl⟩, fun hr => by simp at hr⟩

/-- **Reload keeps the state of unchanged rules** (`Inherit`, as repaired by
fixes/C11-ratelimiter-prev-nil.patch). If every previous rule owns a limiter and every new rule has
a policy (guaranteed by `Init` resp. `Validate`), then `reload` does not panic, gives every new rule
a limiter, leaves every existing limiter object (policy and accumulated state) untouched, and
* a new rule equal to a previous rule (`URLRule.DeepEqual`) whose policy is unchanged
  (`isSamePolicy`) points to the *same limiter object* as the first such previous rule;
* a new rule with no equal previous rule, or whose policy changed, gets a fresh limiter object
  created with the defaults of `createRateLimiter` and the initial (empty) state. -/
theorem reload_keeps_state (newSpec : Spec) (g : Gen) (heap : Heap) (next : Nat)
    (hok : ∀ e ∈ heap, e.1 < next) (hall : ∀ r ∈ g.rls, r ≠ none)
    (hbind : ∀ u ∈ newSpec.urls, (bindPolicy newSpec u).isSome) :
    let st := reload newSpec (some g) heap next
    st.panicked = false ∧ st.rls.length = newSpec.urls.length ∧
    (∀ id l, heapGet heap id = some l → heapGet st.heap id = some l) ∧
    ∀ (i : Nat) (u : URLRule), newSpec.urls[i]? = some u →
      (∀ (j id : Nat), g.spec.urls[j]? = some u → (∀ k : Nat, k < j → g.spec.urls[k]? ≠ some u) →
          g.rls[j]? = some (some id) →
          isSamePolicy newSpec g.spec u.policyRef = true → st.rls[i]? = some (some id)) ∧
      ((u ∉ g.spec.urls ∨ isSamePolicy newSpec g.spec u.policyRef = false) →
          ∃ id p, next ≤ id ∧ st.rls[i]? = some (some id) ∧ bindPolicy newSpec u = some p ∧
            heapGet st.heap id = some { policy := limiterPolicy p, state := RateLimiter.init }) := by
  have hnn : ∀ u ∈ newSpec.urls, claim newSpec g.spec u g.spec.urls g.rls ≠ some none := by
    intro u _ hc
    obtain ⟨_, j, _, h2, _⟩ := (claim_eq_some_iff _ _).mp hc
    exact hall none (List.mem_of_getElem? h2) rfl
  have key := reloadLoop_spec newSpec g.spec g.rls newSpec.urls ⟨[], heap, next, false⟩ rfl hok hnn hbind
  refine ⟨key.panicked, key.length.trans (Nat.zero_add _),
    fun id l hl => reloadLoop_heap newSpec g.spec g.rls _ _ id l hl, fun i u hu => ?_⟩
  obtain ⟨x, hx, hclaimed, hfresh⟩ := key.ptr i u hu
  rw [List.length_nil, Nat.zero_add] at hx
  constructor
  · intro j id hj hfirst hrl hsame
    rw [← hclaimed id ((claim_eq_some_iff _ _).mpr ⟨hsame, j, hj, hrl, hfirst⟩)]
    exact hx
  · intro hno
    obtain ⟨p, h1, h2, h3⟩ := hfresh (claim_none_of _ hno)
    exact ⟨x, p, h1, hx, h2, h3⟩

/-- `createRateLimiter`'s defaults: limit 50, timeout 100 ms, refresh period 10 ms (the same values as
`librl.NewDefaultPolicy`), and a configured value is taken as it is. -/
theorem create_defaults (name : String) (t r : Int) :
    limiterPolicy ⟨name, "", "", 0, t, r⟩ = { L := 50, P := 10000000, T := 100000000 } ∧
    (∀ (ts rs : String) (l : Int), ts ≠ "" → rs ≠ "" → l ≠ 0 →
      limiterPolicy ⟨name, ts, rs, l, t, r⟩ = { L := l, P := r, T := t }) := by
  constructor
  · simp [limiterPolicy]
  · intro ts rs l h1 h2 h3
    simp [limiterPolicy, h1, h2, h3]

/-- Facts obligation (regenerated from the source on every run): the constants and the shape the
filter / multi-limiter models assume — `createRateLimiter`'s literal defaults, the result string and
the status code of a rejection, one `AcquirePermission` per `Handle`, `reload` shares the limiter and
does not clear the previous generation's pointer (fixes/C11-ratelimiter-prev-nil.patch), and
`MultiRateLimiter.AcquirePermission` is one critical section with a single clock read. -/
theorem filter_source_facts :
    Gen.FactsC09.extractionFailed = false ∧
    Gen.FactsC09.createDefaults = ["policy.LimitForPeriod = 50",
      "policy.TimeoutDuration = 100 * time.Millisecond", "policy.LimitRefreshPeriod = 10 * time.Millisecond"] ∧
    Gen.FactsC09.resultRateLimited = "rateLimited" ∧
    Gen.FactsC09.handleStatusCodes = ["http.StatusTooManyRequests"] ∧
    -- (one `AcquirePermission` per request, on the first matching rule: `handle_regenerated_from_source`;
    -- the count of the printed callee `u.rl.AcquirePermission` that stood here alarmed on a rename of `u`)
    -- (`reload` shares the limiter and does not clear the previous generation's pointer:
    -- `reload_regenerated_from_source`; the counts of the printed statements `url.rl = prev.rl` / `prev.rl = nil`
    -- that stood here alarmed on a rename of the loop variables)
    Gen.FactsC09.multiLocksFirst = true ∧ Gen.FactsC09.multiClockReads = 1 :=
  ⟨rfl, rfl, rfl, rfl, rfl, rfl⟩

end Filter

/-! ### Ties by translation of `Gen.FactsC09IRb`

The filter's `Handle`, the MQTT proxy's `newLimiter` / `Limiter.acquirePermission` and the util limiter's
`SetState`, re-translated from their bodies on every run (proofs: `Proofs/RateLimiterIRb.lean`). -/
section IRb
open EgVerif.RateLimiterFilter

/-- the filter's `Handle` = the model's `handle` (`us` = per URL rule: does it match, its limiter id) -/
theorem handle_regenerated_from_source (now : Nat → Int) (cancelled : Bool) (us : List (Bool × Option Nat))
    (h0 : Heap) :
    Gen.FactsC09IRb.extractionFailed = false ∧
    Gen.FactsC09IRb.handleIR now cancelled us h0 = handle now (us.map (·.1)) (us.map (·.2)) h0 :=
  ⟨rfl, RateLimiterFilter.handle_regenerated_from_source now cancelled us h0⟩

theorem newLimiter_regenerated_from_source (spec : Option RateLimitSpec) :
    Gen.FactsC09IRb.extractionFailed = false ∧ Gen.FactsC09IRb.newLimiterIR spec = newLimiter spec :=
  ⟨rfl, RateLimiter.newLimiter_regenerated_from_source spec⟩

theorem limiterAcquire_regenerated_from_source (lm : Option (MPolicy × MRL)) (lq lb : Option (Policy × RL))
    (now byteNum : Int) :
    Gen.FactsC09IRb.extractionFailed = false ∧
    (let r := Gen.FactsC09IRb.limiterAcquireIR lm lq lb now byteNum
     (ofFields r.1.1 r.1.2.1 r.1.2.2, r.2)) = (ofFields lm lq lb).acquire now byteNum :=
  ⟨rfl, RateLimiter.limiterAcquire_regenerated_from_source lm lq lb now byteNum⟩

theorem setState_regenerated_from_source (s : RL) (cur st : Nat) :
    Gen.FactsC09IRb.extractionFailed = false ∧ Gen.FactsC09IRb.setStateIR s cur st = setState s cur st :=
  ⟨rfl, RateLimiter.setState_regenerated_from_source s cur st⟩

/-- two rules, the first does not match, the second matches and its limiter (id 7, limit 1, one token
already taken, timeout 0) refuses: 429 from rule 2 only; a nil limiter on a matching rule panics -/
example :
    let heap : Heap := [(7, ⟨⟨1, 1000, 0⟩, ⟨0, 1⟩⟩)]
    (Gen.FactsC09IRb.handleIR (fun _ => 0) false [(false, some 3), (true, some 7)] heap).map (·.2) =
      some ⟨"rateLimited", some 429, some 7, 0⟩ ∧
    Gen.FactsC09IRb.handleIR (fun _ => 0) false [(true, none)] heap = none ∧
    Gen.FactsC09IRb.newLimiterIR (some ⟨5, 0, 0⟩) = Limiter.request ⟨5, 1000000000, 0⟩ init := by
  decide

end IRb

/-! ### waiting requests whose client goes away -/
section Cancel
open EgVerif.RateLimiterFilter

theorem cnt_filter_le (P : Int) (h : Hist) (q : Int × Out → Bool) (c : Int) :
    cnt P (h.filter q) c ≤ cnt P h c :=
  (List.filter_sublist.filter _).length_le

/-- **Cancelled waiters never make a period over-full.** The filter leaves the limiter exactly as it is
when a waiting request's client goes away (`handleIR … cancelled = true` and `= false` are the same
function — `cancel_keeps_reservation` — so the reservation stays where it was made); the requests
that really are released are a sub-history of the reservations, hence at most `L` of them per period, for
every arrival pattern and whichever waiters are cancelled. (What the `wait` judge checks on the observed
release times.) -/
theorem cancelled_waiters_keep_cycle_bound {p : Policy} (wf : p.WF) {s h lo} (r : Reach p s h lo)
    (notCancelled : Int × Out → Bool) (c : Int) :
    cnt p.P (h.filter notCancelled) c ≤ p.L.toNat :=
  Nat.le_trans (cnt_filter_le p.P h notCancelled c) (cycle_bound wf r c)

theorem cancel_keeps_reservation (now : Nat → Int) (us : List (Bool × Option Nat)) (h0 : Heap) :
    Gen.FactsC09IRb.handleIR now true us h0 = Gen.FactsC09IRb.handleIR now false us h0 := by
  rw [(handle_regenerated_from_source now true us h0).2, (handle_regenerated_from_source now false us h0).2]

/-- L = 1: A at once, B waits for period 1, C for period 2; B's client goes away; the next arrival (at 1 ns)
is then given period 3 — not B's or C's slot (`run` is the model, whose state a cancellation does not touch) -/
example : (run ⟨1, 40, 160⟩ init [(0, 1), (0, 1), (0, 1), (1, 1)]).map (fun o => (o.permitted, o.wait)) =
    [(true, 0), (true, 40), (true, 80), (true, 119)] := by decide

end Cancel

/-! ### which rule applies: `pkg/util/urlrule` -/
section WhichRule
open EgVerif.RateLimiterFilter EgVerif.URLRule

/-- `pkg/util/urlrule`, re-translated from the source on every run: `StringMatch.Validate` / `Match`,
`URLRule.Match` / `Init` / `DeepEqual` are the model's (`DeepEqual` ignores `Empty`). -/
theorem urlrule_regenerated_from_source (re : String → String → Bool) (r r1 : Rule) (method path : String) :
    Gen.FactsC09IRu.extractionFailed = false ∧
    Gen.FactsC09IRu.smValidIR r.url = r.url.valid ∧
    Gen.FactsC09IRu.smMatchIR re r.url path = r.url.matches re path ∧
    Gen.FactsC09IRu.ruleMatchIR re r method path = r.matches re method path ∧
    Gen.FactsC09IRu.ruleInitIR r = (r.init.1, r.init.2 || r.url.compiled) ∧
    Gen.FactsC09IRu.deepEqualIR r r1 = r.deepEqual r1 :=
  ⟨rfl, smValid_regenerated_from_source _, smMatch_regenerated_from_source re _ path,
    ruleMatch_regenerated_from_source re r method path, ruleInit_regenerated_from_source r,
    deepEqual_regenerated_from_source r r1⟩

/-- **A request is limited by the first rule whose methods and URL match — with that rule's policy, or the
default policy when the rule names none — and not at all when no rule matches.** `rules` are the
filter's URL rules (after `Init`), `rls` their limiters; the match of rule `k` is the declarative
`Rule.spec` (method list empty or containing the method; `empty` / exact / prefix / regexp on the path). -/
theorem limited_by_first_matching_rule (re : String → String → Bool) (rules : List Rule)
    (rls : List (Option Nat)) (hlen : rls.length = rules.length) (method path : String)
    (now : Nat → Int) (h : Heap) :
    let ms := rules.map (fun r => r.inited.matches re method path)
    (∀ (k : Nat) (r : Rule), rules[k]? = some r → ms[k]? = some (r.spec re method path)) ∧
    (firstMatch re rules method path = none → handle now ms rls h = some (h, noLimit)) ∧
    (∀ i lid l, firstMatch re rules method path = some i → rls[i]? = some (some lid) → heapGet h lid = some l →
      (∀ k, k < i → ∀ r, rules[k]? = some r → r.spec re method path = false) ∧
      handle now ms rls h = handle now [true] [some lid] h ∧
      ∃ h' out, handle now ms rls h = some (h', out) ∧ out.asked = some lid ∧
        ∀ lid', lid' ≠ lid → heapGet h' lid' = heapGet h lid') := by
  simp only
  refine ⟨fun k r hk => ?_, fun hn => ?_, fun i lid l hi hr hl => ⟨fun k hk r hrk => ?_, ?_, ?_⟩⟩
  · rw [List.getElem?_map, hk, Option.map_some, matches_eq_spec]
  · exact unmatched_never_limited now _ rls h (List.findIdx?_eq_none_iff.mp hn)
  · obtain ⟨hlt, _, hprev⟩ := List.findIdx?_eq_some_iff_getElem.mp hi
    have hk' : k < rules.length := by rw [List.length_map] at hlt; omega
    have := hprev k hk
    rw [List.getElem_map, Option.some.inj ((List.getElem?_eq_getElem hk').symm.trans hrk), matches_eq_spec] at this
    simpa using this
  · exact handle_first now _ rls h i _ hi hr
  · rw [handle_first now _ rls h i _ hi hr]
    exact (first_matching_rule_only now [] [] [] lid h l hl).2

theorem default_policy_when_unnamed (s : Spec) (u : RateLimiterFilter.URLRule) (hu : u.policyRef = "") :
    bindPolicy s u = findPolicy s.policies s.defaultRef := by
  simp [bindPolicy, hu]

/-- overlapping rules: `POST /a/b` skips the GET-only exact rule and is limited by the regexp rule behind
it; `GET /a/b` is limited by the exact rule; `GET /c` by none; an `empty` rule only sees the empty path -/
example :
    let re : String → String → Bool := fun p v => p == "r" && v == "/a/b"
    let rules : List Rule := [⟨["GET"], ⟨"/a/b", "", "", false, false⟩, "p1"⟩, ⟨[], ⟨"", "", "r", false, false⟩, ""⟩,
      ⟨[], ⟨"", "", "", true, false⟩, ""⟩]
    firstMatch re rules "POST" "/a/b" = some 1 ∧ firstMatch re rules "GET" "/a/b" = some 0 ∧
    firstMatch re rules "GET" "/c" = none ∧ firstMatch re rules "PUT" "" = some 2 := by
  decide

end WhichRule

/-! ### `reload` tied by translation -/
section ReloadIR
open EgVerif.RateLimiterFilter

/-- the filter's `reload` (`Init` / `Inherit`), re-translated from its body on every run, is the model's
`reload` — so `reload_keeps_state` is about the regenerated definition -/
theorem reload_regenerated_from_source (s : Spec) (prev : Option Gen) (heap : Heap) (next : Nat) :
    Gen.FactsC09IRr.extractionFailed = false ∧ Gen.FactsC09IRr.reloadIR s prev heap next = reload s prev heap next :=
  ⟨rfl, RateLimiterFilter.reload_regenerated_from_source s prev heap next⟩

/-- `isSamePolicy` and `bindPolicyToURL`, re-translated from their bodies: which policy a rule is bound to
(own reference, else the default one) and when a rule's policy counts as unchanged -/
theorem policy_lookup_regenerated_from_source (s1 s2 : Spec) (n : String) (u : URLRule) :
    Gen.FactsC09IRr.extractionFailed = false ∧
    Gen.FactsC09IRr.isSamePolicyIR s1 s2 n = isSamePolicy s1 s2 n ∧
    Gen.FactsC09IRr.bindPolicyIR s1 u = bindPolicy s1 u :=
  ⟨rfl, RateLimiterFilter.isSamePolicy_regenerated_from_source s1 s2 n,
    RateLimiterFilter.bindPolicy_regenerated_from_source s1 u⟩

/-- **State carry-over, of the regenerated `reload`**: an unchanged rule with an unchanged policy keeps the
very limiter object (hence its accumulated tokens) of the first equal previous rule; every existing limiter
object is left untouched. -/
theorem reload_ir_keeps_state (newSpec : Spec) (g : Gen) (heap : Heap) (next : Nat)
    (hok : ∀ e ∈ heap, e.1 < next) (hall : ∀ r ∈ g.rls, r ≠ none)
    (hbind : ∀ u ∈ newSpec.urls, (bindPolicy newSpec u).isSome) :
    let st := Gen.FactsC09IRr.reloadIR newSpec (some g) heap next
    st.panicked = false ∧
    (∀ id l, heapGet heap id = some l → heapGet st.heap id = some l) ∧
    ∀ (i : Nat) (u : URLRule), newSpec.urls[i]? = some u →
      ∀ (j id : Nat), g.spec.urls[j]? = some u → (∀ k : Nat, k < j → g.spec.urls[k]? ≠ some u) →
        g.rls[j]? = some (some id) → isSamePolicy newSpec g.spec u.policyRef = true →
        st.rls[i]? = some (some id) := by
  simp only
  rw [RateLimiterFilter.reload_regenerated_from_source]
  obtain ⟨h1, _, h3, h4⟩ := reload_keeps_state newSpec g heap next hok hall hbind
  exact ⟨h1, h3, fun i u hu => (h4 i u hu).1⟩

/-- rule 0 unchanged (same policy) keeps limiter 7, rule 1 is new and gets the fresh object 9 -/
example :
    let pol : Pol := ⟨"p", "", "", 5, 0, 0⟩
    let u0 : URLRule := ⟨[], "/a", "", "", ""⟩
    let u1 : URLRule := ⟨["GET"], "", "/b", "", ""⟩
    (Gen.FactsC09IRr.reloadIR ⟨[pol], "p", [u0, u1]⟩ (some ⟨⟨[pol], "p", [u0]⟩, [some 7]⟩) [] 9).rls = [some 7, some 9] := by
  decide

end ReloadIR

/-! ### whole request sequences, the converse of the 429 clause, well-formed generations -/
section Audit
open EgVerif.RateLimiterFilter

/-- the history of a `Limiter.request` run, as the extension `ext` of the history it started from -/
theorem limiter_run_reach_ext (p : Policy) : ∀ (arr : List (Int × Int)) {s h lo}, Reach p s h lo →
    Sorted lo (arr.map (·.1)) →
    ∃ s' ext lo', Reach p s' (h ++ ext) lo' ∧
      (Limiter.request p s).run arr = ext.map (·.2.permitted) ∧ ext.map (·.1) = arr.map (·.1)
  | [], s, h, lo, r, _ => ⟨s, [], lo, by rwa [List.append_nil], rfl, rfl⟩
  | (now, n) :: rest, s, h, lo, r, hs => by
    obtain ⟨s', ext, lo', r', hrun, ht⟩ := limiter_run_reach_ext p rest (Reach.step now r hs.1) hs.2
    refine ⟨s', (now, (acquire p s now 1).2) :: ext, lo', by rwa [List.append_assoc] at r', ?_, ?_⟩
    · simp only [Limiter.run, Limiter.acquire, List.map_cons, hrun]
    · simp only [List.map_cons, ht]

/-- **MQTT request limiter over a whole packet sequence**: running `Limiter.request` over non-decreasing
arrival times produces a reachable limiter history whose admissions are exactly the flags returned — so
`cycle_bound` (≤ L admitted packets per period) holds for `Limiter.run`, not only for single steps. -/
theorem limiter_run_reach (p : Policy) : ∀ (arr : List (Int × Int)) {s h lo}, Reach p s h lo →
    Sorted lo (arr.map (·.1)) →
    ∃ s' h' lo', Reach p s' h' lo' ∧ h'.take h.length = h ∧
      (Limiter.request p s).run arr = (h'.drop h.length).map (·.2.permitted) ∧
      (h'.drop h.length).map (·.1) = arr.map (·.1)
  | arr, s, h, lo, r, hs => by
    obtain ⟨s', ext, lo', r', hrun, ht⟩ := limiter_run_reach_ext p arr r hs
    exact ⟨s', h ++ ext, lo', r', List.take_left, by rw [List.drop_left]; exact hrun,
      by rw [List.drop_left]; exact ht⟩

/-- per period at most `L` packets of an MQTT request-limited connection are admitted, over the whole run -/
theorem mqtt_run_cycle_bound {p : Policy} (wf : p.WF) (arr : List (Int × Int)) (hs : Sorted 0 (arr.map (·.1))) :
    ∃ h : Hist, (Limiter.request p RateLimiter.init).run arr = h.map (·.2.permitted) ∧
      h.map (·.1) = arr.map (·.1) ∧ ∀ c, cnt p.P h c ≤ p.L.toNat := by
  obtain ⟨s', ext, lo', r', hrun, ht⟩ := limiter_run_reach_ext p arr (Reach.init (p := p)) hs
  exact ⟨ext, hrun, ht, fun c => cycle_bound wf r' c⟩

/-- every limiter object of the heap is a reachable limiter, last asked at `last id` -/
def HeapReach (h : Heap) (last : Nat → Int) : Prop :=
  ∀ id l, heapGet h id = some l → ∃ hist, Reach l.policy l.state hist (last id)

/-- one `Handle` keeps every limiter reachable (clock not running backwards for the limiter asked) -/
theorem handle_keeps_reach (now : Nat → Int) (ms : List Bool) (rls : List (Option Nat)) (h h' : Heap)
    (out : HOut) (last : Nat → Int) (hr : HeapReach h last) (hmono : ∀ id, last id ≤ now id)
    (e : handle now ms rls h = some (h', out)) :
    HeapReach h' (fun id => if out.asked = some id then now id else last id) := by
  rcases handle_out_shape now ms rls h h' out e with ⟨rfl, rfl, _⟩ | ⟨id, l, hl, rfl, rfl⟩
  · intro id l hl
    simpa [noLimit] using hr id l hl
  · intro id' l' hl'
    simp only [answer_asked]
    by_cases hid : id' = id
    · subst hid
      rw [heapGet_heapSet_same _ hl] at hl'
      obtain ⟨hist, rh⟩ := hr id' l hl
      cases hl'
      rw [if_pos rfl]
      exact ⟨_, Reach.step (now id') rh (hmono id')⟩
    · rw [heapGet_heapSet_other h _ hid] at hl'
      rw [if_neg (fun hc => hid (Option.some.inj hc).symm)]
      exact hr id' l' hl'

/-- a sequence of requests through the filter (`reqs`: per request its match flags and the limiters' clocks) -/
def handleSeq (rls : List (Option Nat)) : Heap → List (List Bool × (Nat → Int)) → Option Heap
  | h, [] => some h
  | h, (ms, now) :: rest =>
    match handle now ms rls h with
    | none => none
    | some (h', _) => handleSeq rls h' rest

/-- **`cycle_bound` for every limiter of the filter over any request sequence**: whatever rules the requests
match, each limiter object stays a reachable limiter (so in each of its periods it released ≤ L of the
requests routed to it), provided each limiter's clock does not run backwards. -/
theorem handle_seq_reach (rls : List (Option Nat)) : ∀ (reqs : List (List Bool × (Nat → Int))) (h h' : Heap)
    (last : Nat → Int), HeapReach h last →
    (∀ r ∈ reqs, ∀ id, last id ≤ r.2 id) → (List.Pairwise (fun a b => ∀ id, a.2 id ≤ b.2 id) reqs) →
    handleSeq rls h reqs = some h' →
    ∃ last', HeapReach h' last' ∧ ∀ id l, heapGet h' id = some l → l.policy.WF → ∃ hist,
      Reach l.policy l.state hist (last' id) ∧ ∀ c, cnt l.policy.P hist c ≤ l.policy.L.toNat
  | [], h, h', last, hr, _, _, e => by
    simp only [handleSeq, Option.some.injEq] at e
    subst e
    exact ⟨last, hr, fun id l hl wf => by
      obtain ⟨hist, rh⟩ := hr id l hl
      exact ⟨hist, rh, fun c => cycle_bound wf rh c⟩⟩
  | (ms, now) :: rest, h, h', last, hr, hm, hp, e => by
    simp only [handleSeq] at e
    cases hh : handle now ms rls h with
    | none => simp [hh] at e
    | some pr =>
      obtain ⟨h1, out⟩ := pr
      simp only [hh] at e
      have hr1 := handle_keeps_reach now ms rls h h1 out last hr (fun id => hm _ (List.mem_cons_self) id) hh
      have hp' := List.pairwise_cons.mp hp
      refine handle_seq_reach rls rest h1 h' _ hr1 ?_ hp'.2 e
      intro r hrm id
      by_cases ha : out.asked = some id
      · simp only [ha, if_true]; exact hp'.1 r hrm id
      · simp only [ha, if_false]; exact hm r (List.mem_cons_of_mem _ hrm) id

/-- **429 exactly when refused** (both directions): the result is `rateLimited` iff a limiter was asked and
it refused (the converse of the third clause of `reject_is_429`). -/
theorem rateLimited_iff_refused (now : Nat → Int) (ms : List Bool) (rls : List (Option Nat)) (h h' : Heap)
    (out : HOut) (e : handle now ms rls h = some (h', out)) :
    out.result = "rateLimited" ↔
      ∃ id l, out.asked = some id ∧ heapGet h id = some l ∧
        (acquire l.policy l.state (now id) 1).2.permitted = false := by
  constructor
  · exact (reject_is_429 now ms rls h h' out e).2.2
  · rintro ⟨id, l, ha, hl, hp⟩
    rcases handle_out_shape now ms rls h h' out e with ⟨rfl, _, _⟩ | ⟨id', l', hl', _, rfl⟩
    · simp [noLimit] at ha
    · rw [answer_asked] at ha
      obtain rfl := Option.some.inj ha
      rw [hl'] at hl
      cases hl
      rw [answer_refused _ hp]

/-- well-formed generation: one limiter per URL rule, none nil — what `handle`'s totalisation (a missing
limiter entry reads as "no more rules") must never meet -/
def GenWF (g : Gen) : Prop := g.rls.length = g.spec.urls.length ∧ ∀ r ∈ g.rls, r ≠ none

/-- under `GenWF` and one match flag per rule, "not limited" really means that no rule matched: the
totalised branches of `handle` (lists of different length) are not what answers -/
theorem unlimited_only_if_unmatched (now : Nat → Int) (g : Gen) (ms : List Bool) (h : Heap) (wf : GenWF g)
    (hms : ms.length = g.spec.urls.length) (e : handle now ms g.rls h = some (h, noLimit)) :
    ∀ b ∈ ms, b = false := by
  rcases handle_out_shape now ms g.rls h h noLimit e with ⟨_, _, hall⟩ | ⟨id, l, _, _, h3⟩
  · rwa [wf.1, ← hms, List.take_length] at hall
  · have := congrArg HOut.asked h3
    rw [answer_asked] at this
    cases this

/-- `Init` / `Inherit` establish `GenWF` (under `Validate`'s guarantee that every rule has a policy, and a
well-formed previous generation) -/
theorem reload_establishes_wf (newSpec : Spec) (g : Gen) (heap : Heap) (next : Nat)
    (hok : ∀ e ∈ heap, e.1 < next) (wf : GenWF g)
    (hbind : ∀ u ∈ newSpec.urls, (bindPolicy newSpec u).isSome) :
    let st := reload newSpec (some g) heap next
    st.panicked = false ∧ st.rls.length = newSpec.urls.length := by
  obtain ⟨h1, h2, _, _⟩ := reload_keeps_state newSpec g heap next hok wf.2 hbind
  exact ⟨h1, h2⟩

/-- non-vacuity of `spare_immediate`: one of two permits of period 0 is taken, the next arrival in that
period meets the hypothesis -/
example : ∃ s h lo, Reach ⟨2, 10, 0⟩ s h lo ∧ lo ≤ 3 ∧ cnt 10 h (3 / 10) < (2 : Int).toNat :=
  ⟨_, _, _, Reach.step 0 Reach.init (le_refl _), by decide, by decide⟩

/-- non-vacuity of `reload_keeps_state` / `reload_establishes_wf`: a previous generation with one rule and
limiter 7, a new spec with that rule and another one -/
example :
    let pol : Pol := ⟨"p", "", "", 5, 0, 0⟩
    let u0 : URLRule := ⟨[], "/a", "", "", ""⟩
    let u1 : URLRule := ⟨["GET"], "", "/b", "", ""⟩
    let g : Gen := ⟨⟨[pol], "p", [u0]⟩, [some 7]⟩
    let heap : Heap := [(7, ⟨⟨5, 10, 0⟩, ⟨0, 3⟩⟩)]
    (∀ e ∈ heap, e.1 < 9) ∧ GenWF g ∧ (∀ u ∈ [u0, u1], (bindPolicy ⟨[pol], "p", [u0, u1]⟩ u).isSome) ∧
    (reload ⟨[pol], "p", [u0, u1]⟩ (some g) heap 9).rls = [some 7, some 9] := by
  refine ⟨by decide, ⟨by decide, by decide⟩, by decide, by decide⟩

/-! ### the byte limiter and the multi limiter composed with `Limiter.run` -/

/-- **MQTT byte limiter over a whole packet sequence**: running `Limiter.byte` over non-decreasing arrival
times and non-negative packet sizes extends a reachable (`ReachN`) history by exactly (time, size, flag
returned by `Limiter.run`) per packet. -/
theorem byte_run_reachN (p : Policy) : ∀ (arr : List (Int × Int)) {s h lo}, ReachN p s h lo →
    Sorted lo (arr.map (·.1)) → (∀ a ∈ arr, 0 ≤ a.2) →
    ∃ s' lo', ReachN p s' (h ++ runHist arr ((Limiter.byte p s).run arr) (·.2)) lo'
  | [], s, h, lo, r, _, _ => ⟨s, lo, by simpa [runHist] using r⟩
  | (now, n) :: rest, s, h, lo, r, hs, hn => by
    simp only [List.map_cons, Sorted] at hs
    have hn0 : 0 ≤ n := hn (now, n) (List.mem_cons_self ..)
    obtain ⟨s', lo', r'⟩ := byte_run_reachN p rest (ReachN.step now n r hs.1 hn0) hs.2
      (fun a ha => hn a (List.mem_cons_of_mem _ ha))
    refine ⟨s', lo', ?_⟩
    simpa [runHist, Limiter.run, Limiter.acquire, List.append_assoc] using r'

/-- **`mqtt_bytes_overshoot_lt_packet` over the whole packet sequence of a connection**: for the byte limiter
`newLimiter` builds (timeout 0), every arrival pattern and every sequence of packet sizes, in every period the
bytes `Limiter.run` admitted stay below `bytesRate` + the largest admitted packet — and the judge's
`overshootOk` accepts the run. -/
theorem mqtt_bytes_run_bound {p : Policy} (hL : 0 < p.L) (hP : 0 < p.P) (hT : p.T = 0)
    (arr : List (Int × Int)) (hs : Sorted 0 (arr.map (·.1))) (hn : ∀ a ∈ arr, 0 ≤ a.2) :
    let h := runHist arr ((Limiter.byte p RateLimiter.init).run arr) (·.2)
    (∀ c, usedIn p.P h c < p.L + maxIn p.P h c) ∧ overshootOk p.L p.P h = true := by
  obtain ⟨s', lo', r'⟩ := byte_run_reachN p arr (ReachN.init (p := p)) hs hn
  have hb := fun c => mqtt_bytes_overshoot_lt_packet hL hP hT r' c
  exact ⟨hb, overshootOk_of hb⟩

/-- the request limiter asks one permit per packet: its run is the byte limiter's run over sizes 1 -/
theorem request_run_eq_byte_run (p : Policy) : ∀ (arr : List (Int × Int)) (s : RL),
    (Limiter.request p s).run arr = (Limiter.byte p s).run (arr.map (fun a => (a.1, 1)))
  | [], _ => by simp [Limiter.run]
  | (now, n) :: rest, s => by
    simp only [Limiter.run, Limiter.acquire, List.map_cons]
    rw [request_run_eq_byte_run p rest]

/-- **MQTT request limiter over the whole packet sequence, in the judge's terms**: per period at most
`requestRate` packets are admitted by `Limiter.run`; the judge's `requestsOk` accepts the run. -/
theorem mqtt_request_run_bound {p : Policy} (hL : 0 < p.L) (hP : 0 < p.P) (hT : p.T = 0)
    (arr : List (Int × Int)) (hs : Sorted 0 (arr.map (·.1))) :
    let h := runHist arr ((Limiter.request p RateLimiter.init).run arr) (fun _ => 1)
    (∀ c, usedIn p.P h c ≤ p.L) ∧ requestsOk p.L p.P h = true := by
  have hs' : Sorted 0 ((arr.map (fun a => (a.1, (1 : Int)))).map (·.1)) := by
    rwa [List.map_map, show ((·.1) ∘ fun a : Int × Int => (a.1, (1 : Int))) = (·.1) from rfl]
  obtain ⟨s', lo', r'⟩ := byte_run_reachN p (arr.map (fun a => (a.1, 1))) (ReachN.init (p := p)) hs'
    (fun a ha => by obtain ⟨x, _, rfl⟩ := List.mem_map.mp ha; exact Int.zero_le_ofNat 1)
  have heq : runHist (arr.map (fun a => (a.1, (1 : Int))))
      ((Limiter.byte p RateLimiter.init).run (arr.map (fun a => (a.1, 1)))) (·.2) =
      runHist arr ((Limiter.request p RateLimiter.init).run arr) (fun _ => 1) := by
    rw [request_run_eq_byte_run]
    simp [runHist, List.zip_map_left, List.map_map]
  rw [List.nil_append, heq] at r'
  have hb := fun c => mqtt_request_bound hL hP hT r' (fun e he => mem_runHist_const he) c
  exact ⟨hb, requestsOk_of hb⟩

/-- the judge's arrival times are non-decreasing from 0 (the hypothesis `Sorted 0` of the run theorems) -/
theorem arrivalTimes_sorted : ∀ (n : Nat) (t : Int) (dts : List Int), Sorted t (arrivalTimes t dts n)
  | 0, _, _ => by simp [arrivalTimes, Sorted]
  | n + 1, t, dts => by
    simp only [arrivalTimes, Sorted]
    refine ⟨by split <;> omega, arrivalTimes_sorted n _ _⟩

/-- the multi limiter `[requests, bytes]` over a whole packet sequence: both per-dimension histories are
extended by the flag `Limiter.run` returned (one permit resp. `size` permits per packet) -/
theorem multi_run_reachM (L0 L1 P : Int) : ∀ (arr : List (Int × Int)) {s h0 h1 lo}, ReachM L0 L1 P s h0 h1 lo →
    Sorted lo (arr.map (·.1)) → (∀ a ∈ arr, 0 ≤ a.2) →
    ∃ s' lo', ReachM L0 L1 P s'
      (h0 ++ runHist arr ((Limiter.multi ⟨[L0, L1], P, 0⟩ s).run arr) (fun _ => 1))
      (h1 ++ runHist arr ((Limiter.multi ⟨[L0, L1], P, 0⟩ s).run arr) (·.2)) lo'
  | [], s, h0, h1, lo, r, _, _ => ⟨s, lo, by simpa [runHist] using r⟩
  | (now, n) :: rest, s, h0, h1, lo, r, hs, hn => by
    simp only [List.map_cons, Sorted] at hs
    have hn0 : 0 ≤ n := hn (now, n) (List.mem_cons_self ..)
    obtain ⟨s', lo', r'⟩ := multi_run_reachM L0 L1 P rest (ReachM.step now 1 n r hs.1 (by decide) hn0) hs.2
      (fun a ha => hn a (List.mem_cons_of_mem _ ha))
    refine ⟨s', lo', ?_⟩
    simpa [runHist, Limiter.run, Limiter.acquire, List.append_assoc] using r'

/-- **MQTT multi limiter over the whole packet sequence** (`requestRate` and `bytesRate` both set): per period
`Limiter.run` admits at most `requestRate` packets, and the admitted bytes stay below `bytesRate` + the largest
admitted packet; `overshootOk` accepts the byte history. -/
theorem mqtt_multi_run_bounds {L0 L1 P : Int} (hL0 : 0 < L0) (hL1 : 0 < L1) (hP : 0 < P)
    (arr : List (Int × Int)) (hs : Sorted 0 (arr.map (·.1))) (hn : ∀ a ∈ arr, 0 ≤ a.2) :
    let flags := (Limiter.multi ⟨[L0, L1], P, 0⟩ (minit ⟨[L0, L1], P, 0⟩)).run arr
    (∀ c, usedIn P (runHist arr flags (fun _ => 1)) c ≤ L0) ∧
    (∀ c, usedIn P (runHist arr flags (·.2)) c < L1 + maxIn P (runHist arr flags (·.2)) c) ∧
    overshootOk L1 P (runHist arr flags (·.2)) = true := by
  obtain ⟨s', lo', r'⟩ := multi_run_reachM L0 L1 P arr (ReachM.init (L0 := L0) (L1 := L1) (P := P)) hs hn
  have hb := fun c => mqtt_multi_bounds hL0 hL1 hP r' c
  exact ⟨fun c => (hb c).2.2 (fun e he => mem_runHist_const he), fun c => (hb c).2.1,
    overshootOk_of fun c => (hb c).2.1⟩

/-- non-vacuity: 2 packets and 10 bytes per second; sizes 4, 7, 1 at t = 0 (the third packet is refused by the
request dimension although bytes would fit), then 7 in the next second -/
example :
    let arr : List (Int × Int) := [(0, 4), (0, 7), (0, 1), (1000000000, 7)]
    let flags := (Limiter.multi ⟨[2, 10], 1000000000, 0⟩ (minit ⟨[2, 10], 1000000000, 0⟩)).run arr
    flags = [true, true, false, true] ∧ usedIn 1000000000 (runHist arr flags (·.2)) 0 = 11 ∧
    Sorted 0 (arr.map (·.1)) := by
  refine ⟨by decide, by decide, by simp [Sorted]⟩

theorem arrivalTimes_length : ∀ (n : Nat) (t : Int) (dts : List Int), (arrivalTimes t dts n).length = n
  | 0, _, _ => rfl
  | n + 1, t, dts => by simp [arrivalTimes, arrivalTimes_length n]

/-- **the MQTT judge's spec accepts the model** — for every `RateLimit` spec, every sequence of clock advances
and every sequence of (non-negative) packet sizes, the run of whatever limiter `newLimiter` builds satisfies the
two clauses the judge evaluates on the observed flags (`requestsOk` when `requestRate > 0`, `overshootOk` when
`bytesRate > 0`, period = the configured whole seconds, at least 1). -/
theorem mqtt_spec_accepts_model (sp : RateLimitSpec) (dts pk : List Int) (hpk : ∀ n ∈ pk, 0 ≤ n) :
    let arr := (arrivalTimes 0 dts pk.length).zip pk
    let P := (if sp.timePeriod > 0 then sp.timePeriod else 1) * second
    let got := (newLimiter (some sp)).run arr
    (0 < sp.requestRate → requestsOk sp.requestRate P (runHist arr got (fun _ => 1)) = true) ∧
    (0 < sp.bytesRate → overshootOk sp.bytesRate P (runHist arr got (·.2)) = true) := by
  intro arr P got
  have hfst : arr.map (·.1) = arrivalTimes 0 dts pk.length :=
    List.map_fst_zip (by rw [arrivalTimes_length])
  have hs : Sorted 0 (arr.map (·.1)) := by rw [hfst]; exact arrivalTimes_sorted _ _ _
  have hn : ∀ a ∈ arr, 0 ≤ a.2 := fun a ha => hpk a.2 (List.of_mem_zip (a := a.1) (b := a.2) ha).2
  have hP : 0 < P := period_pos sp.timePeriod
  simp only [got, newLimiter]
  rw [show (if sp.timePeriod > 0 then sp.timePeriod else 1) * second = P from rfl]
  clear_value P
  split_ifs with h0 h1 h2 h3
  · exact ⟨fun h => absurd h0.1 (ne_of_gt h), fun h => absurd h0.2 (ne_of_gt h)⟩
  · have hb := mqtt_multi_run_bounds h1.1 h1.2 hP arr hs hn
    exact ⟨fun _ => requestsOk_of hb.1, fun _ => hb.2.2⟩
  · have hb := mqtt_request_run_bound (p := ⟨sp.requestRate, P, 0⟩) h2 hP rfl arr hs
    exact ⟨fun _ => hb.2, fun h => absurd ⟨h2, h⟩ h1⟩
  · have hb := mqtt_bytes_run_bound (p := ⟨sp.bytesRate, P, 0⟩) h3 hP rfl arr hs hn
    exact ⟨fun h => absurd h h2, fun _ => hb.2⟩
  · exact ⟨fun h => absurd h h2, fun h => absurd h h3⟩

/-- non-vacuity of the varied clock: request rate 2 per second, five packets at 0, 0, 0, 1 s, 1 s; and
`requestsOk` is not true of everything: it refuses the flags that admit all five -/
example :
    let arr := (arrivalTimes 0 [0, 0, 0, 1000000000] 5).zip [3, 3, 3, 3, 3]
    (newLimiter (some ⟨2, 0, 1⟩)).run arr = [true, true, false, true, true] ∧
    requestsOk 2 1000000000 (runHist arr [true, true, true, true, true] (fun _ => 1)) = false := by
  refine ⟨by decide, by decide⟩

end Audit

end EgVerif.C09
