import EgVerif.Proofs.IPFilter
import EgVerif.Proofs.Mux
import EgVerif.Gen.FactsC05
import EgVerif.Proofs.IPFilterIR
import EgVerif.Proofs.MuxCache
import EgVerif.Proofs.MuxSearchIR
/-!
# C05 — IP filter: denied clients never reach a pipeline, allowed ones are unaffected

Part 1: `Model/IPFilter.lean` (`New` per entry, `Allow`) — decision table and prefix semantics.
Part 2: `Model/Mux.lean` — the router with filters at server / rule / path level, route cache off
(the cache-on case is C12's `cache_transparent`). "The filters applying to a request" is
`Spec.applying`: the server filter, the filter of every host-matching rule up to and including
the rule holding the first full match (all of them when nothing matches), and the filter of the
first fully matching path — exactly what the cache-less search consults (`search_eq_filtered_spec`).
All theorems hold for every configuration, request, regexp oracle and filter oracle.
-/
namespace EgVerif.C05
open EgVerif.IPFilter EgVerif.Mux EgVerif.Mux.Spec

/-- **Decision table**: `Allow` on a parsable address is the negation of the statement's `denied`. -/
theorem allow_iff_table (f : Filter) (a : Addr) : IPFilter.allow f (some a) = !IPFilter.denied f a := by
  simp only [IPFilter.allow, IPFilter.denied, deniedTable]
  cases rangerContains f.allow a <;> cases rangerContains f.block a <;> cases f.blockByDefault <;> rfl

/-- The table in words: denied iff in a blocked entry and in no allowed one, or in neither or in
both with `blockByDefault`. -/
theorem denied_iff (f : Filter) (a : Addr) :
    IPFilter.denied f a = true ↔
      (rangerContains f.block a = true ∧ rangerContains f.allow a = false) ∨
      ((rangerContains f.block a = true ↔ rangerContains f.allow a = true) ∧ f.blockByDefault = true) := by
  unfold IPFilter.denied deniedTable
  cases rangerContains f.allow a <;> cases rangerContains f.block a <;> cases f.blockByDefault <;> decide

/-- An address string that does not parse gets the default. -/
theorem allow_unparsable (f : Filter) : IPFilter.allow f none = !f.blockByDefault := rfl

theorem rangerContains_iff (r : List Cidr) (a : Addr) :
    rangerContains r a = true ↔ ∃ c ∈ r, contains c a = true := by
  simp [rangerContains]

/-- **Standard prefix semantics**: an address lies in a CIDR iff it is of the same family and its
`len` most significant bits equal the network's. -/
theorem cidr_contains_iff_prefix (c : Cidr) (a : Addr) (hlen : c.len ≤ a.width) (ha : a.WF)
    (hc : c.addr.WF) :
    contains c a = true ↔
      c.addr.sameFam a = true ∧ prefixAgree a.width c.len a.val c.addr.val := by
  unfold contains
  simp only [Bool.and_eq_true, beq_iff_eq]
  exact and_congr_right fun hf => div_eq_iff_prefixAgree hlen ha (sameFam_width hf ▸ hc)

/-- A single-address entry is a full-length network: it contains exactly that address. -/
theorem host_entry_is_full_length (a b : Addr) :
    mkCidr (.ip a) = some ⟨a, a.width⟩ ∧ (contains ⟨a, a.width⟩ b = true ↔ a = b) := by
  refine ⟨rfl, ?_⟩
  unfold contains
  simp only [Bool.and_eq_true, beq_iff_eq]
  constructor
  · rintro ⟨hf, hd⟩
    rw [← sameFam_width hf, Nat.sub_self, Nat.pow_zero, Nat.div_one, Nat.div_one] at hd
    exact sameFam_val_eq hf hd.symm
  · rintro rfl
    exact ⟨by cases a <;> rfl, rfl⟩

/-- A prefix of length 0 contains every address of its family; none of the other family. -/
theorem len0_contains_family (c a : Addr) (ha : a.WF) (hc : c.WF) :
    contains ⟨c, 0⟩ a = c.sameFam a := by
  unfold contains
  cases hf : c.sameFam a
  · rfl
  · rw [Nat.sub_zero, Nat.div_eq_of_lt ha, Nat.div_eq_of_lt (sameFam_width hf ▸ hc)]; rfl

/-- `New` (repaired): an IPv4-mapped IPv6 CIDR `::ffff:a.b.c.d/(96+n)` — which `net.ParseCIDR`
returns as an IPv4 address with a 128-bit mask — is the IPv4 network `a.b.c.d/n`; every other
entry keeps the prefix length the standard library reports. The family of an entry is always the
family of its address (`To4()`), never its spelling. -/
theorem new_entry_family_and_length :
    (∀ n ones, mkCidr (.cidr (.v4 n) ones 128) = some ⟨.v4 n, ones - 96⟩) ∧
    (∀ n ones, mkCidr (.cidr (.v4 n) ones 32) = some ⟨.v4 n, ones⟩) ∧
    (∀ n ones bits, mkCidr (.cidr (.v6 n) ones bits) = some ⟨.v6 n, ones⟩) ∧
    (∀ e c, mkCidr e = some c → ∃ a, (e = .ip a ∨ ∃ o b, e = .cidr a o b) ∧ c.addr = a) ∧
    mkCidr .bad = none := by
  refine ⟨fun _ _ => rfl, fun _ _ => rfl, fun _ _ _ => rfl, ?_, rfl⟩
  intro e c h
  cases e with
  | ip a => cases h; exact ⟨a, Or.inl rfl, rfl⟩
  | cidr a o b => cases a <;> cases h <;> exact ⟨_, Or.inr ⟨o, b, rfl⟩, rfl⟩
  | bad => cases h

/-- The side condition `c.len ≤ a.width` of `cidr_contains_iff_prefix` is met by every
network `New` inserts, given what the standard library guarantees of a parsed CIDR (`ones ≤ bits`, and
`bits` is 32 or 128, 128 for an IPv6 address): `contains` never runs into the truncated subtraction
`width - len`. -/
theorem new_entry_len_le_width (e : RawEntry) (c : Cidr) (h : mkCidr e = some c)
    (hstd : ∀ a ones bits, e = .cidr a ones bits → ones ≤ bits ∧ (bits = 32 ∨ bits = 128) ∧
      (a.width = 128 → bits = 128)) :
    c.len ≤ c.addr.width := by
  cases e with
  | ip a => cases h; exact Nat.le_refl _
  | bad => cases h
  | cidr a ones bits =>
    obtain ⟨h1, h2, h3⟩ := hstd a ones bits rfl
    cases a with
    | v4 n =>
      cases h
      rcases h2 with rfl | rfl
      · exact h1
      · exact Nat.sub_le_of_le_add h1
    | v6 n =>
      cases h
      rw [h3 rfl] at h1
      exact h1

/-- **Master equation** (cache off): the search is the filter-free reference router of C01, except
that it answers 403 exactly when an applying filter denies the client address. -/
theorem search_eq_filtered_spec (o : Oracle) (c : Cfg) (q : Req) :
    search o c q = if denied o c q then .code 403 else route o c q :=
  search_eq_routeF o c q

/-- **Denied clients never reach a handler**: if any applying filter denies, the client gets 403
and no handler is invoked — whether or not the route exists, whatever the backends. -/
theorem denied_never_handled (o : Oracle) (σ : Nat → String → String → String) (c : Cfg) (x : Bool)
    (bs : List String) (q : Req) (h : Spec.denied o c q = true) :
    search o c q = .code 403 ∧ serve o σ c x bs q = .status 403 := by
  have : search o c q = .code 403 := by rw [search_eq_routeF]; simp [routeF, h]
  exact ⟨this, by simp [serve, serveRoute, this]⟩

/-- **Undenied clients are unaffected**: if no applying filter denies, the request is routed and
served exactly as if no filter existed (every filter replaced by one that allows everybody). -/
theorem undenied_same_as_unfiltered (o : Oracle) (σ : Nat → String → String → String) (c : Cfg)
    (x : Bool) (bs : List String) (q : Req) (h : Spec.denied o c q = false) :
    search o c q = search (unfiltered o) c q ∧
    serve o σ c x bs q = serve (unfiltered o) σ c x bs q := by
  have : search o c q = search (unfiltered o) c q := by
    rw [search_unfiltered, search_eq_routeF]; simp [routeF, h]
  exact ⟨this, by simp [serve, this]⟩

/-- A handler is invoked only for clients that every applying filter allows. -/
theorem handled_implies_allowed (o : Oracle) (σ : Nat → String → String → String) (c : Cfg) (x : Bool)
    (bs : List String) (q : Req) (b p hst xf : String)
    (h : serve o σ c x bs q = .handled b p hst xf) :
    ∀ f ∈ applying o c q, allowIP o f q.ip = true := by
  cases hd : Spec.denied o c q
  · intro f hf
    unfold Spec.denied deniedBy at hd
    have := (List.any_eq_false.mp hd) f hf
    simpa using this
  · rw [(denied_never_handled o σ c x bs q hd).2] at h; cases h

/-- The server-level filter applies to every request; the filter of a host-matching rule `ri`
applies whenever no earlier host-matching rule holds a full match (in particular the first
host-matching rule's filter always applies). -/
theorem server_filter_applies (o : Oracle) (c : Cfg) (q : Req) : c.ipFilter ∈ applying o c q := by
  simp [applying]

/-- `applying` is *defined* as what the search consults; these are its declarative
consequences, so that the notion can be read without the loop: every applying filter is the server's, the
filter of a host-matching rule, or the filter of a fully matching path of such a rule — never a filter of a
rule whose host condition rejects the request, never a path filter of an entry that does not match. -/
theorem applying_sound (o : Oracle) (c : Cfg) (q : Req) (f : Option Nat) (hf : f ∈ applying o c q) :
    f = c.ipFilter ∨ (∃ r ∈ c.rules, hostOK o r q = true ∧
      (f = r.ipFilter ∨ ∃ e ∈ r.paths, f = e.ipFilter ∧ ∃ ri pi, full o q (ri, pi, e) = true)) := by
  rcases List.mem_cons.mp hf with hf | hf
  · exact Or.inl hf
  · exact Or.inr (mem_applyingFrom hf)

/-- 403 is produced by the cache-less search only through a denying applying filter. -/
theorem forbidden_only_if_denied (o : Oracle) (c : Cfg) (q : Req) (h : search o c q = .code 403) :
    Spec.denied o c q = true := by
  cases hd : Spec.denied o c q
  · exfalso
    rw [search_eq_routeF, routeF, hd] at h
    have h403 := (routeOf_eq_code.mp h).2
    unfold failCode at h403
    split at h403
    · omega
    · split at h403 <;> omega
  · rfl

/-- With the oracle the judge uses (`muxOracle`: filter id ↦ the `IPFilter` model on the parsed
client address), "an applying filter denies" means: some applying filter id `i` names a filter
whose decision table denies the address (or, for an unparsable address, that blocks by default). -/
theorem denied_iff_table_denies (ρ : Nat → String → Bool) (fs : List Filter) (a : Option Addr)
    (c : Cfg) (q : Req) :
    Spec.denied (muxOracle ρ fs a) c q = true ↔
      ∃ i f, some i ∈ applying (muxOracle ρ fs a) c q ∧ fs[i]? = some f ∧
        (match a with
         | some a => IPFilter.denied f a = true
         | none => f.blockByDefault = true) := by
  unfold Spec.denied deniedBy
  rw [List.any_eq_true]
  constructor
  · rintro ⟨fo, hmem, hd⟩
    cases fo with
    | none => simp [allowIP] at hd
    | some i =>
      simp only [allowIP, muxOracle] at hd
      cases hf : fs[i]? with
      | none => simp [hf] at hd
      | some f =>
        simp only [hf] at hd
        refine ⟨i, f, hmem, hf, ?_⟩
        cases a with
        | none => simpa [IPFilter.allow] using hd
        | some a => rw [allow_iff_table] at hd; simpa using hd
  · rintro ⟨i, f, hmem, hf, hd⟩
    refine ⟨some i, hmem, ?_⟩
    simp only [allowIP, muxOracle, hf]
    cases a with
    | none => simp only at hd; simp [IPFilter.allow, hd]
    | some a => simp only at hd; rw [allow_iff_table, hd]; rfl

/-! ### Part 2b — cache on, across in-place reloads

The statement's "with or without the route cache and whatever requests preceded it", for histories of
requests **and reloads** on one `mux` (`MuxCache.Op`, `runOps`: cache-hit branch, put sites, fresh cache per
`mux.reload`). `reqCfgs {} ops` pairs the `k`-th request with the configuration current when it is
served. Both theorems hold for every history, eviction behaviour and oracle; they are C12's
`cache_transparent_across_reloads` (here through `runOps_eq`) composed with the cache-less theorems above. -/

open EgVerif.MuxCache in
/-- the `k`-th response of the (cached, reloaded) mux is the cache-less search under the configuration
current at request time -/
theorem response_across_reloads (o : Oracle) (strip : String → String) (ev : Nat → Key → Bool)
    (ops : List Op) (hw : OpsWF strip ops) (k : Nat) (c : Cfg) (q : Req)
    (hk : (reqCfgs {} ops)[k]? = some (c, q)) :
    (runOps o ev 0 newMux ops)[k]? = some (search o c q) := by
  rw [runOps_eq o strip ev ops 0 newMux hw (instInv_newMux o strip)]
  simp [refOps, newMux, hk]

open EgVerif.MuxCache in
/-- **Denied clients never reach a handler — cache on, across reloads**: if a filter applying to the
request *under the configuration current at request time* denies the client, the response is 403 and no
handler runs, whatever was cached by whichever earlier generation. -/
theorem denied_never_handled_across_reloads (o : Oracle) (σ : Nat → String → String → String) (x : Bool)
    (bs : List String) (strip : String → String) (ev : Nat → Key → Bool) (ops : List Op)
    (hw : OpsWF strip ops) (k : Nat) (c : Cfg) (q : Req) (hk : (reqCfgs {} ops)[k]? = some (c, q))
    (h : Spec.denied o c q = true) :
    (runOps o ev 0 newMux ops)[k]? = some (.code 403) ∧
    ((runOps o ev 0 newMux ops)[k]?).map (serveRoute σ x bs q) = some (.status 403) := by
  rw [response_across_reloads o strip ev ops hw k c q hk, (denied_never_handled o σ c x bs q h).1]
  exact ⟨rfl, rfl⟩

open EgVerif.MuxCache in
/-- **Undenied clients are unaffected — cache on, across reloads**: if no applying filter of the current
configuration denies, the response is the one of the current configuration with all filters removed
(in particular a filter of an earlier generation never refuses anybody). -/
theorem undenied_same_as_unfiltered_across_reloads (o : Oracle) (σ : Nat → String → String → String)
    (x : Bool) (bs : List String) (strip : String → String) (ev : Nat → Key → Bool) (ops : List Op)
    (hw : OpsWF strip ops) (k : Nat) (c : Cfg) (q : Req) (hk : (reqCfgs {} ops)[k]? = some (c, q))
    (h : Spec.denied o c q = false) :
    (runOps o ev 0 newMux ops)[k]? = some (search (unfiltered o) c q) ∧
    ((runOps o ev 0 newMux ops)[k]?).map (serveRoute σ x bs q) = some (serve (unfiltered o) σ c x bs q) := by
  rw [response_across_reloads o strip ev ops hw k c q hk, (undenied_same_as_unfiltered o σ c x bs q h).1]
  exact ⟨rfl, rfl⟩

open EgVerif.MuxCache in
/-- **Cached 404 / 405 (and cached paths) versus IP filters**: whatever a miss for `q` stores under its key —
a path *or a failure code* — a later request `q'` with the same key whose client is denied by a filter
applying to `q'` gets 403 from the hit branch, never the cached 404 / 405 / path; an undenied one gets
exactly the filter-free answer. (Before the repair c41a2a6 cached codes were returned before any
filter: `C12.old_ip_bypass_404`.) -/
theorem cached_entry_respects_filters (o : Oracle) (c : Cfg) (strip : String → String) (q q' : Req)
    (hq : WF strip q) (hq' : WF strip q') (hk : keyOf q' = keyOf q) (r : CRoute)
    (h : (searchMiss o c q).2 = some r) :
    (Spec.denied o c q' = true → hit o r q' = .code 403) ∧
    (Spec.denied o c q' = false → hit o r q' = search (unfiltered o) c q') := by
  have hs := put_sound o c (sameKey_of_key hq hq' hk.symm) r h
  constructor
  · intro hd; rw [hs, (denied_never_handled o (fun _ p _ => p) c false [] q' hd).1]
  · intro hd; rw [hs, (undenied_same_as_unfiltered o (fun _ p _ => p) c false [] q' hd).1]

/-- Non-vacuity: the 404 cached for `/nothing` under `cfgR2` (server filter 0 blocks 10.0.0.1) carries the
server filter; the blocked client gets 403 from the hit, the other one the cached 404. -/
example : (EgVerif.MuxCache.searchMiss EgVerif.C12w.oR EgVerif.C12w.cfgR2 (EgVerif.C12w.qN "10.0.0.2")).2 = some ⟨.code 404, [0]⟩ ∧
    EgVerif.MuxCache.hit EgVerif.C12w.oR ⟨.code 404, [0]⟩ (EgVerif.C12w.qN "10.0.0.1") = .code 403 ∧
    EgVerif.MuxCache.hit EgVerif.C12w.oR ⟨.code 404, [0]⟩ (EgVerif.C12w.qN "10.0.0.2") = .code 404 := by decide +kernel

/-- Non-vacuity (C12's witness history): generation 2 adds a server filter that blocks 10.0.0.1; the key
`/x` was cached by generation 1; request 2 (the third) comes from the blocked client. -/
example : (EgVerif.MuxCache.reqCfgs {} EgVerif.C12w.histR)[2]? = some (EgVerif.C12w.cfgR2, EgVerif.C12w.qR "10.0.0.1") ∧
    Spec.denied EgVerif.C12w.oR EgVerif.C12w.cfgR2 (EgVerif.C12w.qR "10.0.0.1") = true ∧
    Spec.denied EgVerif.C12w.oR EgVerif.C12w.cfgR2 (EgVerif.C12w.qR "10.0.0.2") = false ∧
    (EgVerif.MuxCache.runOps EgVerif.C12w.oR (fun _ _ => false) 0 EgVerif.MuxCache.newMux EgVerif.C12w.histR)[2]? = some (.code 403) := by
  decide +kernel

/-- `forbidden` is 403; `Allow`'s default and switch are the modelled table. That `search` consults
exactly the server, rule and path filter, in that order, and that a denial returns `forbidden`, is not
a textual fact here (`allowIPArgs`, `allowClosureDelegates`, `denyReturnsForbidden` are generated for the
reader only): it is proved semantically by `search_regenerated_from_source` below (the translated body
of `search` equals the model on every input), which survives renamings and restructurings of the
checks. `New` chooses family and mask by `To4()` (next theorem). -/
theorem ipfilter_facts :
    Gen.FactsC05.extractionFailed = false ∧
    Gen.FactsC05.forbiddenIs403 = true ∧
    Gen.FactsC05.allowDefault = "!f.spec.BlockByDefault" ∧
    Gen.FactsC05.allowSwitch = ["allowed && blocked => defaultResult", "allowed => true",
      "blocked => false", "default => defaultResult"] :=
  ⟨rfl, rfl, rfl, rfl⟩

/-- Repair `fixes/C05-v4mapped.patch` is in place. -/
theorem new_mask_by_family :
    Gen.FactsC05.newTo4Calls ≥ 2 ∧ Gen.FactsC05.newColonCounts = 0 := by decide +kernel

private def a1234 : Addr := .v4 0x01020304
private def fEx : Filter := IPFilter.new false [.cidr (.v4 0x01020300) 24 32] [.ip a1234, .cidr (.v4 0x01020000) 112 128]

example : a1234.WF := by show (0x01020304 : Nat) < 2 ^ 32; decide
/-- 1.2.3.4 is in the allowed 1.2.3.0/24 and in the blocked host entry: both ⇒ default (allow);
1.2.9.9 only in the blocked ::ffff:1.2.0.0/112 = 1.2.0.0/16 ⇒ denied; 1.3.0.0 in neither. -/
example : IPFilter.allow fEx (some a1234) = true ∧ IPFilter.allow fEx (some (.v4 0x01020909)) = false ∧
    IPFilter.allow fEx (some (.v4 0x01030000)) = true ∧ IPFilter.allow { fEx with blockByDefault := true } none = false := by decide +kernel
example : contains ⟨.v4 0x01020000, 16⟩ (.v4 0x0102ffff) = true ∧ contains ⟨.v4 0x01020000, 16⟩ (.v4 0x01030000) = false ∧
    contains ⟨.v4 0, 0⟩ (.v6 1) = false := by decide +kernel

private def oF : Oracle := muxOracle (fun _ _ => false) [fEx] (some (.v4 0x01020909))
private def cF : Cfg := { rules := [
  { host := "a", paths := [{ path := "/x", methods := ["POST"], backend := "b0" }] },
  { host := "a", ipFilter := some 0, paths := [{ path := "/x", backend := "b1" }] } ] }
private def qF : Req := { host := "a", hostNoPort := "a", method := "GET", path := "/x", hdr := [], ip := "1.2.9.9" }

/-- the denying filter sits on the second rule, reached after a method mismatch in the first -/
example : Spec.denied oF cF qF = true ∧ search oF cF qF = .code 403 ∧
    search (unfiltered oF) cF qF = .path 1 0 { path := "/x", backend := "b1" } := by decide +kernel
/-- a POST is served by the first rule: the second rule's filter does not apply -/
example : Spec.denied oF cF { qF with method := "POST" } = false ∧
    search oF cF { qF with method := "POST" } = .path 0 0 { path := "/x", methods := ["POST"], backend := "b0" } := by decide +kernel

/-- `Gen.FactsC05IR.allowIR` is re-translated on every run from the current body of `IPFilter.Allow`
(go/ast → Lean, `harness/factextract/irlib.go`); it is the hand-written `allow` on every input. -/
theorem allow_regenerated_from_source (f : Filter) (ip : Option Addr) :
    Gen.FactsC05IR.extractionFailed = false ∧ Gen.FactsC05IR.allowIR f ip = IPFilter.allow f ip :=
  ⟨rfl, IPFilter.allow_regenerated_from_source f ip⟩

/-- the same for the loop of `IPFilters.Allow` (generated structural recursion) and `allowAll`. -/
theorem allowAll_regenerated_from_source (fs : List Filter) (ip : Option Addr) :
    Gen.FactsC05IR.extractionFailed = false ∧ Gen.FactsC05IR.allowAllIR fs ip = IPFilter.allowAll fs ip :=
  ⟨rfl, IPFilter.allowAll_regenerated_from_source fs ip⟩

/-- **`muxInstance.search`, IP-filter part**: the generated `searchIR` (the current body of
`search`, closure `allow` inlined) answers, on a miss, with the model's cache-less search — so it is 403
exactly when an applying filter denies (`search_eq_filtered_spec`) — and on a hit with `MuxCache.hit`,
which re-checks the recorded filters. -/
theorem search_regenerated_from_source (o : Oracle) (c : Cfg) (q : Req) :
    Gen.FactsMuxIR.extractionFailed = false ∧
    (Gen.FactsMuxIR.searchIR o c q none).1 =
      MuxCache.routeGo (if Spec.denied o c q then .code 403 else route o c q) ∧
    (∀ r : MuxCache.CRoute, (Gen.FactsMuxIR.searchIR o c q (some r.go)).1 = MuxCache.routeGo (MuxCache.hit o r q)) := by
  refine ⟨rfl, ?_, ?_⟩
  · rw [MuxCache.search_regenerated_from_source, MuxCache.searchMiss_fst, search_eq_routeF]; rfl
  · intro r; rw [MuxCache.search_regenerated_from_source_hit]

/-- `allowIP`: a nil filter allows, otherwise the filter's `Allow`; never a nil dereference. -/
theorem allowIP_regenerated_from_source (o : Oracle) (f : Option Nat) (ip : String) :
    Gen.FactsMuxIR.extractionFailed = false ∧ Gen.FactsMuxIR.allowIPIR o f ip = some (allowIP o f ip) :=
  ⟨rfl, MuxCache.allowIP_regenerated_from_source o f ip⟩

/-- **`ipfilter.New`, mask / classification logic**: `Gen.FactsC05IR.rangerIR` is re-translated
on every run from the current body of the closure `rangerFromIPCIDRs` of `New` — `net.ParseIP` first, mask
chosen by `To4()`, else `net.ParseCIDR`, junk skipped, an IPv4-mapped CIDR (`To4() != nil` with a 16-byte
mask) converted to the IPv4 network with the last 4 mask bytes — and it is the model's `ranger`
(= `filterMap mkCidr`) for every list of entries (`EntryWF`: a mask's bit size is 8 × its byte length).
This, not the weak syntactic fact `new_mask_by_family`, is the tie of the repaired code. -/
theorem new_regenerated_from_source (es : List RawEntry) (hw : ∀ e ∈ es, IPFilter.EntryWF e) :
    Gen.FactsC05IR.extractionFailed = false ∧ Gen.FactsC05IR.rangerIR es = ranger es :=
  ⟨rfl, IPFilter.new_regenerated_from_source es hw⟩

/-- non-vacuity: a mixed list incl. the IPv4-mapped spellings of the genuine defect (d1f6433) -/
example : Gen.FactsC05IR.rangerIR [.ip (.v4 0x01020304), .cidr (.v4 0x01020000) 112 128, .bad, .cidr (.v6 1) 64 128,
      .cidr (.v4 0x0a000000) 8 32] =
    [⟨.v4 0x01020304, 32⟩, ⟨.v4 0x01020000, 16⟩, ⟨.v6 1, 64⟩, ⟨.v4 0x0a000000, 8⟩] := by decide +kernel

end EgVerif.C05
