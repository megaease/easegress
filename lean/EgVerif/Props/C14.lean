import EgVerif.Proofs.Topic
import EgVerif.Gen.FactsC14
import EgVerif.Proofs.TopicIR
import EgVerif.Proofs.TopicRemoveIR
import EgVerif.Proofs.TopicJudge
/-!
# C14 — MQTT topic routing equals MQTT 3.1.1 filter matching over any subscribe history

Property theorems about `Model/Topic.lean` (a mirror of `pkg/object/mqttproxy/topic.go` and of the
subscribe / unsubscribe / disconnect paths of `client.go`), for **every** trie, **every** topic and
**every** finite history of operations (no bound on sizes). Helper lemmas: `Proofs/Topic.lean`.

The model mirrors the *repaired* `TopicManager.subscribe / unsubscribe` (`fixes/C14-subscribe-validate-first`):
on the unrepaired code a SUBSCRIBE `[good, malformed]` leaves `good` in the trie but not in the session, so a
later disconnect does not remove it (witness under "Non-vacuity and witnesses" below).
-/
namespace EgVerif.C14
open EgVerif.Topic

/-! ### splitTopic: malformed filters are rejected, well-formed ones are split at every '/' -/

/-- `splitTopic` accepts exactly the strings in which a wildcard occupies a whole level and `#` is last. -/
theorem split_ok_iff_wellFormed (s : List Char) : (split s).isSome = true ↔ wellFormed s = true := by
  rw [split_isSome]

/-- …and then returns the levels between the '/' separators. -/
theorem split_levels (s : List Char) (ls : List Level) (h : split s = some ls) : ls = splitSlash s :=
  (split_some h).2

example : split "a/+/#".toList = some ["a".toList, plus, hash] := by decide +kernel
example : split "".toList = some [[]] := by decide +kernel
example : split "a//b".toList = some ["a".toList, [], "b".toList] := by decide +kernel
example : split "a/#/b".toList = none := by decide +kernel
example : split "a+/b".toList = none := by decide +kernel
example : split "a/b#".toList = none := by decide +kernel

/-! ### findSubscribers = the specification's matching, for every well-formed trie -/

theorem mem_specFind (s : Subs) (topic : List Level) (x : Client × QoS) :
    x ∈ specFind s topic ↔ ∃ f, (f, x.1, x.2) ∈ s ∧ «matches» f topic = true :=
  Topic.mem_specFind s topic x

/-- **Routing = matching.** If the trie obeys the map discipline (`WF`) and stores exactly the live
subscriptions `s` (`R`), then for every topic the hits of `findSubscribers` are exactly the
`(client, qos)` pairs of the live subscriptions whose filter matches the topic under MQTT 3.1.1. -/
theorem find_eq_spec {t : Trie} {s : Subs} (wf : WF t) (u : Uniq s) (r : R t s) (topic : List Level)
    (x : Client × QoS) : x ∈ find t topic ↔ x ∈ specFind s topic :=
  Topic.find_eq_spec wf u r topic x

/-! ### every history refines the abstract subscription set -/

/-- **Refinement over all histories.** After any finite sequence of SUBSCRIBE (several filters, any
QoS, malformed ones included), UNSUBSCRIBE (also of filters never subscribed, malformed ones) and
disconnect events by any clients, the trie stores exactly the abstract live-subscription set
(`Inv.r`), keeps unique keys and has **no empty non-root node** (`Inv.wf`), the sessions cover the
live subscriptions (`Inv.j`) and the abstract set is a map (`Inv.uniq`). -/
theorem history_refines (ops : List Op) : Inv (run State.init ops) (specRun [] ops) :=
  Topic.history_refines ops

/-- **C14 main statement**: after any history, a message on any topic is routed to exactly the
`(client, qos)` pairs of the live subscriptions whose filter matches it. -/
theorem routing_after_any_history (ops : List Op) (topic : List Level) (x : Client × QoS) :
    x ∈ find (run State.init ops).trie topic ↔ x ∈ specFind (specRun [] ops) topic :=
  Topic.routing_after_any_history ops topic x

/-- The QoS reported for a routed client is the QoS of one of that client's own live matching
subscriptions — for every hit, hence for whichever hit the Go map keeps. -/
theorem qos_is_own (ops : List Op) (topic : List Level) (c : Client) (q : QoS)
    (h : (c, q) ∈ find (run State.init ops).trie topic) :
    ∃ f, (f, c, q) ∈ specRun [] ops ∧ «matches» f topic = true :=
  Topic.qos_is_own ops topic c q h

/-- With the repaired `addClients` (`collapseMax`) it is the highest of them. -/
theorem qos_is_own_max (ops : List Op) (topic : List Level) (c : Client) (q : QoS)
    (h : (c, q) ∈ collapseMax (find (run State.init ops).trie topic)) :
    (∃ f, (f, c, q) ∈ specRun [] ops ∧ «matches» f topic = true) ∧
    ∀ f q', (f, c, q') ∈ specRun [] ops → «matches» f topic = true → q' ≤ q :=
  Topic.qos_is_own_max ops topic c q h

/-- the collapsed map has one entry per routed client and loses no client -/
theorem collapse_same_clients (l : List (Client × QoS)) (c : Client) :
    (∃ q, (c, q) ∈ collapseMax l) ↔ ∃ q, (c, q) ∈ l := by
  constructor
  · rintro ⟨q, h⟩; exact ⟨q, (ownMax_some (mem_collapseMax.mp h)).1⟩
  · rintro ⟨q, h⟩
    obtain ⟨q', h'⟩ := ownMax_isSome_of_mem h
    exact ⟨q', mem_collapseMax.mpr h'⟩

/-! ### no residue -/

/-- **No residue.** After any history, every node that still exists in the trie below the root lies
on the path of some *live* subscription: once the last subscriber at or below a filter prefix is
gone, the nodes of that prefix are gone as well (pruning leaves nothing behind). -/
theorem no_residue (ops : List Op) (l : Level) (p : List Level) (n : Trie)
    (h : subAt (run State.init ops).trie (l :: p) = some n) :
    ∃ g c q, ((l :: p) ++ g, c, q) ∈ specRun [] ops := by
  have inv := history_refines ops
  exact subAt_subscription inv.wf inv.uniq inv.r h

/-- …in particular, when no live subscription is left the trie is the empty root again. -/
theorem empty_when_no_subscription (ops : List Op) (h : specRun [] ops = []) :
    (run State.init ops).trie = Trie.empty := by
  have inv := history_refines ops
  exact eq_empty_of_R_nil inv.wf (h ▸ inv.r)

/-! ### unsubscribing what was never subscribed; malformed filters -/

/-- Removing a `(filter, client)` pair that is not subscribed changes no stored subscription (hence,
by `find_eq_spec`, no routing result), whatever else is in the trie; the abstract set is unchanged too. -/
theorem unsubscribe_unknown_is_noop (t : Trie) (s : Subs) (f : Filter) (c : Client)
    (hr : R t s) (hn : s.get f c = none) :
    (∀ g, clientsAt (remove f c t) g = clientsAt t g) ∧ (∀ g c', (s.unsub f c).get g c' = s.get g c') := by
  constructor
  · intro g
    rw [clientsAt_remove]
    split
    · rename_i e; subst e
      exact alErase_noop c _ (by rw [hr]; exact hn)
    · rfl
  · intro g c'
    rw [get_unsub]
    split
    · rename_i e; obtain ⟨e1, e2⟩ := e; subst e1; subst e2; exact hn.symm
    · rfl

/-- A SUBSCRIBE that carries a malformed filter is rejected as a whole: error reported, neither the
trie nor the session changes. -/
theorem malformed_rejected_state_unchanged (st : State) (c : Client) (fs : List (List Char × QoS))
    (p : List Char × QoS) (hp : p ∈ fs) (hbad : wellFormed p.1 = false) :
    step st (.subscribe c fs) = (st, true) := by
  rw [step_subscribe, if_neg]
  rw [Bool.not_eq_true, List.all_eq_false]
  exact ⟨p, hp, by rw [hbad]; exact Bool.false_ne_true⟩

/-- A malformed filter in an UNSUBSCRIBE is skipped (and reported). -/
theorem malformed_unsubscribe_skipped (c : Client) (f : List Char) (r : List (List Char)) (t : Trie)
    (hbad : wellFormed f = false) :
    unsubscribeTM c (f :: r) t = unsubscribeTM c r t ∧
      (step ⟨t, []⟩ (.unsubscribe c (f :: r))).2 = true := by
  have hs : split f = none := by rw [split_eq]; simp [hbad]
  simp [unsubscribeTM, step, hs]

/-! ### regenerated source facts -/

/-- Facts obligation (re-derived from topic.go on every run): the three TopicManager entry points are
critical sections of the manager's lock (so concurrent packets are a sequential history of `step`s);
`splitTopic` compares with '/', '+', '#' only and `findSubscribers` with "#", "+" only; `subscribe`
validates in a first loop and inserts in a second; the `unsubscribe` loop has no `return`; `remove`
has the two `delete(` calls (client entry, empty child). -/
theorem source_facts :
    Gen.FactsC14.extractionFailed = false ∧
    Gen.FactsC14.lockedMethods = [("subscribe", true), ("unsubscribe", true), ("findSubscribers", true)] ∧
    Gen.FactsC14.splitTopicRunes = ["#", "+", "/"] ∧
    Gen.FactsC14.findSubscribersLiterals = ["#", "+"] ∧
    Gen.FactsC14.subscribeRangeLoops = 2 ∧ Gen.FactsC14.subscribeValidatesFirst = true ∧
    Gen.FactsC14.unsubscribeReturnsInLoop = 0 ∧ Gen.FactsC14.removeDeleteCalls = 2 := by decide +kernel

/-! ### Non-vacuity and witnesses -/

private def a : List Char := "a".toList
private def ops1 : List Op :=
  [.subscribe "c1" [("a/+".toList, 0), ("a/b".toList, 1)], .subscribe "c2" [("a/#".toList, 1), ("#".toList, 0)],
   .unsubscribe "c1" ["a/+".toList, "zz".toList], .subscribe "c3" [("+/+".toList, 1), ("a/#/x".toList, 1)],
   .disconnect "c2"]

/-- a concrete history: `c3`'s packet is rejected (malformed `a/#/x`), `c2` is gone after its disconnect;
topic `a/b` reaches only `c1` through its remaining subscription `a/b`@1 -/
example : find (run State.init ops1).trie ["a".toList, "b".toList] = [("c1", 1)] := by decide +kernel
example : specRun [] ops1 = [(["a".toList, "b".toList], "c1", 1)] := by decide +kernel

/-- parent level: `a/#` matches `a`; `+` does not match two levels -/
example : «matches» [a, hash] [a] = true ∧ «matches» [plus] [a, a] = false ∧ «matches» [hash] [[]] = true := by
  decide +kernel

/-- after everybody left, the trie is the empty root (an instance of `empty_when_no_subscription`) -/
example : (run State.init (ops1 ++ [.disconnect "c1"])).trie.isEmpty = true := by decide +kernel

/-- **Witness of the defect repaired by `fixes/C14-subscribe-validate-first.patch`.** The unrepaired
`TopicManager.subscribe` inserts filter by filter and returns at the first malformed one, while
`processSubscribe` then skips `session.subscribe`: the prefix stays in the trie, the session does not know
it, and the disconnect (which unsubscribes the session's topics) leaves it behind. Modelled here with
the same `insert` / `unsubscribeTM`: -/
private def oldSubscribePrefix : Trie := insert [a] "c1" 1 Trie.empty   -- SUBSCRIBE ["a", "a#"] on the old code
example : find (unsubscribeTM "c1" [] oldSubscribePrefix) [a] = [("c1", 1)] := by decide +kernel
example : (run State.init [.subscribe "c1" [("a".toList, 1), ("a#".toList, 1)], .disconnect "c1"]).trie.isEmpty = true := by
  decide +kernel

/-! ### The functions of topic.go, translated on every run (irlib, `harness/factextract/facts_c14_ir.go`)

`Gen/FactsC14IR.findIR` is translated from the body of `TopicManager.findSubscribers` on every run (three nested
loops, the early exit on an empty frontier, the parent-level `#` loop); proof in `Proofs/TopicIR.lean`.
`splitTopic` likewise (`splitIR`), and `insert` / `remove` with pointers read as path cursors (`insertIR`, `removeIR`; `Proofs/TopicRemoveIR.lean`). The entry loops `subscribe` / `unsubscribe` are translated too (`subscribeIR`, `unsubscribeIR`); `addClients` is tied under C15 (`addClientsIR` = `addMax`). Not translated: the LRU memo. -/

/-- **`TopicManager.findSubscribers`**: for every trie and every topic string the generated definition returns
the model's hits (`find`, in the model's order) for a well-formed topic and `none` (error) for a malformed one. -/
theorem findSubscribers_regenerated_from_source (t : Trie) (topic : List Char) :
    Gen.FactsC14IR.extractionFailed = false ∧
    Gen.FactsC14IR.findIR t topic = (split topic).map (find t) :=
  ⟨rfl, Topic.findSubscribers_regenerated_from_source t topic⟩

/-- **`splitTopic`** (rune loop with `wildCardFlag`, `#` only as the last character, the pre-sized `levels`
slice filled by index): the generated definition equals the model's `split` on every string; with
`split_ok_iff_wellFormed` it accepts exactly the well-formed filters. -/
theorem splitTopic_regenerated_from_source (topic : List Char) :
    Gen.FactsC14IR.extractionFailed = false ∧ Gen.FactsC14IR.splitIR topic = split topic :=
  ⟨rfl, Topic.splitTopic_regenerated_from_source topic⟩

example : Gen.FactsC14IR.splitIR "a//+/#".toList = some ["a".toList, [], "+".toList, "#".toList] ∧
    Gen.FactsC14IR.splitIR "a/b#".toList = none ∧ Gen.FactsC14IR.splitIR "#/a".toList = none ∧
    Gen.FactsC14IR.splitIR "".toList = some [[]] := by decide +kernel

/-- **`TopicManager.insert`** (mutable `*topicNode` cursor: look the child up, create and link it if missing,
descend; finally `node.clients[clientID] = qos`). Pointers are read as *path cursors* into the functional trie
(`Model/Topic.lean`: `Ptr`, `childPtr`, `linkPtr`, `setClientPtr` — sound because the heap is a tree); the
generated definition equals the model's recursive `insert` for every trie, topic, QoS and client. -/
theorem insert_regenerated_from_source (t : Trie) (topic : List Char) (q : QoS) (c : Client) :
    Gen.FactsC14IR.extractionFailed = false ∧
    Gen.FactsC14IR.insertIR t topic q c = (split topic).map (fun ls => insert ls c q t) :=
  ⟨rfl, Topic.insert_regenerated_from_source t topic q c⟩

example :
    (Gen.FactsC14IR.insertIR (insert ["a".toList] "c1" 0 Trie.empty) "a/b".toList 1 "c2").map (fun t => find t ["a".toList, "b".toList])
      = some [("c2", 1)] ∧
    Gen.FactsC14IR.insertIR Trie.empty "a/#/b".toList 1 "c2" = none := by decide +kernel

/-- **`TopicManager.remove`** (walk down collecting the `prevNodes` stack, early `return nil` when a level is
missing, `delete(node.clients, clientID)`, then the pruning loop, deepest node first, that deletes empty nodes
until the first non-empty one). Same path-cursor reading of pointers as for `insert`; the generated definition equals
the model's `remove` (`removeAux` with bottom-up pruning) for every trie, topic and client. -/
theorem remove_regenerated_from_source (t : Trie) (topic : List Char) (c : Client) :
    Gen.FactsC14IR.extractionFailed = false ∧
    Gen.FactsC14IR.removeIR t topic c = (split topic).map (fun ls => remove ls c t) :=
  ⟨rfl, Topic.remove_regenerated_from_source t topic c⟩

example :
    let t := (run State.init [.subscribe "c1" [("a/b/c".toList, 1)], .subscribe "c2" [("a".toList, 0)]]).trie
    -- the whole branch a/b/c is pruned, "a" (subscribed by c2) stays
    (Gen.FactsC14IR.removeIR t "a/b/c".toList "c1").map (fun r => (find r ["a".toList, "b".toList, "c".toList],
        find r ["a".toList], (ptrSub ["a".toList, "b".toList] r).isSome)) = some ([], [("c2", 0)], false) ∧
    -- a missing level: nothing changes; a malformed filter: error
    (Gen.FactsC14IR.removeIR t "a/x".toList "c1").map (fun r => find r ["a".toList, "b".toList, "c".toList]) = some [("c1", 1)] ∧
    (Gen.FactsC14IR.removeIR t "a/#/c".toList "c1").isNone = true := by
  decide +kernel

/-- **`TopicManager.subscribe`** (repaired by fix 7d6df9f): all filters of the packet are validated before the
first insert — a SUBSCRIBE with a malformed filter changes nothing; otherwise every filter is inserted with its
own QoS. `mgr.insert` is the model function tied by `insert_regenerated_from_source`. -/
theorem subscribe_regenerated_from_source (t : Trie) (fs : List (List Char × QoS)) (c : Client) :
    Gen.FactsC14IR.extractionFailed = false ∧
    Gen.FactsC14IR.subscribeIR t (fs.map Prod.fst) (fs.map Prod.snd) c = subscribeTM c fs t :=
  ⟨rfl, Topic.subscribe_regenerated_from_source t fs c⟩

/-- **`TopicManager.unsubscribe`** (repaired): a malformed filter is reported (`true`) but the remaining filters
are still removed. -/
theorem unsubscribe_regenerated_from_source (t : Trie) (fs : List (List Char)) (c : Client) :
    Gen.FactsC14IR.extractionFailed = false ∧
    Gen.FactsC14IR.unsubscribeIR t fs c = (unsubscribeTM c fs t, !fs.all (fun f => (split f).isSome)) :=
  ⟨rfl, Topic.unsubscribe_regenerated_from_source t fs c⟩

example :
    (Gen.FactsC14IR.subscribeIR Trie.empty ["a".toList, "a#".toList] [1, 1] "c1").isNone = true ∧
    (Gen.FactsC14IR.subscribeIR Trie.empty ["a".toList, "b/+".toList] [1, 0] "c1").map (fun r => (find r ["a".toList], find r ["b".toList, "x".toList]))
      = some ([("c1", 1)], [("c1", 0)]) ∧
    (Gen.FactsC14IR.unsubscribeIR (insert ["a".toList] "c1" 1 Trie.empty) ["a#".toList, "a".toList] "c1").2 = true ∧
    find (Gen.FactsC14IR.unsubscribeIR (insert ["a".toList] "c1" 1 Trie.empty) ["a#".toList, "a".toList] "c1").1 ["a".toList] = [] := by
  decide +kernel

/-- so everything proved about `find` holds for the regenerated definition: after any history it returns exactly
the matching live subscriptions -/
theorem regenerated_find_routes_after_any_history (ops : List Op) (topic : List Char) (lv : List Level)
    (h : split topic = some lv) (x : Client × QoS) :
    (∃ hits, Gen.FactsC14IR.findIR (run State.init ops).trie topic = some hits ∧ x ∈ hits) ↔
      x ∈ specFind (specRun [] ops) lv := by
  rw [(findSubscribers_regenerated_from_source _ topic).2, h]
  simp only [Option.map_some, Option.some.injEq, exists_eq_left']
  exact Topic.routing_after_any_history ops lv x

/-- non-vacuity: the generated definition computes on a concrete trie (parent-level `#`, `+`, early exit) -/
example :
    let t := (run State.init [.subscribe "c1" [("a/#".toList, 1), ("+/b".toList, 0)], .subscribe "c2" [("a/b".toList, 1)]]).trie
    Gen.FactsC14IR.findIR t "a".toList = some [("c1", 1)] ∧
    Gen.FactsC14IR.findIR t "a/b".toList = some [("c1", 1), ("c2", 1), ("c1", 0)] ∧
    Gen.FactsC14IR.findIR t "x/y/z".toList = some [] ∧
    Gen.FactsC14IR.findIR t "a/#/b".toList = none := by decide +kernel

/-- **The judge's executable spec accepts the model** (every history, every topic) … -/
theorem routedOK_accepts_model (ops : List Op) (lv : List Level) :
    routedOK (specRun [] ops) lv (collapseMax (find (run State.init ops).trie lv)) = true :=
  Topic.routedOK_accepts_model ops lv

/-- … **and is sound**: an observed `findSubscribers` result that passes `routedOK` contains only pairs justified
by a matching live subscription of that client with that QoS, and misses no client holding one. -/
theorem routedOK_sound (s : Subs) (lv : List Level) (obs : List (Client × QoS)) (h : routedOK s lv obs = true) :
    (∀ p ∈ obs, ∃ f, (f, p.1, p.2) ∈ s ∧ «matches» f lv = true) ∧
    (∀ f c q, (f, c, q) ∈ s → «matches» f lv = true → ∃ o ∈ obs, o.1 = c) :=
  Topic.routedOK_sound s lv obs h

/-- **A SUBSCRIBE is refused iff some filter of the packet is malformed**; a well-formed one is acknowledged. -/
theorem subscribe_error_iff_malformed (s : State) (c : Client) (fs : List (List Char × QoS)) :
    ((step s (.subscribe c fs)).2 = true ↔ ∃ p ∈ fs, wellFormed p.1 = false) ∧
    ((∀ p ∈ fs, wellFormed p.1 = true) → (step s (.subscribe c fs)).2 = false) :=
  ⟨Topic.subscribe_error_iff_malformed s c fs, Topic.wellformed_subscribe_accepted s c fs⟩

/-- **Cursor validity is an invariant of the translated `insert` / `remove`**: the totalising branches of the
path-cursor operations (`ptrUpd` on a path that leaves the trie, `nodeAt` reading `Trie.empty`) are never taken —
`insert`'s cursor stays a valid path (the loop never returns early), and after `remove`'s walk down succeeded the
path of `delete(node.clients, c)` and every path the pruning loop reads or unlinks through is valid. -/
theorem cursors_stay_valid (t : Trie) (topic : List Char) (q : QoS) (c : Client) (ls : List Level) :
    (match Gen.FactsC14IR.insertIR_loop1 t topic q c t ls false ⟨[], false⟩ ⟨[], false⟩ false ls with
     | .inl _ => False
     | .inr (root', node', _, _) => (ptrSub node'.path root').isSome = true) ∧
    ((ptrSub ls t).isSome = true → Topic.prValid ls 0 ls.length (delClientPtr t ⟨ls, false⟩ c)) :=
  ⟨by
    obtain ⟨root', node', nn', ok', e, hv, _⟩ :=
      Topic.insert_regenerated_from_source_loop t topic q c ls false ls t [] false ⟨[], false⟩ false t rfl
    rw [e]; exact hv,
   Topic.remove_cursors_valid ls t c⟩

example : routedOK [(["a".toList], "c1", 1)] ["a".toList] [("c1", 1)] = true ∧
    routedOK [(["a".toList], "c1", 1)] ["a".toList] [("c1", 0)] = false ∧
    routedOK [(["a".toList], "c1", 1)] ["a".toList] [] = false := by decide +kernel

end EgVerif.C14
