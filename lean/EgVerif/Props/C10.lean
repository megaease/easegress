import EgVerif.Proofs.Retry
import EgVerif.Proofs.RetryIR
import EgVerif.Proofs.RetryAccept
import EgVerif.Gen.FactsC10
/-!
# C10 — retry and time-limit policies bound attempts and waiting; one breaker record per request

Property theorems about `Model.Retry` (mirror of `RetryPolicy.Wrap`, `circuitBreakerWrapper.Wrap`,
`ServerPool.handle`, `ServerPool.doHandle`). They hold for **every** policy (`maxAttempts`, wait,
randomisation factor, back-off kind), every environment `env` (what each backend call meets, the
`rand.Intn` values, at which `select` the client's context is done), stream or buffered requests.

**Partial**: durations are exact rationals; the `float64` rounding and
the truncation of `time.Duration(d)` in the implementation are not modelled (the judge allows 2 ns);
when the client's cancellation and the timer expire together Go's `select` may pick either — the
model takes the choice as the oracle `env.done`; real timers / `context` deadlines are trusted.
-/
namespace EgVerif.C10
open EgVerif.Retry

/-- the transport calls of one client request, as attempt indices -/
def callsOf (pool : Pool) (stream permitted : Bool) (env : Env) : List Nat :=
  calls (handle pool stream permitted env).events

theorem callsOf_permitted {pool : Pool} {permitted : Bool} (h : (pool.hasCB && !permitted) = false)
    (stream : Bool) (env : Env) :
    callsOf pool stream permitted env = calls (inner pool stream env).events := by
  rw [callsOf, handle_permitted h, finish_events]

/-- **At most `maxAttempts` attempts** (1 without a retry policy or for a stream), and the attempts are
`0, 1, …, m-1` in order. -/
theorem attempts_le_max (pool : Pool) (stream permitted : Bool) (env : Env) :
    ∃ m, m ≤ maxCalls pool stream ∧ callsOf pool stream permitted env = List.range' 0 m := by
  obtain ⟨_, _, m, _, _, hle, hev, inv⟩ := handle_inv pool stream permitted env
  exact ⟨m, inv.le.trans hle, by rw [callsOf, hev, inv.calls]⟩

/-- **Streamed request bodies are never re-sent**: at most one transport call, whatever the policy. -/
theorem stream_single_attempt (pool : Pool) (permitted : Bool) (env : Env) :
    (callsOf pool true permitted env).length ≤ 1 := by
  obtain ⟨m, hm, hc⟩ := attempts_le_max pool true permitted env
  rw [hc, List.length_range']
  have : maxCalls pool true = 1 := by unfold maxCalls; cases pool.retry <;> rfl
  exact this ▸ hm

theorem next_attempt_after_failure (pool : Pool) (stream permitted : Bool) (env : Env) (i : Nat)
    (h2 : i + 1 ∈ callsOf pool stream permitted env) :
    fails pool.failureCodes env i = true ∧ env.done i = false := by
  obtain ⟨_, _, m, _, _, _, hev, inv⟩ := handle_inv pool stream permitted env
  rw [callsOf, hev, inv.calls] at h2
  exact inv.failed i (Nat.zero_le i) (List.mem_range'_1.mp h2).2

/-- **Stops at the first success / no attempt once the client is gone**: an attempt that is followed
by another one returned an error, and the client's context was not done at its `select`. -/
theorem stops_at_first_success (pool : Pool) (stream permitted : Bool) (env : Env) (i : Nat)
    (h1 : i ∈ callsOf pool stream permitted env) (h2 : i + 1 ∈ callsOf pool stream permitted env) :
    fails pool.failureCodes env i = true ∧ env.done i = false :=
  next_attempt_after_failure pool stream permitted env i h2

/-- C10's "no further attempt once the client's request is cancelled": `env.done j` is `ctx.Done()` winning the
`select` after attempt `j`. -/
theorem cancel_stops (pool : Pool) (stream permitted : Bool) (env : Env) (j : Nat)
    (hd : env.done j = true) : j + 1 ∉ callsOf pool stream permitted env := by
  intro h2
  have := (next_attempt_after_failure pool stream permitted env j h2).2
  rw [hd] at this; cases this

/-- … and the policy does retry: a failed attempt, client still there, attempts left ⇒ next attempt. -/
theorem retries_until_max (fc : List Nat) (p : RetryPolicy) (hasCB permitted : Bool) (env : Env) (i : Nat)
    (hperm : (hasCB && !permitted) = false)
    (h1 : i ∈ callsOf ⟨fc, some p, hasCB⟩ false permitted env)
    (hf : fails fc env i = true) (hd : env.done i = false) (hlt : i + 1 < p.maxAttempts.toNat) :
    i + 1 ∈ callsOf ⟨fc, some p, hasCB⟩ false permitted env := by
  rw [callsOf_permitted hperm] at h1 ⊢
  exact retries fc p env _ 0 _ i h1 hf hd (Nat.zero_add _ ▸ hlt)

/-- **The client sees the outcome of the last attempt** (result string and status code), for every
outcome sequence; `spCtx.resp` is reset before each attempt. -/
theorem result_is_last_attempt (pool : Pool) (stream permitted : Bool) (env : Env)
    (hperm : (pool.hasCB && !permitted) = false)
    (hmax : ∀ p, pool.retry = some p → 1 ≤ p.maxAttempts) :
    let out := handle pool stream permitted env
    let last := (callsOf pool stream permitted env).length - 1
    (out.result, out.status) = render (doHandle pool.failureCodes (env.attempt last) none) := by
  intro out last
  rw [show last = (calls (inner pool stream env).events).length - 1 by rw [← callsOf_permitted hperm],
    ← inner_last pool stream env hmax, ← finish_render _ _ _, ← handle_permitted hperm]

/-- Without the per-attempt reset the client could see a stale response: attempt 0 answers 500 (a
failure code), attempt 1 is a network error; the result is `serverError` with status 503 — with the
reset removed the status would be the stale 500. -/
example :
    let env : Env := ⟨fun k => if k = 0 then .resp 500 else .sendErr .none, fun _ => 0, fun _ => false⟩
    let p : RetryPolicy := ⟨2, 1000000, false, 0, 1⟩
    render ((retryLoopWith (handler [500] env) p env 2 0 (none, none)).err,
            (retryLoopWith (handler [500] env) p env 2 0 (none, none)).resp) = ("serverError", some 503) ∧
    render ((retryLoopWith (handlerNoReset [500] env) p env 2 0 (none, none)).err,
            (retryLoopWith (handlerNoReset [500] env) p env 2 0 (none, none)).resp) = ("serverError", some 500) := by
  exact ⟨rfl, rfl⟩

/-- **Between two consecutive attempts the back-off timer fired**, and its duration `d = num/den`
satisfies `base_k·(1 − f) ≤ d`; with `rand.Intn`'s contract (`r ≤ 2δ`) also `d ≤ base_k·(1 + f)`.
`base_k = wait·1.5^k` for the exponential policy, `wait` otherwise (`backoff_base`). -/
theorem wait_ge_backoff (fc : List Nat) (p : RetryPolicy) (hasCB permitted : Bool) (env : Env) (i : Nat)
    (hperm : (hasCB && !permitted) = false)
    (h1 : i ∈ callsOf ⟨fc, some p, hasCB⟩ false permitted env)
    (h2 : i + 1 ∈ callsOf ⟨fc, some p, hasCB⟩ false permitted env) :
    ∃ num den, [Event.call i, .sleep i num den, .call (i + 1)] <:+:
        (handle ⟨fc, some p, hasCB⟩ false permitted env).events ∧
      den = baseDen p i * p.fDen ∧
      baseNum p i * (p.fDen - p.fNum) ≤ num ∧
      backoffLower p i ≤ num / den ∧
      (p.fNum ≤ p.fDen → env.jitter i * den ≤ 2 * (baseNum p i * p.fNum) →
        num ≤ baseNum p i * (p.fDen + p.fNum)) := by
  obtain ⟨m, inv⟩ := loop_inv fc p env p.maxAttempts.toNat 0 (none, none)
  rw [callsOf_permitted hperm] at h2
  rw [handle_permitted hperm, finish_events]
  exact ⟨sleepNum p i (env.jitter i), sleepDen p i,
    inv.between i (Nat.zero_le i) (List.mem_range'_1.mp (inv.calls ▸ h2)).2, rfl,
    Nat.le_add_right _ _, backoffLower_le p i _, sleepNum_le p i _⟩

/-- exponential back-off grows by the factor 3/2 per attempt; the fixed one stays at `wait` -/
theorem backoff_base (p : RetryPolicy) (k : Nat) :
    (p.exponential = true → 2 * (baseNum p (k + 1) * baseDen p k) = 3 * (baseNum p k * baseDen p (k + 1))) ∧
    (p.exponential = false → baseNum p k = p.wait ∧ baseDen p k = 1) ∧
    baseNum p 0 = p.wait ∧ baseDen p 0 = 1 := by
  refine ⟨fun h => ?_, fun h => by simp [baseNum, baseDen, h], by simp [baseNum], by simp [baseDen]⟩
  simp only [baseNum, baseDen, h, if_true, pow_succ]
  ring

/-- `CreateWrapper`: an absent / unparsable / non-positive wait duration becomes 500 ms. -/
theorem create_wrapper_default (d : Int) :
    (d ≤ 0 → createWrapper d = 500000000) ∧ (0 < d → (createWrapper d : Int) = d) := by
  unfold createWrapper
  refine ⟨fun h => if_pos h, fun h => ?_⟩
  rw [if_neg (Int.not_le.mpr h)]
  exact Int.toNat_of_nonneg (Int.le_of_lt h)

/-- wait 2 ms, exponential, f = 1/2, three failing attempts: sleeps of ≥ 1 ms and ≥ 1.5 ms separate
the three calls (jitter 0), then a third back-off and the last error. -/
example :
    let env : Env := ⟨fun _ => .sendErr .none, fun _ => 0, fun _ => false⟩
    (handle ⟨[], some ⟨3, 2000000, true, 1, 2⟩, false⟩ false true env).events =
      [.call 0, .sleep 0 2000000 2, .call 1, .sleep 1 6000000 4, .call 2, .sleep 2 18000000 8] := by
  rfl

theorem classify_spec (fc : List Nat) (st : Nat) (resp : Option Nat) :
    doHandle fc .noServer resp = (some ⟨503, "internalError"⟩, resp) ∧
    doHandle fc .prepareFail resp = (some ⟨500, "internalError"⟩, resp) ∧
    doHandle fc (.sendErr .none) resp = (some ⟨503, "serverError"⟩, resp) ∧
    doHandle fc (.sendErr .deadline) resp = (some ⟨408, "timeout"⟩, resp) ∧
    doHandle fc (.sendErr .canceled) resp = (some ⟨499, "clientError"⟩, resp) ∧
    doHandle fc .buildFail resp = (some ⟨500, "internalError"⟩, resp) ∧
    (st ∈ fc → doHandle fc (.resp st) resp = (some ⟨st, "failureCode"⟩, some st)) ∧
    (st ∉ fc → doHandle fc (.resp st) resp = (none, some st)) := by
  exact ⟨rfl, rfl, rfl, rfl, rfl, rfl, fun h => by simp [doHandle, h], fun h => by simp [doHandle, h]⟩

/-- **A backend that does not answer within the pool timeout yields 408 `timeout`** (instead of
hanging): for every request whose last attempt met a hanging backend while the client was present. -/
theorem timeout_is_408 (pool : Pool) (stream permitted : Bool) (env : Env) (timeout : Nat)
    (hperm : (pool.hasCB && !permitted) = false)
    (hmax : ∀ p, pool.retry = some p → 1 ≤ p.maxAttempts) (ht : 0 < timeout)
    (hlast : env.attempt ((callsOf pool stream permitted env).length - 1) = meet timeout false .hang) :
    (handle pool stream permitted env).result = "timeout" ∧
      (handle pool stream permitted env).status = some 408 := by
  have h := result_is_last_attempt pool stream permitted env hperm hmax
  simp only at h
  rw [hlast, meet, if_neg Bool.false_ne_true, if_pos ht] at h
  exact ⟨congrArg Prod.fst h, congrArg Prod.snd h⟩

theorem meet_spec (timeout : Nat) (b : Backend) (st : Nat) :
    meet timeout true b = .sendErr .canceled ∧
    meet timeout false (.respond st) = .resp st ∧
    meet timeout false .netErr = .sendErr .none ∧
    meet timeout false .badResp = .buildFail ∧
    (0 < timeout → meet timeout false .hang = .sendErr .deadline) := by
  refine ⟨rfl, rfl, rfl, rfl, fun h => ?_⟩
  rw [meet, if_neg Bool.false_ne_true, if_pos h]

/-- **Every attempt sends the client's full payload.** A buffered payload is re-read from the start for
each attempt; a stream can be read only once — and a stream request makes at most one attempt
(`stream_single_attempt`), so no attempt ever carries a drained (empty / truncated) body. This is why
"streamed request bodies are never re-sent" matters. -/
theorem attempt_sends_full_payload (pool : Pool) (pl : Payload) (permitted : Bool) (env : Env) :
    ∀ b ∈ sentBodies pl (callsOf pool pl.isStream permitted env).length, b = pl.bytes := by
  intro b hb
  unfold sentBodies at hb
  obtain ⟨k, hk, rfl⟩ := List.mem_map.mp hb
  have hk' := List.mem_range.mp hk
  cases pl with
  | buffered s => rfl
  | stream s =>
    have h1 := stream_single_attempt pool permitted env
    simp only [Payload.isStream] at hk'
    have : k = 0 := by omega
    subst this
    simp [Payload.sent, Payload.bytes]

/-- the judge's `payloadOK` accepts the model -/
theorem payloadOK_model (pool : Pool) (pl : Payload) (permitted : Bool) (env : Env) :
    payloadOK pl.bytes (sentBodies pl (callsOf pool pl.isStream permitted env).length) = true := by
  unfold payloadOK
  simp only [List.all_eq_true, beq_iff_eq]
  exact attempt_sends_full_payload pool pl permitted env

/-- were a stream retried, the second attempt would carry nothing: the clause is not vacuous -/
example : sentBodies (.stream "payload") 2 = ["payload", ""] ∧
    sentBodies (.buffered "payload") 3 = ["payload", "payload", "payload"] := ⟨rfl, rfl⟩

/-- **Exactly one acquire and one record per client request**, however many retries it contained:
permitted ⇒ one `RecordResult`, whose failure flag is "the (wrapped) handler returned an error";
not permitted ⇒ no record, no transport call, 503 `shortCircuited`. Without a breaker: none. -/
theorem cb_one_record (pool : Pool) (stream permitted : Bool) (env : Env) :
    let out := handle pool stream permitted env
    (pool.hasCB = true → out.cbAcquires = 1) ∧
    (pool.hasCB = true → permitted = true → out.cbRecords = [(inner pool stream env).err.isSome]) ∧
    (pool.hasCB = true → permitted = false →
        out.cbRecords = [] ∧ out.events = [] ∧ out.result = "shortCircuited" ∧ out.status = some 503) ∧
    (pool.hasCB = false → out.cbAcquires = 0 ∧ out.cbRecords = []) := by
  simp only
  cases hcb : pool.hasCB with
  | false =>
    rw [handle_permitted (by rw [hcb]; rfl), finish_acq, finish_recs, hcb]
    exact ⟨nofun, nofun, nofun, fun _ => ⟨rfl, rfl⟩⟩
  | true =>
    cases permitted with
    | false =>
      rw [handle_refused (by rw [hcb]; rfl)]
      exact ⟨fun _ => rfl, nofun, fun _ _ => ⟨rfl, rfl, rfl, rfl⟩, nofun⟩
    | true =>
      rw [handle_permitted (by rw [hcb]; rfl), finish_acq, finish_recs, hcb]
      exact ⟨fun _ => rfl, fun _ _ => rfl, nofun, nofun⟩

theorem cb_record_is_last_attempt (pool : Pool) (stream : Bool) (env : Env)
    (hcb : pool.hasCB = true) (hmax : ∀ p, pool.retry = some p → 1 ≤ p.maxAttempts) :
    (handle pool stream true env).cbRecords =
      [fails pool.failureCodes env ((callsOf pool stream true env).length - 1)] := by
  have hperm : (pool.hasCB && !true) = false := Bool.and_false _
  rw [handle_permitted hperm, finish_recs, if_pos hcb, callsOf_permitted hperm, fails,
    ← inner_last pool stream env hmax]

/-- five failing attempts inside one client request: one acquire, one record (failure) -/
example :
    let env : Env := ⟨fun _ => .sendErr .none, fun _ => 0, fun _ => false⟩
    let out := handle ⟨[], some ⟨5, 1000000, false, 0, 1⟩, true⟩ false true env
    (calls out.events).length = 5 ∧ out.cbAcquires = 1 ∧ out.cbRecords = [true] := by
  exact ⟨rfl, rfl, rfl⟩

/-- **One outcome per client request, on the composed handler**: the
breaker layer of `runHF … (.cb inner)` (what `handleIR` runs, for `inner = retry p base` or `base`) *is*
C08's `circuitBreakerWrapper.Wrap` model `CircuitBreaker.wrap` (tied to the regenerated `wrapIR` by C08's
`wrap_regenerated_from_source`): one acquire; refused ⇒ no record, the inner handler (all its retries) does
not run; admitted ⇒ the whole retry loop runs once inside and exactly one flag is recorded. -/
theorem cb_one_record_is_breaker_wrap (fc : List Nat) (env : Env) (permitted : Bool) (p : RetryPolicy) :
    let inner := HF.retry p HF.base
    let I := runHF fc env permitted inner
    let R := runHF fc env permitted (.cb inner)
    let W := cbView (CircuitBreaker.wrap permitted (outcomeOf I.err)).1
    R.acq = W.1 ∧ R.recs = W.2.1 ∧ W.1 = 1 ∧ W.2.1.length = (if permitted then 1 else 0) ∧
    (calls R.events).length = (if permitted then (calls I.events).length else 0) := by
  intro inner I R W
  rw [show W = _ from cbView_wrap permitted I.err]
  -- `R` is one unfolding of `runHF` at `.cb`; the retry layer `I` itself has no acquire and no record
  cases permitted <;> exact ⟨rfl, rfl, rfl, rfl, rfl⟩

/-- … and `handle`'s own counters are those of that composed handler (`handle_regenerated_from_source`) -/
theorem handle_counts_are_runHF (pool : Pool) (permitted : Bool) (env : Env) (p : RetryPolicy)
    (hr : pool.retry = some p) (hcb : pool.hasCB = true) :
    (handle pool false permitted env).cbAcquires =
        (runHF pool.failureCodes env permitted (.cb (.retry p .base))).acq ∧
    (handle pool false permitted env).cbRecords =
        (runHF pool.failureCodes env permitted (.cb (.retry p .base))).recs := by
  obtain ⟨fc, retry, hasCB⟩ := pool
  simp only at hr hcb
  subst hr hcb
  cases permitted <;> simp [handle, inner, runHF, finish_acq, finish_recs]

/-- **One back-off, two notations**: the judge's integer lower bound `backoffLower` (model of the
property theorems, fractions of naturals) is the floor of the exact rational bound `base_k·(1−f)` of
`backoff_exact` (the regenerated `wrapIR` at the rational instance) — for a well-formed factor
(`0 < fDen`, `fNum ≤ fDen`; the judge maps `fDen = 0` to `0/1`). -/
theorem backoffLower_is_floor_of_exact (p : RetryPolicy) (k : Nat) (hd : 0 < p.fDen) (hf : p.fNum ≤ p.fDen) :
    (backoffLower p k : Int) = (baseQ p k * (1 - (p.fNum : Rat) / (p.fDen : Rat))).floor := by
  have hfd : (p.fDen : Rat) ≠ 0 := Nat.cast_ne_zero.mpr (Nat.pos_iff_ne_zero.mp hd)
  have hq : baseQ p k * (1 - (p.fNum : Rat) / (p.fDen : Rat)) =
      ((sleepNum p k 0 : Nat) : Rat) / ((sleepDen p k : Nat) : Rat) := by
    rw [baseQ_eq, one_sub_div hfd, div_mul_div_comm, sleepNum, sleepDen, Nat.zero_mul, Nat.add_zero,
      Nat.cast_mul, Nat.cast_mul, Nat.cast_sub hf]
  rw [hq, floor_natCast_div _ _ (show 0 < sleepDen p k from Nat.mul_pos (baseDen_pos p k) hd)]
  rfl

/-- `fDen = 0` is outside the theorems' reading of `f` (then `sleepDen = 0` and `backoffLower = 0`): the
guard is explicit here -/
example : backoffLower ⟨3, 1000, false, 1, 0⟩ 0 = 0 ∧ backoffLower ⟨3, 1000, false, 1, 2⟩ 0 = 500 := ⟨rfl, rfl⟩

theorem cancelOK_accepts_model (pool : Pool) (stream permitted : Bool) (env : Env) (j : Nat)
    (hd : env.done j = true) :
    cancelOK (some j) (callsOf pool stream permitted env).length = true := by
  obtain ⟨m, _, hc⟩ := attempts_le_max pool stream permitted env
  have hn := cancel_stops pool stream permitted env j hd
  rw [hc] at hn ⊢
  simp only [cancelOK, List.length_range', decide_eq_true_eq]
  by_contra hlt
  exact hn (List.mem_range'_1.mpr ⟨by omega, by omega⟩)

/-- **the judge's `gapsOK` accepts the model**: if every observed gap between two consecutive transport calls is
at least the whole-ns duration of the model's back-off timer at that position (Go timers do not fire early —
trusted), `gapsOK` holds — for every pool, stream or buffered, every environment (jitter, cancellation), and
however many of the model's back-offs were observed. The model has a back-off between any two calls
(`sleepDurs_length`), so the hypothesis is about every observed gap. -/
theorem gapsOK_accepts_model (pool : Pool) (stream permitted : Bool) (env : Env) (o : ReqObs)
    (hlen : o.gaps.length ≤ (sleepDurs (handle pool stream permitted env).events).length)
    (hge : ∀ k d, (sleepDurs (handle pool stream permitted env).events)[k]? = some d →
      k < o.gaps.length → d ≤ o.gaps[k]!) :
    gapsOK pool o = true ∧
    (callsOf pool stream permitted env).length ≤ (sleepDurs (handle pool stream permitted env).events).length + 1 := by
  obtain ⟨p, _, m, _, hp, _, hev, inv⟩ := handle_inv pool stream permitted env
  rw [hev] at hlen hge
  rw [callsOf, hev]
  refine ⟨?_, inv.durs_length⟩
  unfold gapsOK
  cases hr : pool.retry with
  | none => rfl
  | some q =>
    cases hp q hr
    simp only [List.all_eq_true, List.mem_range, decide_eq_true_eq]
    intro k hk
    have hget := List.getElem?_eq_getElem (Nat.lt_of_lt_of_le hk hlen)
    have h1 := inv.durs_ge hget
    have h2 := hge k _ hget hk
    rw [Nat.zero_add] at h1
    omega

/-- `gapsOK` is not vacuous: a 1 ms fixed back-off with `f = 1/2` demands ≥ 500 µs (−2 ns) between the calls -/
example : gapsOK ⟨[], some ⟨3, 1000000, false, 1, 2⟩, false⟩ ⟨2, [499997], "", 200⟩ = false ∧
    gapsOK ⟨[], some ⟨3, 1000000, false, 1, 2⟩, false⟩ ⟨2, [499998], "", 200⟩ = true := ⟨rfl, rfl⟩

/-- **the judge's breaker bookkeeping accepts the model** (one step of the judge's fold, clause `s8`): with the
permission the spec breaker grants (`!cb.isOpen`), the model's `handle` is short-circuited exactly when the spec
breaker is open, and recording the *client-visible* outcome (`result ≠ ""`, what the judge's spec does) is the same
as recording the flag the model passes to `RecordResult` (what the judge's model does). -/
theorem cb_spec_accepts_model (pool : Pool) (stream : Bool) (env : Env) (cb : CB)
    (hcb : pool.hasCB = true) (hmax : ∀ p, pool.retry = some p → 1 ≤ p.maxAttempts) :
    let out := handle pool stream (!cb.isOpen) env
    let shortObs := out.result == "shortCircuited"
    let cbM := match out.cbRecords with | f :: _ => cb.record f | [] => cb
    let cbS := if pool.hasCB && !shortObs then cb.record (out.result != "") else cb
    cbS = cbM ∧ shortObs = cb.isOpen := by
  cases ho : cb.isOpen with
  | true => simp [handle, hcb]
  | false =>
    have hl := inner_last pool stream env hmax
    simp only [handle, hcb, Bool.not_false, Bool.not_true, Bool.and_false, Bool.false_eq_true, if_false, if_true,
      Bool.true_and]
    cases he : (inner pool stream env).err with
    | none => simp [finish, he]
    | some e =>
      have hne := doHandle_result_ne pool.failureCodes _ none e
        (by rw [← he]; exact (congrArg Prod.fst hl).symm)
      have hb : (e.result != "") = true := by simp [bne_iff_ne, hne.1]
      simp [finish, he, hb, hne.2]

/-- **the judge's spec breaker is C08's circuit breaker** under the policy the harness injects (count based window
of `N`, permitted-in-half-open 1, slow-call threshold 100 %, slow-call and open durations `W` = 1 h): for every
sequence of client requests shorter than the window whose acquires happen less than `W` after the breaker was
created and whose calls are not slow, C08's model (`acquire` + `record` per request, tied to the Go breaker by
C08's ties) is in the state the spec breaker predicts, and the next `AcquirePermission` answers `!isOpen`. -/
theorem spec_breaker_is_c08_breaker (mc th N : Nat) (W t0 : Int) (rs : List (Bool × Int × Int × Int))
    (hN : rs.length < N) (hr : ∀ r ∈ rs, r.2.1 < t0 + W ∧ r.2.2.1 < W ∧ t0 ≤ r.2.2.2)
    (now : Int) (hnow : now < t0 + W) :
    let s := rs.foldl (fun s r => s.record r.1) ({ minCalls := mc, threshold := th } : CB)
    let c := rs.foldl (c08Step (harnessPolicy mc th N W)) (CircuitBreaker.new (harnessPolicy mc th N W) t0)
    c.st.toNat = s.state ∧
    (CircuitBreaker.acquire (harnessPolicy mc th N W) c now).2.permitted = !s.isOpen := by
  have h := cbrel_run (W := W) rs _ _ (cbrel_new mc th N W t0) rfl rfl (by simpa using hN) hr
  exact ⟨cbrel_state h, by rw [cbrel_acquire h hnow]⟩

/-- two failures out of two calls at `minCalls = 2`, threshold 50 %: both breakers open, the third request is refused -/
example :
    let P := harnessPolicy 2 50 100 3600000000000
    let rs : List (Bool × Int × Int × Int) := [(true, 0, 5, 5), (true, 10, 5, 15), (false, 20, 5, 25)]
    (rs.foldl (c08Step P) (CircuitBreaker.new P 0)).st = .open ∧
    (rs.foldl (fun s r => s.record r.1) ({ minCalls := 2, threshold := 50 } : CB)).state = 3 := ⟨rfl, rfl⟩

theorem spec_accepts_model (pool : Pool) (stream permitted : Bool) (env : Env)
    (hperm : (pool.hasCB && !permitted) = false)
    (hmax : ∀ p, pool.retry = some p → 1 ≤ p.maxAttempts) :
    let out := handle pool stream permitted env
    let m := (callsOf pool stream permitted env).length
    m ≤ maxCalls pool stream ∧
    noCallAfterSuccess pool.failureCodes env.attempt m = true ∧
    lastAttemptSeen pool.failureCodes env.attempt ⟨m, [], out.result, out.status.getD 0⟩ = true ∨
      out.status = none := by
  simp only
  by_cases hs : (handle pool stream permitted env).status = none
  · exact Or.inr hs
  · obtain ⟨_, n, _, inv⟩ := inner_inv pool stream env
    have hl := result_is_last_attempt pool stream permitted env hperm hmax
    have hm : (callsOf pool stream permitted env).length = n := by
      rw [callsOf_permitted hperm, inv.calls, List.length_range']
    simp only [hm] at hl ⊢
    refine Or.inl ⟨inv.le, ?_, ?_⟩
    · rw [noCallAfterSuccess, List.all_eq_true]
      intro k hk
      exact (inv.failed k (Nat.zero_le k) (by have := List.mem_range.mp hk; omega)).1
    · obtain ⟨st, hst⟩ := Option.ne_none_iff_exists'.mp hs
      simp [lastAttemptSeen, ← hl, hst]

/-! ### tie by translation: definitions regenerated from the Go source on every run

`Gen.FactsC10IR.*IR` are produced by the go/ast → Lean micro-translator (`harness/factextract/irlib.go`,
`facts_c10_ir.go`) from the *bodies* of the Go functions; the theorems below (proofs: `Proofs/RetryIR.lean`,
same names) show them equal to the hand-written model for all inputs. A changed comparison, a dropped
`return`, a swapped `select` body, another wrapper order … changes the generated definition and breaks
the corresponding theorem. -/

/-- `RetryPolicy.Wrap`'s closure = the generic mirror `wrapG`, for **every** float algebra (so for
`float64`), policy, handler behaviour, jitter and cancellation oracle. -/
theorem wrap_regenerated_from_source :
    Gen.FactsC10IR.extractionFailed = false ∧
    ∀ {F : Type} (A : FloatOps F) (p : RetryPolicy) (f : F)
      (h : Nat → Option Nat → Option SPErr × Option Nat) (env : EnvG) (resp0 : Option Nat),
      Gen.FactsC10IR.wrapIR A p f h env resp0 = wrapG A p f h env resp0 :=
  ⟨rfl, fun A p f h env resp0 => Retry.wrap_regenerated_from_source A p f h env resp0⟩

theorem createWrapper_regenerated_from_source :
    Gen.FactsC10IRc.extractionFailed = false ∧
    ∀ (wd0 : Int) (ws : String) (parse : String → Int × Bool),
      Gen.FactsC10IRc.createWrapperIR wd0 ws parse = createWrapperG wd0 ws parse ∧
      (createWrapperG wd0 ws parse : Int) =
        (createWrapper (if ws != "" then (parse ws).1 else wd0) : Nat) :=
  ⟨rfl, fun wd0 ws parse => ⟨Retry.createWrapper_regenerated_from_source wd0 ws parse, rfl⟩⟩

/-- **Wrappers created from one policy object are independent**: `CreateWrapper` (regenerated: a function of
the policy's own fields that writes only `waitDuration`) is idempotent, so after `k ≥ 1` calls on the same
object — `InjectResiliencePolicy` makes one per server pool that names the policy — `waitDuration` is what one
call gives; the closure returned by `Wrap` reads only the policy's fields, hence every wrapped call behaves
as if its wrapper were the only one: in particular it makes at most `maxAttempts` attempts however many
wrappers exist. (A `CreateWrapper` that accumulates state in the shared policy breaks
`createWrapper_regenerated_from_source`.) -/
theorem wrappers_independent {F : Type} (A : FloatOps F) (p : RetryPolicy) (f : F)
    (h : Nat → Option Nat → Option SPErr × Option Nat) (env : EnvG) (resp0 : Option Nat)
    (wd0 : Int) (ws : String) (parse : String → Int × Bool) (k : Nat) :
    createWrapperTimes ws parse (k + 1) wd0 = Gen.FactsC10IRc.createWrapperIR wd0 ws parse ∧
    Gen.FactsC10IR.wrapIR A { p with wait := (createWrapperTimes ws parse (k + 1) wd0).toNat } f h env resp0 =
      Gen.FactsC10IR.wrapIR A { p with wait := (createWrapperTimes ws parse 1 wd0).toNat } f h env resp0 := by
  rw [createWrapperTimes_succ, createWrapperTimes_succ, Retry.createWrapper_regenerated_from_source]
  exact ⟨rfl, rfl⟩

/-- three pools share a policy with `waitDuration: ""`: 500 ms after the first, the second and the third call -/
example : createWrapperTimes "" (fun _ => (0, true)) 3 0 = 500000000 ∧
    createWrapperTimes "" (fun _ => (0, true)) 1 0 = 500000000 := ⟨rfl, rfl⟩

/-- `ServerPool.doHandle` = the model's classification (no server ⇒ 503 internalError … deadline ⇒ 408
timeout, client gone ⇒ 499, failure code keeps the response). -/
theorem doHandle_regenerated_from_source :
    Gen.FactsC10IRp.extractionFailed = false ∧
    ∀ (fc : List Nat) (o : DoEnv) (resp0 : Option Nat),
      Gen.FactsC10IRp.doHandleIR fc o resp0 = doHandle fc o.attempt resp0 :=
  ⟨rfl, Retry.doHandle_regenerated_from_source⟩

/-- `ServerPool.handle` (mirror = false, cache miss) = the model's `handle`: retry wrapper first and only
for non-stream requests, circuit breaker outermost, the result / status mapping of the three outcomes. -/
theorem handle_regenerated_from_source :
    Gen.FactsC10IRp.extractionFailed = false ∧
    ∀ (pool : Pool) (stream permitted : Bool) (env : Env),
      Gen.FactsC10IRp.handleIR pool stream permitted env = handle pool stream permitted env :=
  ⟨rfl, Retry.handle_regenerated_from_source⟩

/-- the handler closure inside `handle`: the pool timeout is applied to the context of every single
call (so inside the retry loop), and `spCtx.resp` / `stdReq` / `stdResp` are reset before `doHandle` — which
is why the model's `handler` passes `none` to `doHandle` and `meet` sees the deadline per attempt. -/
theorem handler_regenerated_from_source :
    Gen.FactsC10IRp.extractionFailed = false ∧
    ∀ (timeout : Int) (resp0 : Option Nat),
      Gen.FactsC10IRp.handlerIR timeout resp0 = (decide (timeout > 0), none, true) :=
  ⟨rfl, Retry.handler_regenerated_from_source⟩

/-- the wrapper composition for a pool with both policies: breaker around retry around the closure;
a stream request skips the retry wrapper -/
example :
    let pool : Pool := ⟨[], some ⟨3, 1000, false, 0, 1⟩, true⟩
    let env : Env := ⟨fun _ => .sendErr .none, fun _ => 0, fun _ => false⟩
    (calls (Gen.FactsC10IRp.handleIR pool false true env).events).length = 3 ∧
    (calls (Gen.FactsC10IRp.handleIR pool true true env).events).length = 1 ∧
    (Gen.FactsC10IRp.handleIR pool false true env).cbRecords = [true] ∧
    (Gen.FactsC10IRp.handleIR pool false false env).result = "shortCircuited" := by
  exact ⟨rfl, rfl, rfl, rfl⟩

/-- **The regenerated closure refines the model the theorems above are about**: with any float algebra
it makes the same handler calls, sleeps and stop, in the same order, and returns the same error and
response as `retryLoopWith` (what `inner` / `handle` run). Hence `attempts_le_max`,
`stops_at_first_success`, `cancel_stops`, `retries_until_max`, `result_is_last_attempt` hold of the
regenerated definition, not only of the hand-written one. -/
theorem wrap_ir_refines_model {F : Type} (A : FloatOps F) (p : RetryPolicy) (f : F)
    (h : Nat → Option Nat → Option SPErr × Option Nat) (env : EnvG) (envM : Env)
    (hd : ∀ k, envM.done k = env.done k) (resp0 : Option Nat) :
    let R := Gen.FactsC10IR.wrapIR A p f h env resp0
    let M := retryLoopWith h p envM p.maxAttempts.toNat 0 (none, resp0)
    R.events.map EventG.skel = M.events.map Event.skel ∧ R.err = M.err ∧ R.resp = M.resp := by
  intro R M
  rw [show R = _ from Retry.wrap_regenerated_from_source A p f h env resp0]
  have r := wrapLoopG_refines A h p f env envM hd p.maxAttempts.toNat 0 (A.ofInt p.wait) (none, resp0)
  exact ⟨r.events, r.err, r.resp⟩

/-- … e.g. attempt counting, directly for the regenerated closure wrapped around the pool's handler -/
theorem wrap_ir_attempts_le_max {F : Type} (A : FloatOps F) (p : RetryPolicy) (f : F) (fc : List Nat)
    (env : EnvG) (envM : Env) (hd : ∀ k, envM.done k = env.done k) :
    ∃ m, m ≤ p.maxAttempts.toNat ∧
      callsS ((Gen.FactsC10IR.wrapIR A p f (handler fc envM) env none).events.map EventG.skel) =
        List.range' 0 m := by
  obtain ⟨h1, _, _⟩ := wrap_ir_refines_model A p f (handler fc envM) env envM hd none
  obtain ⟨m, inv⟩ := loop_inv fc p envM p.maxAttempts.toNat 0 (none, none)
  exact ⟨m, inv.le, by rw [h1, ← calls_eq_callsS]; exact inv.calls⟩

/-- a toy float algebra (integers, `1.5 ↦ 1`) — the logic theorems do not care -/
def intOps : FloatOps Int := ⟨id, (· + ·), (· - ·), (· * ·), id, fun m e => m / 10 ^ e⟩

/-- three attempts: 500 (failure code), network error, 200: two sleeps, then success -/
example :
    let h : Nat → Option Nat → Option SPErr × Option Nat :=
      handler [500] ⟨fun k => if k = 0 then .resp 500 else if k = 1 then .sendErr .none else .resp 200,
        fun _ => 0, fun _ => false⟩
    (Gen.FactsC10IR.wrapIR intOps ⟨5, 1000, true, 0, 1⟩ 0 h ⟨fun _ _ => 0, fun _ => false⟩ none) =
      ⟨[.call 0, .sleep 0 1000, .call 1, .sleep 1 1000, .call 2], none, some 200⟩ := by
  rfl

/-- cancellation at the second `select` -/
example :
    let h : Nat → Option Nat → Option SPErr × Option Nat :=
      handler [] ⟨fun _ => .sendErr .none, fun _ => 0, fun _ => false⟩
    (Gen.FactsC10IR.wrapIR intOps ⟨5, 1000, false, 0, 1⟩ 0 h ⟨fun _ _ => 0, fun k => k == 1⟩ none).events =
      [.call 0, .sleep 0 1000, .call 1, .stop 1] := by
  rfl

/-! ### waiting: exact durations and the exact bound on total waiting

For the **exact rational instance** `ratOps` of the float algebra (rounding of `float64` is not modelled).
C10 says "waits at least the configured back-off between attempts"; the code waits a back-off
after *every* failed attempt, the last one included (DESIGN §10.3), so the total waiting of one wrapped
call is bounded by the sum over all `maxAttempts` back-offs — not `maxAttempts − 1`. -/

/-- **Exact back-off**: the `j`-th sleep lasts `⌊d_j⌋` ns, `d_j = base_j − base_j·f + r_j`,
`base_j = wait·1.5^j` (exponential) or `wait`; and `base_j(1−f) ≤ d_j ≤ base_j(1+f)` under `rand.Intn`'s
contract `0 ≤ r < n`. -/
theorem backoff_exact (p : RetryPolicy) (f : Rat) (h : Nat → Option Nat → Option SPErr × Option Nat)
    (env : EnvG) (resp0 : Option Nat) (j : Nat) (dur : Int)
    (hm : EventG.sleep j dur ∈ (Gen.FactsC10IR.wrapIR ratOps p f h env resp0).events) :
    j < p.maxAttempts.toNat ∧ dur = truncQ (durQ p f env j) ∧
    (0 ≤ f → JitterOK env →
      baseQ p j * (1 - f) ≤ durQ p f env j ∧ durQ p f env j ≤ baseQ p j * (1 + f)) := by
  rw [Retry.wrap_regenerated_from_source] at hm
  obtain ⟨h1, h2⟩ := wrapLoopG_sleeps h p f env p.maxAttempts.toNat 0 _ (none, resp0) (ofInt_wait_ratOps p) j dur hm
  rw [Nat.zero_add] at h1
  exact ⟨h1, h2, durQ_bounds p f env j⟩

/-- **Total waiting is bounded** by `Σ_{k<maxAttempts} base_k·(1+f)` — `maxAttempts·wait·(1+f)` for the
fixed and `2·wait·(1+f)·(1.5^maxAttempts − 1)` for the exponential policy — and at most `maxAttempts`
back-offs are waited. -/
theorem total_wait_bounded (p : RetryPolicy) (f : Rat) (h : Nat → Option Nat → Option SPErr × Option Nat)
    (env : EnvG) (resp0 : Option Nat) (hf : 0 ≤ f) (hf1 : f ≤ 1) (hj : JitterOK env) :
    let evs := (Gen.FactsC10IR.wrapIR ratOps p f h env resp0).events
    let n := p.maxAttempts.toNat
    ((sleepTotal evs : Int) : Rat) ≤
      (if p.exponential then 2 * (p.wait : Rat) * (1 + f) * ((3 / 2) ^ n - 1)
       else (n : Rat) * (p.wait : Rat) * (1 + f)) ∧
    sleepCount evs ≤ n := by
  intro evs n
  have h1 := wrapLoopG_total_le h p f env hf hf1 hj n 0 _ (none, resp0) (ofInt_wait_ratOps p)
  rw [capFrom_closed, Nat.zero_add, pow_zero] at h1
  rw [show evs = _ from congrArg RunG.events (Retry.wrap_regenerated_from_source ratOps p f h env resp0)]
  exact ⟨h1, (wrapLoopG_counts _ _ _ _ _ _ _ _ _).2⟩

/-- **The bound's `maxAttempts` (not `maxAttempts − 1`) terms are all used**: if every attempt fails and
the client stays, the closure's events are `call 0, sleep 0, …, call (m−1), sleep (m−1)` — one back-off is
waited after the last failed attempt, before the error is returned. -/
theorem waits_after_last_failed_attempt {F : Type} (A : FloatOps F) (p : RetryPolicy) (f : F)
    (h : Nat → Option Nat → Option SPErr × Option Nat) (env : EnvG) (resp0 : Option Nat)
    (hfail : ∀ k r, (h k r).1.isSome = true) (hnd : ∀ k, env.done k = false) :
    (Gen.FactsC10IR.wrapIR A p f h env resp0).events.map EventG.skel =
      (List.range' 0 p.maxAttempts.toNat).flatMap (fun j => [Skel.call j, Skel.sleep j]) := by
  rw [Retry.wrap_regenerated_from_source]
  exact wrapLoopG_all_fail A h p f env hfail hnd _ 0 _ _

/-- **No attempt outlives the pool timeout, and the client-visible wait is bounded** by
`maxAttempts · timeout + Σ back-offs`. The deadline is put on the context of every single call by the
handler closure (regenerated: `handlerIR timeout r = (true, …)` for `timeout > 0`), which `handle` wraps
*inside* the retry loop (`handle_regenerated_from_source`); `dur k` is the backend's own answer time
(`none` = never). Trusted: the transport returns when its context's deadline passes. -/
theorem timeout_bounds_every_attempt_and_the_wait (p : RetryPolicy) (f : Rat)
    (h : Nat → Option Nat → Option SPErr × Option Nat) (env : EnvG) (resp0 : Option Nat)
    (timeout : Nat) (ht : 0 < timeout) (dur : Nat → Option Nat)
    (hf : 0 ≤ f) (hf1 : f ≤ 1) (hj : JitterOK env) :
    (Gen.FactsC10IRp.handlerIR (timeout : Int) resp0).1 = true ∧
    (∀ k, attemptTime timeout dur k ≤ timeout) ∧
    let evs := (Gen.FactsC10IR.wrapIR ratOps p f h env resp0).events
    let n := p.maxAttempts.toNat
    ((elapsed timeout dur evs : Int) : Rat) ≤ (n : Rat) * (timeout : Rat) +
      (if p.exponential then 2 * (p.wait : Rat) * (1 + f) * ((3 / 2) ^ n - 1)
       else (n : Rat) * (p.wait : Rat) * (1 + f)) := by
  refine ⟨?_, attemptTime_le timeout dur, ?_⟩
  · rw [Retry.handler_regenerated_from_source]
    exact decide_eq_true (Int.natCast_pos.mpr ht)
  · intro evs n
    -- elapsed ≤ calls · timeout + Σ sleeps ≤ n · timeout + the bound on the back-offs
    have hb := (total_wait_bounded p f h env resp0 hf hf1 hj).1
    have hn : callCount evs ≤ n := by
      rw [show evs = _ from congrArg RunG.events (Retry.wrap_regenerated_from_source ratOps p f h env resp0)]
      exact (wrapLoopG_counts ratOps h p f env _ 0 _ _).1
    have he : elapsed timeout dur evs ≤ ((n * timeout : Nat) : Int) + sleepTotal evs :=
      (elapsed_le timeout dur evs).trans
        (Int.add_le_add_right (Int.ofNat_le.mpr (Nat.mul_le_mul_right _ hn)) _)
    have heQ : ((elapsed timeout dur evs : Int) : Rat) ≤ (n : Rat) * (timeout : Rat) + sleepTotal evs := by
      exact_mod_cast he
    exact heQ.trans (add_le_add le_rfl hb)

/-- a hanging backend (never answers), timeout 10 ms, three attempts: 30 ms of attempts plus the back-offs -/
example : elapsed 10000000 (fun _ => none) [.call 0, .sleep 0 1000, .call 1, .sleep 1 1500, .call 2, .sleep 2 2250] =
    30004750 := rfl

/-- non-vacuity: `rand.Intn ↦ 0` meets the contract; `f = 1/2` is in range -/
example : JitterOK ⟨fun _ _ => 0, fun _ => false⟩ ∧ (0 : Rat) ≤ 1 / 2 ∧ (1 / 2 : Rat) ≤ 1 :=
  ⟨fun _ _ => ⟨le_refl _, fun h => h⟩, by norm_num, by norm_num⟩

/-- wait 1000 ns, exponential, three failing attempts: three sleeps (1000, 1500, 2250 ns) -/
example : baseQ ⟨3, 1000, true, 0, 1⟩ 2 = 2250 := by
  simp only [baseQ, if_true]; norm_num

/-! ### facts re-derived from the source on every run -/

theorem source_facts :
    Gen.FactsC10.extractionFailed = false ∧
    -- (RetryPolicy.Wrap's loop, select, back-off arithmetic and the 500 ms default are tied by
    -- `wrap_/createWrapper_regenerated_from_source`; the printed-statement facts that used to stand here
    -- alarmed on mere renames)
    -- breaker wrapper: one acquire, one handler call, record sites = normal path + panic path
    -- (its body is tied by C08's `wrap_regenerated_from_source`)
    Gen.FactsC10.cbAcquireCalls = 1 ∧ Gen.FactsC10.cbRecordCalls = 2 ∧ Gen.FactsC10.cbHandlerCalls = 1 ∧
    Gen.FactsC10.cbRecordsErrFlag = true ∧
    -- handle: timeout context (wrapper order, resets, the single call of the composed handler and the
    -- result mapping: `handle_/handler_regenerated_from_source`)
    Gen.FactsC10.handleTimeoutContext = true ∧
    -- doHandle: one transport call (classification: `doHandle_regenerated_from_source`)
    Gen.FactsC10.doHandleSends = 1 ∧
    Gen.FactsC10.resultConsts =
      ["resultInternalError=\"internalError\"", "resultClientError=\"clientError\"",
       "resultServerError=\"serverError\"", "resultFailureCode=\"failureCode\"",
       "resultTimeout=\"timeout\"", "resultShortCircuited=\"shortCircuited\""] :=
  ⟨rfl, rfl, rfl, rfl, rfl, rfl, rfl, rfl⟩

end EgVerif.C10
