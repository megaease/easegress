import EgVerif.Proofs.Lifecycle
import EgVerif.Proofs.LifecycleIR
import EgVerif.Proofs.LifecycleShutdown
import EgVerif.Proofs.LifecycleAbort
import EgVerif.Proofs.LifecycleQueue
import EgVerif.Gen.FactsC20
/-!
# C20 — objects are initialised, inherited and closed exactly once as the configuration changes

Theorems about `Model/Lifecycle.lean` (a mirror of `ObjectRegistry.applyConfig`, `NewWatcher`,
`Init/Inherit/CloseWithRecovery`, `Supervisor.handleEvent`, and the traffic controller's
create / update / delete path, as repaired in /repo by `fixes/C20-kind-change.patch`), for

* every history of snapshots and watcher attachments (`List Item`, any length, any names),
* every iteration order of the Go maps (the order of each snapshot list; every oracle `P.order`
  that permutes the event maps),
* every fault assignment `P.panics` (which Init / Inherit / Close calls panic),
* every consumer shape (`filter`, `slot`, `createChecks`, `namespaced`), so both the supervisor and
  the traffic controller with its namespace bookkeeping (`_cleanSpace`).

`HistWF` only says that a snapshot has unique keys (it is a Go map); `Params.WF` that the `range`
oracles permute and that a namespaced consumer has the two maps `_cleanSpace` probes.
Helper lemmas are in `Proofs/Lifecycle.lean`; the declarative per-name specification
(`regNext`, `view`, `wordStep`, `specWord`, the automaton `Auto`) is in `Spec/Lifecycle.lean`.
-/
namespace EgVerif.C20
open EgVerif.Lifecycle

/-- The calls made on name `n` after a history, from the initial state. -/
def callsOn (P : Params) (h : List Item) (n : Name) : List Call := callsOf n (run P Sys.init h).w.cons.log

/-- What the consumer holds for `n` in its map number `s` after a history. -/
def held (P : Params) (h : List Item) (s : Nat) (n : Name) : Option Entity :=
  (run P Sys.init h).w.cons.store.get (s, n)

/-! ## exactly once -/

/-- For every name, the calls the consumer makes over a whole history are
exactly the specification's word: one `init` when the name appears (in the consumer's categories),
one `inherit` — with the previous live object as predecessor — per change of its spec, one `close`
when it disappears, `close` + `init` when its kind changes, nothing when nothing changes. -/
theorem exactly_once (P : Params) (ok : P.WF) (h : List Item) (wf : HistWF h) (n : Name) :
    callsOn P h n = specWord P n 0 false none h :=
  (run_spec P ok n h Sys.init (inv_init P) wf).1

/-- The same, from any reachable state, for one more snapshot or attachment: the calls owed to `n`
are `wordStep` between the consumer's old and new view of `n` (`coalesced_changes` below reads
this as: only the net difference between consecutive snapshots matters). -/
theorem step_word (P : Params) (ok : P.WF) (h : List Item) (wf : HistWF h) (it : Item)
    (wit : it.WF) (n : Name) :
    let s := run P Sys.init h
    callsOf n (step P s it).w.cons.log = callsOf n s.w.cons.log ++
      wordStep P n (view P s.w.attached (s.ents.get n))
        (view P (nextAtt s.w.attached it) (nextReg n s.g (s.ents.get n) it)) := by
  intro s
  exact step_log P ok s (reach_inv P ok h wf) it wit n

/-- The per-name log is a word of the lifecycle automaton `(init inherit* close)*` (init only when
nothing is live, inherit only from the live object — which is its recorded predecessor and has the
same kind —, close only of the live object), and the object the log leaves live is the consumer's
view of the last snapshot. -/
theorem log_is_lifecycle_word (P : Params) (ok : P.WF) (h : List Item) (wf : HistWF h) (n : Name) :
    Auto.run none (callsOn P h n) =
      some (view P (specFinal n 0 false none h).1 (specFinal n 0 false none h).2) := by
  rw [exactly_once P ok h wf n]
  exact Auto.run_specWord P n h 0 false none

/-- Every call in the log is sane: `init`/`close` have no predecessor, every `inherit` has a
predecessor **of the same kind**, and a call panicked iff the object itself chose to. -/
theorem calls_sane (P : Params) (ok : P.WF) (h : List Item) (wf : HistWF h) (c : Call)
    (hc : c ∈ (run P Sys.init h).w.cons.log) : c.Sane P := by
  have hm : c ∈ callsOn P h c.name := by
    unfold callsOn callsOf
    exact List.mem_filter.mpr ⟨hc, by simp⟩
  rw [exactly_once P ok h wf c.name] at hm
  exact (specWord_sane P c.name h 0 false none c hm).2

/-! ## live set = last snapshot -/

/-- The consumer's maps hold, for every name, exactly its view of the registry, in the map the
kind selects; the registry holds `specFinal`; the watcher is attached iff an `attach` occurred. -/
theorem live_eq_snapshot (P : Params) (ok : P.WF) (h : List Item) (wf : HistWF h) (n : Name)
    (s : Nat) :
    held P h s n =
      (view P (specFinal n 0 false none h).1 (specFinal n 0 false none h).2).filter
        (fun e => decide (P.slot e.kind = s)) ∧
    (run P Sys.init h).ents.get n = (specFinal n 0 false none h).2 := by
  obtain ⟨h1, h2⟩ := run_final P ok h wf n
  refine ⟨?_, h2⟩
  rw [← h1, ← h2]
  exact congrFun ((reach_inv P ok h wf).store n) s

/-- What the consumer holds for `n` depends on the parameters only through the filter and the slots, and on
the history only through the registry object and attachment it leaves for `n`. -/
theorem held_congr (P P' : Params) (ok : P.WF) (ok' : P'.WF) (h h' : List Item) (wf : HistWF h)
    (wf' : HistWF h') (n : Name) (hf : ∀ e, P'.passes e = P.passes e) (hs : ∀ k, P'.slot k = P.slot k)
    (hfin : specFinal n 0 false none h' = specFinal n 0 false none h) (s : Nat) :
    held P' h' s n = held P h s n := by
  rw [(live_eq_snapshot P' ok' h' wf' n s).1, (live_eq_snapshot P ok h wf n s).1, view_congr P' P hf, hfin]
  simp only [hs]

/-- After a history that ends with a snapshot `cfg` (watcher attached before):
a name with a valid entry of a kind in the consumer's categories is live with exactly that kind and
body; a name that is absent from `cfg` is not live in any map. -/
theorem live_eq_last_snapshot (P : Params) (ok : P.WF) (h : List Item) (cfg : Config)
    (wf : HistWF (h ++ [.snap cfg])) (hatt : Item.attach ∈ h) (n : Name) :
    (∀ k b, cfg.get n = some (some (k, b)) → P.filter (P.cat k) = true →
        ∃ g, held P (h ++ [.snap cfg]) (P.slot k) n = some ⟨g, k, b⟩) ∧
    (∀ k b, cfg.get n = some (some (k, b)) → P.filter (P.cat k) = false →
        ∀ s, held P (h ++ [.snap cfg]) s n = none) ∧
    (cfg.get n = none → ∀ s, held P (h ++ [.snap cfg]) s n = none) := by
  obtain ⟨g', hfin⟩ := specFinal_snoc_snap n cfg h 0 false none
  have key : ∀ s, held P (h ++ [.snap cfg]) s n =
      (view P true (regNext g' (specFinal n 0 false none h).2 (cfg.get n))).filter
        (fun e => decide (P.slot e.kind = s)) := by
    intro s
    rw [(live_eq_snapshot P ok _ wf n s).1, hfin, specFinal_attached n h 0 false none (Or.inr hatt)]
  refine ⟨?_, ?_, ?_⟩
  · intro k b hc hf
    obtain ⟨g, hg⟩ := @regNext_valid g' (specFinal n 0 false none h).2 k b
    refine ⟨g, ?_⟩
    rw [key, hc, hg]
    simp [view, Option.filter, Params.passes, hf]
  · intro k b hc hf s
    obtain ⟨g, hg⟩ := @regNext_valid g' (specFinal n 0 false none h).2 k b
    rw [key, hc, hg]
    simp [view, Option.filter, Params.passes, hf]
  · intro hc s
    rw [key, hc]
    simp [regNext, view, Option.filter]

/-- `watcher.entities` (the anchored state next to `ObjectRegistry.entities`) is the watcher's view
of the registry after every history. -/
theorem watcher_entities_eq (P : Params) (ok : P.WF) (h : List Item) (wf : HistWF h) (n : Name) :
    (run P Sys.init h).w.wents.get n =
      view P (specFinal n 0 false none h).1 (specFinal n 0 false none h).2 := by
  obtain ⟨h1, h2⟩ := run_final P ok h wf n
  rw [(reach_inv P ok h wf).wents n, h1, h2]

/-! ## unchanged ⇒ untouched -/

/-- If a snapshot leaves the registry's object for `n` as it is (same kind and body, or absent
before and after, or a yaml that is rejected), no call is made on `n` and the consumer's maps are
unchanged at `n`. -/
theorem untouched_of_same_registry (P : Params) (ok : P.WF) (h : List Item) (wf : HistWF h)
    (cfg : Config) (wc : cfg.WF) (n : Name)
    (hsame : regNext (run P Sys.init h).g ((run P Sys.init h).ents.get n) (cfg.get n) =
      (run P Sys.init h).ents.get n) :
    let s := run P Sys.init h
    callsOf n (step P s (.snap cfg)).w.cons.log = callsOf n s.w.cons.log ∧
      (∀ sl, (step P s (.snap cfg)).w.cons.store.get (sl, n) = s.w.cons.store.get (sl, n)) ∧
      (step P s (.snap cfg)).ents.get n = s.ents.get n := by
  intro s
  have inv := reach_inv P ok h wf
  have hr := step_reg P s (.snap cfg) wc n
  have hc := step_cons_at P ok s inv (.snap cfg) wc n
  simp only [nextReg, nextAtt] at hr hc
  rw [hsame] at hr hc
  rw [wordStep_self, List.append_nil, ← inv.store n] at hc
  exact ⟨congrArg Prod.snd hc, congrFun (congrArg Prod.fst hc), hr⟩

/-- A name whose entry has the kind and body of its live object is left
alone — same object (same generation) afterwards, no Init / Inherit / Close. -/
theorem unchanged_untouched (P : Params) (ok : P.WF) (h : List Item) (wf : HistWF h)
    (cfg : Config) (wc : cfg.WF) (n : Name) (p : Entity)
    (hreg : (run P Sys.init h).ents.get n = some p)
    (hcfg : cfg.get n = some (some (p.kind, p.body))) :
    let s := run P Sys.init h
    callsOf n (step P s (.snap cfg)).w.cons.log = callsOf n s.w.cons.log ∧
      (∀ sl, (step P s (.snap cfg)).w.cons.store.get (sl, n) = s.w.cons.store.get (sl, n)) ∧
      (step P s (.snap cfg)).ents.get n = some p := by
  intro s
  have := untouched_of_same_registry P ok h wf cfg wc n (by rw [hreg, hcfg]; simp [regNext])
  simp only at this
  rw [hreg] at this
  exact this

/-- Re-applying the snapshot that was just applied changes nothing at any name. -/
theorem reapply_noop (P : Params) (ok : P.WF) (h : List Item) (cfg : Config)
    (wf : HistWF (h ++ [.snap cfg])) (n : Name) :
    callsOn P (h ++ [.snap cfg] ++ [.snap cfg]) n = callsOn P (h ++ [.snap cfg]) n ∧
      ∀ sl, held P (h ++ [.snap cfg] ++ [.snap cfg]) sl n = held P (h ++ [.snap cfg]) sl n := by
  have wc : cfg.WF := wf (.snap cfg) (by simp)
  have hrun : ∀ l, run P Sys.init (l ++ [.snap cfg]) = step P (run P Sys.init l) (.snap cfg) :=
    fun l => run_append P _ l _
  have := untouched_of_same_registry P ok (h ++ [.snap cfg]) wf cfg wc n (by
    rw [hrun h, step_reg P _ (.snap cfg) wc n]; exact regNext_idem _ _ _ _)
  unfold callsOn held
  rw [hrun (h ++ [Item.snap cfg])]
  exact ⟨this.1, this.2.1⟩

/-! ## panics are isolated -/

/-- Changing which calls **on other names** panic changes nothing for `n`: the same calls with the
same flags are made on `n`, and the same object is live for `n`. In particular a panic in one
object's Init / Inherit / Close never prevents the other objects of the snapshot from being
reconciled (their words are still the specification's). In this model that is a congruence — its
control flow never reads `panics`; `panic_isolated_abortable` below states it where a panic can abort. -/
theorem panic_isolated (P : Params) (ok : P.WF) (h : List Item) (wf : HistWF h)
    (f : Op → Name → Entity → Bool) (n : Name) (hagree : ∀ op e, f op n e = P.panics op n e) :
    callsOn { P with panics := f } h n = callsOn P h n ∧
      ∀ s, held { P with panics := f } h s n = held P h s n := by
  have ok' : Params.WF { P with panics := f } := ⟨ok.order, ok.slots⟩
  refine ⟨?_, fun s => ?_⟩
  · rw [exactly_once _ ok' h wf n, exactly_once P ok h wf n]
    exact specWord_congr { P with panics := f } P n (fun _ => rfl) hagree h 0 false none
  · exact held_congr P _ ok ok' h h wf wf n (fun _ => rfl) (fun _ => rfl) rfl s

/-- Whatever panics — including the calls on `n` itself — the reconciliation is the same: the same
calls (up to their panic flag) on the same objects, the same live set, the same registry. -/
theorem panics_do_not_change_reconciliation (P : Params) (ok : P.WF) (h : List Item)
    (wf : HistWF h) (f : Op → Name → Entity → Bool) (n : Name) :
    (callsOn { P with panics := f } h n).map Call.erase = (callsOn P h n).map Call.erase ∧
      (∀ s, held { P with panics := f } h s n = held P h s n) ∧
      (run { P with panics := f } Sys.init h).ents.get n = (run P Sys.init h).ents.get n := by
  have ok' : Params.WF { P with panics := f } := ⟨ok.order, ok.slots⟩
  refine ⟨?_, fun s => ?_, ?_⟩
  · rw [exactly_once _ ok' h wf n, exactly_once P ok h wf n]
    exact specWord_erase { P with panics := f } P n (fun _ => rfl) h 0 false none
  · exact held_congr P _ ok ok' h h wf wf n (fun _ => rfl) (fun _ => rfl) rfl s
  · rw [(live_eq_snapshot _ ok' h wf n 0).2, (live_eq_snapshot P ok h wf n 0).2]

/-! ## change of kind = close + init -/

/-- A name whose kind changes between two snapshots: the old object is closed (if the consumer had
it) and the new one initialised (if the consumer wants it) — never an `inherit`; the registry holds
the new object. With both kinds in the consumer's categories the calls are `close old, init new`;
across categories the old consumer closes and the new consumer initialises. -/
theorem kind_change_close_init (P : Params) (ok : P.WF) (h : List Item) (wf : HistWF h)
    (cfg : Config) (wc : cfg.WF) (n : Name) (p : Entity) (k : Kind) (b : Body)
    (hatt : (run P Sys.init h).w.attached = true)
    (hreg : (run P Sys.init h).ents.get n = some p)
    (hcfg : cfg.get n = some (some (k, b))) (hk : p.kind ≠ k) :
    let s := run P Sys.init h
    callsOf n (step P s (.snap cfg)).w.cons.log = callsOf n s.w.cons.log ++
        (if P.passes p then [callClose P n p] else []) ++
        (if P.passes ⟨s.g, k, b⟩ then [callInit P n ⟨s.g, k, b⟩] else []) ∧
      (step P s (.snap cfg)).ents.get n = some ⟨s.g, k, b⟩ := by
  intro s
  have hw := step_log P ok s (reach_inv P ok h wf) (.snap cfg) wc n
  have hr := step_reg P s (.snap cfg) wc n
  simp only [nextReg, nextAtt] at hw hr
  have hn : regNext s.g (s.ents.get n) (cfg.get n) = some ⟨s.g, k, b⟩ := by
    rw [hreg, hcfg]; simp [regNext, hk]
  rw [hn] at hr
  rw [hn, hreg, hatt] at hw
  refine ⟨?_, hr⟩
  rw [hw, List.append_assoc]
  congr 1
  have hne : ¬ p = ⟨s.g, k, b⟩ := by intro e; apply hk; rw [e]
  by_cases hp : P.passes p <;> by_cases he : P.passes ⟨s.g, k, b⟩ <;>
    simp [view, Option.filter, wordStep, hp, he, hne, hk]

/-! ## coalesced changes -/

/-- Only the last snapshot matters for what is live: whatever snapshots `mid` were or were not
delivered in between (changes coalesced by the syncer), after `cfg` a valid entry is live with its
kind and body, and an absent name is not live. (`step_word` gives the calls: the net difference.) -/
theorem coalesced_changes (P : Params) (ok : P.WF) (h mid : List Item) (cfg : Config)
    (wfA : HistWF (h ++ mid ++ [.snap cfg])) (wfB : HistWF (h ++ [.snap cfg]))
    (hatt : Item.attach ∈ h) (n : Name) :
    (∀ k b, cfg.get n = some (some (k, b)) → P.filter (P.cat k) = true →
        ∃ gA gB, held P (h ++ mid ++ [.snap cfg]) (P.slot k) n = some ⟨gA, k, b⟩ ∧
          held P (h ++ [.snap cfg]) (P.slot k) n = some ⟨gB, k, b⟩) ∧
    (cfg.get n = none → ∀ s, held P (h ++ mid ++ [.snap cfg]) s n = none ∧
        held P (h ++ [.snap cfg]) s n = none) := by
  have a := live_eq_last_snapshot P ok (h ++ mid) cfg wfA (List.mem_append_left _ hatt) n
  have b := live_eq_last_snapshot P ok h cfg wfB hatt n
  refine ⟨fun k bd hc hf => ?_, fun hc s => ⟨a.2.2 hc s, b.2.2 hc s⟩⟩
  obtain ⟨gA, hA⟩ := a.1 k bd hc hf
  obtain ⟨gB, hB⟩ := b.1 k bd hc hf
  exact ⟨gA, gB, hA, hB⟩

/-! ## the traffic controller's namespace bookkeeping -/

/-- After every history the namespace object of a namespaced consumer exists iff one of its maps
holds something (so `Update* / Delete*` never fail with "namespace not found" for a live object, and
`_cleanSpace` only ever removes an empty namespace), and every stored key is in one of the two maps. -/
theorem namespace_iff_nonempty (P : Params) (ok : P.WF) (h : List Item) (wf : HistWF h)
    (hn : P.namespaced = true) :
    (run P Sys.init h).w.cons.ns = !(run P Sys.init h).w.cons.store.isEmpty :=
  ((reach_inv P ok h wf).ns hn).1

/-- Removing an object of one category — even the last one, which makes `_cleanSpace` look at the
namespace — does not touch what the consumer holds in its other map: in every state meeting `NsOK`
(every reachable one: `reachable_nsOK`), for every delete-loop step on an entity of slot
`P.slot x.2.kind`, every key of another slot keeps its object. This is the local statement about
`DeletePipeline / DeleteTrafficGate + _cleanSpace`; `live_eq_snapshot` gives it for whole histories. -/
theorem delete_keeps_other_category (P : Params) (ok : P.WF) (c : CState) (j : NsOK P c)
    (x : Name × Entity) (s' : Nat) (m : Name) (hs : s' ≠ P.slot x.2.kind) :
    (delStep P c x).store.get (s', m) = c.store.get (s', m) := by
  have e : (delStep P c x).store = (delStep0 P c.toOld x).store :=
    congrArg CState0.store (delStep_sim P c x j).2
  rw [e]
  unfold delStep0
  simp only [CState.toOld]
  cases c.store.get (P.slot x.2.kind, x.1) with
  | none => rfl
  | some old => exact (Map.get_del _ _ _).trans (if_neg fun eq => hs (Prod.mk.inj eq).1)

theorem reachable_nsOK (P : Params) (ok : P.WF) (h : List Item) (wf : HistWF h) :
    NsOK P (run P Sys.init h).w.cons :=
  (reach_inv P ok h wf).ns

/-! ## Go map iteration order is irrelevant -/

/-- Two histories that differ only in the order in which each snapshot's map is iterated. -/
inductive ItemPerm : Item → Item → Prop
  | snap {c c' : Config} : c'.Perm c → ItemPerm (.snap c) (.snap c')
  | attach : ItemPerm .attach .attach

theorem order_irrelevant (P : Params) (ok : P.WF)
    (o' : Nat → Nat → Map Name Entity → Map Name Entity)
    (ok' : Params.WF { P with order := o' }) (h h' : List Item)
    (hp : List.Forall₂ ItemPerm h h') (wf : HistWF h) (n : Name) :
    callsOn { P with order := o' } h' n = callsOn P h n ∧
      ∀ s, held { P with order := o' } h' s n = held P h s n := by
  -- a permuted snapshot is again a Go map and holds the same entry for `n`
  have hw : HistWF h' ∧ ∀ (g : Nat) (att : Bool) (r : Option Entity),
      specWord P n g att r h' = specWord P n g att r h ∧
        specFinal n g att r h' = specFinal n g att r h := by
    clear ok ok'
    induction hp with
    | nil => exact ⟨wf, fun _ _ _ => ⟨rfl, rfl⟩⟩
    | cons hab _ ih =>
      obtain ⟨w', ihh⟩ := ih wf.tail
      cases hab with
      | snap pc =>
        refine ⟨List.forall_mem_cons.mpr ⟨Map.wf_perm pc wf.head, w'⟩, fun g att r => ?_⟩
        simp only [specWord, specFinal, Map.get_perm pc wf.head n, ihh, and_self]
      | attach =>
        refine ⟨List.forall_mem_cons.mpr ⟨trivial, w'⟩, fun g att r => ?_⟩
        simp only [specWord, specFinal, ihh, and_self]
  obtain ⟨wf', hw⟩ := hw
  refine ⟨?_, fun s => ?_⟩
  · rw [exactly_once _ ok' h' wf' n, exactly_once P ok h wf n,
      specWord_congr { P with order := o' } P n (fun _ => rfl) (fun _ _ => rfl), (hw 0 false none).1]
  · exact held_congr P _ ok ok' h h' wf wf' n (fun _ => rfl) (fun _ => rfl) (hw 0 false none).2 s

/-! ## regenerated source facts -/

/-- Facts re-derived from the source on every run, on which the model's shape rests: the three
`…WithRecovery` wrappers start with a deferred `recover()`; `Supervisor.handleEvent` and the traffic
controller reach Init / Inherit / Close only through them, in the order delete, create, update;
`applyConfig` holds the registry mutex, iterates the maps the model iterates, and records a change
of kind as *deleted + created* (the repair). -/
theorem source_facts :
    Gen.FactsC20.extractionFailed = false ∧
    Gen.FactsC20.recoversFirst = [true, true, true] ∧
    Gen.FactsC20.supervisorCalls = ["CloseWithRecovery", "InitWithRecovery", "InheritWithRecovery"] ∧
    Gen.FactsC20.supervisorRanges = ["event.Delete", "event.Create", "event.Update"] ∧
    Gen.FactsC20.trafficRanges = ["event.Delete", "event.Create", "event.Update"] ∧
    Gen.FactsC20.trafficDirectCalls = [] ∧
    Gen.FactsC20.trafficControllerCalls =
      ["CreatePipeline:InitWithRecovery", "UpdatePipeline:InheritWithRecovery",
       "DeletePipeline:CloseWithRecovery", "CreateTrafficGate:InitWithRecovery",
       "UpdateTrafficGate:InheritWithRecovery", "DeleteTrafficGate:CloseWithRecovery"] ∧
    Gen.FactsC20.applyConfigLocksFirst = true ∧
    Gen.FactsC20.applyConfigRanges = ["or.entities", "config", "or.watchers", "deleted", "created", "updated"] ∧
    Gen.FactsC20.applyConfigKindGuards = 1 ∧
    Gen.FactsC20.applyConfigDeletedAssigns = 2 ∧
    Gen.FactsC20.newWatcherRanges = ["or.entities"] :=
  ⟨rfl, rfl, rfl, rfl, rfl, rfl, rfl, rfl, rfl, rfl, rfl, rfl⟩

/-! ## regenerated tie by translation (`notes/IR.md`)

`Gen.FactsC20IR` is re-translated on every run (go/ast → Lean, `harness/factextract/irlib.go` with
`facts_c20_ir.go`) from the current bodies of `ObjectRegistry.applyConfig`, `Supervisor.handleEvent` and
`TrafficController._cleanSpace`; the proofs are in `Proofs/LifecycleIR.lean` under the same names. -/

/-- The two diff loops of `ObjectRegistry.applyConfig`, as translated from the source, are the model's
`diff`: names absent from the snapshot are deleted; a new name is created, an equal spec skipped, a
change of kind recorded as deleted + created, any other change as updated — for every snapshot index,
every registry map with unique keys (a Go map) and every snapshot. (The per-watcher notification
closure is translated separately: `applyConfig_notify_regenerated_from_source`.) -/
theorem applyConfig_regenerated_from_source (g : Nat) (ents : Map Name Entity) (cfg : Config)
    (wf : ents.WF) :
    Gen.FactsC20IR.extractionFailed = false ∧ Gen.FactsC20IR.applyConfigIR g ents cfg = diff g ents cfg :=
  ⟨rfl, EgVerif.Lifecycle.applyConfig_regenerated_from_source g ents cfg wf⟩

/-- The hypothesis of the previous theorem holds in every reachable state, so on every step of every
history the registry part of the model's `step` is the translated source. -/
theorem applyConfig_tied_on_every_history (P : Params) (ok : P.WF) (h : List Item) (wf : HistWF h)
    (cfg : Config) :
    let s := run P Sys.init h
    s.ents.WF ∧ (step P s (.snap cfg)).ents = (Gen.FactsC20IR.applyConfigIR s.g s.ents cfg).ents := by
  intro s
  have inv := reach_inv P ok h wf
  exact ⟨inv.wf, by rw [EgVerif.Lifecycle.applyConfig_regenerated_from_source _ _ _ inv.wf]; rfl⟩

/-- The per-watcher closure of `applyConfig` (filter each of deleted / created / updated with the
watcher's filter into the event, maintain `watcher.entities`, send the event iff it is not empty), as
translated from the source, is the model's `notify` plus `stepW`'s "an empty event is not sent" — for
every watcher, every `watcher.entities`, every diff whose maps have unique keys. -/
theorem applyConfig_notify_regenerated_from_source (P : Params) (wents : Map Name Entity) (d : Diff)
    (hd : d.deleted.WF) (hc : d.created.WF) (hu : d.updated.WF) :
    Gen.FactsC20IR.extractionFailed = false ∧
    Gen.FactsC20IR.notifyIR P wents d.deleted d.created d.updated false =
      ((notify P wents d).1, (notify P wents d).2, !(notify P wents d).2.isEmpty) :=
  ⟨rfl, EgVerif.Lifecycle.applyConfig_notify_regenerated_from_source P wents d hd hc hu⟩

/-- … and its hypotheses hold on every step of every history: what `stepW` hands to the consumer is
what the translated closure computes from the translated diff. -/
theorem applyConfig_notify_tied_on_every_history (P : Params) (ok : P.WF) (h : List Item)
    (wf : HistWF h) (cfg : Config) :
    let s := run P Sys.init h
    let d := Gen.FactsC20IR.applyConfigIR s.g s.ents cfg
    Gen.FactsC20IR.notifyIR P s.w.wents d.deleted d.created d.updated false =
      ((notify P s.w.wents (diff s.g s.ents cfg)).1, (notify P s.w.wents (diff s.g s.ents cfg)).2,
        !(notify P s.w.wents (diff s.g s.ents cfg)).2.isEmpty) := by
  intro s d
  have inv := reach_inv P ok h wf
  have hd : d = diff s.g s.ents cfg := EgVerif.Lifecycle.applyConfig_regenerated_from_source _ _ _ inv.wf
  have dwf := diff_wf s.g s.ents cfg inv.wf
  rw [hd]
  exact EgVerif.Lifecycle.applyConfig_notify_regenerated_from_source P _ _ dwf.deleted dwf.created dwf.updated

/-- `Supervisor.handleEvent`, as translated from the source (three `range event.X` loops over the
`businessControllers` sync.Map: `LoadAndDelete` + `CloseWithRecovery`; "already existed" check,
`InitWithRecovery`, `Store`; `Load`, `InheritWithRecovery`, `Store`), is the model's `handleEvent` with
the supervisor's consumer shape `supParams P` (one map, create checks, no namespace, list order) — for
every consumer state, event and fault assignment; `supParams P` meets `Params.WF`, so every theorem
of this file applies to it. -/
theorem handleEvent_regenerated_from_source (P : Params) (c : CState) (ev : Event) :
    Gen.FactsC20IR.extractionFailed = false ∧ (supParams P).WF ∧
    Gen.FactsC20IR.handleEventIR P c ev = handleEvent (supParams P) 0 c ev :=
  ⟨rfl, ⟨fun _ _ m => List.Perm.refl m, fun h => by simp [supParams] at h⟩,
    EgVerif.Lifecycle.handleEvent_regenerated_from_source P c ev⟩

/-- `TrafficController._cleanSpace`, as translated from the source (probe `trafficGates`, probe
`pipelines`, both empty ⇒ delete the namespace), is the model's `cleanSpace` on every consumer state. -/
theorem cleanSpace_regenerated_from_source (c : CState) :
    Gen.FactsC20IR.extractionFailed = false ∧ Gen.FactsC20IR.cleanSpaceIR c = cleanSpace c :=
  ⟨rfl, EgVerif.Lifecycle.cleanSpace_regenerated_from_source c⟩

/-- Non-vacuity: one snapshot that exercises every branch of the translated loops (7: kind change,
8: body change, 9: disappears, 10: appears, 11: rejected yaml, 12: unchanged). -/
example : Map.WF ([(7, ⟨0, 0, 0⟩), (8, ⟨1, 1, 5⟩), (9, ⟨0, 0, 0⟩), (12, ⟨2, 1, 1⟩)] : Map Name Entity) := by
  simp [Map.WF]
private def dex : Diff :=
  Gen.FactsC20IR.applyConfigIR 3 [(7, ⟨0, 0, 0⟩), (8, ⟨1, 1, 5⟩), (9, ⟨0, 0, 0⟩), (12, ⟨2, 1, 1⟩)]
    [(7, some (1, 0)), (8, some (1, 6)), (10, some (0, 0)), (11, none), (12, some (1, 1))]
example :
    dex.ents = [(12, ⟨2, 1, 1⟩), (7, ⟨3, 1, 0⟩), (8, ⟨3, 1, 6⟩), (10, ⟨3, 0, 0⟩)] ∧
    dex.deleted = [(9, ⟨0, 0, 0⟩), (7, ⟨0, 0, 0⟩)] ∧
    dex.created = [(7, ⟨3, 1, 0⟩), (10, ⟨3, 0, 0⟩)] ∧ dex.updated = [(8, ⟨3, 1, 6⟩)] := by decide +kernel
example : (Gen.FactsC20IR.cleanSpaceIR ⟨[((0, 7), ⟨0, 4, 0⟩)], [], true⟩).ns = true ∧
    (Gen.FactsC20IR.cleanSpaceIR ⟨[], [], true⟩).ns = false := by decide +kernel

/-! ## shutdown -/

/-- Shutdown closes every live object exactly once. After any history, `Supervisor.close` /
`TrafficController.Close` / `Clean` (the model's `shutdown`, for every iteration order `ord` of the
`sync.Map`s) adds for every name exactly one `close` of the object that was live for it — nothing for
a name that was not live —, so that the name's complete log is a word of `(init inherit* close)*`
after which nothing is live, and the consumer's maps are empty. -/
theorem shutdown_closes_every_live_object_once (P : Params) (ok : P.WF) (h : List Item)
    (wf : HistWF h) (ord : Map (Nat × Name) Entity → Map (Nat × Name) Entity)
    (hord : ∀ m, (ord m).Perm m) (n : Name) :
    let c := shutdown P ord (run P Sys.init h).w.cons
    callsOf n c.log = callsOn P h n ++
        (view P (specFinal n 0 false none h).1 (specFinal n 0 false none h).2).toList.map (callClose P n) ∧
      Auto.run none (callsOf n c.log) = some none ∧ c.store = [] ∧ c.ns = false := by
  intro c
  obtain ⟨h1, h2⟩ := run_final P ok h wf n
  have hc := shutdown_at P ord hord (run P Sys.init h) (reach_inv P ok h wf) n
  rw [h1, h2] at hc
  refine ⟨hc, ?_, rfl, rfl⟩
  show Auto.run none (callsOf n (shutdown P ord (run P Sys.init h).w.cons).log) = some none
  rw [hc, Auto.run_append]
  have hl := log_is_lifecycle_word P ok h wf n
  unfold callsOn at hl
  rw [hl]
  cases view P (specFinal n 0 false none h).1 (specFinal n 0 false none h).2 with
  | none => rfl
  | some e => simp [Auto.run, Auto.step_close]

/-- Objects closed at shutdown are exactly the live set: the closes `shutdown` adds are a permutation
of one `close` per stored entry (no object is closed twice, none is skipped). -/
theorem shutdown_closes_are_the_live_set (P : Params)
    (ord : Map (Nat × Name) Entity → Map (Nat × Name) Entity) (hord : ∀ m, (ord m).Perm m) (c : CState) :
    ∃ closes, (shutdown P ord c).log = c.log ++ closes ∧
      closes.Perm (c.store.map (fun e => callClose P e.1.2 e.2)) :=
  ⟨_, rfl, (hord c.store).map _⟩

/-- Regenerated facts behind `shutdown`: `Supervisor.close` walks `businessControllers`,
`TrafficController.Close` and `Clean` walk `trafficGates` then `pipelines`; each closure calls
`CloseWithRecovery` exactly once per entry and always returns `true` (every entry is visited). -/
theorem shutdown_source_facts :
    Gen.FactsC20IR.extractionFailed = false ∧
    Gen.FactsC20IR.shutdownRanges_Supervisor_close = ["businessControllers:close=1:continues=true"] ∧
    Gen.FactsC20IR.shutdownRanges_TrafficController_Close =
      ["trafficGates:close=1:continues=true", "pipelines:close=1:continues=true"] ∧
    Gen.FactsC20IR.shutdownRanges_TrafficController_Clean =
      ["trafficGates:close=1:continues=true", "pipelines:close=1:continues=true"] :=
  ⟨rfl, rfl, rfl, rfl⟩

/-! ## Non-vacuity: a concrete history meeting the hypotheses, and the defect of the unrepaired code -/

/-- kinds 0,1: business controllers; kinds 2,3: traffic gates. The consumer is the supervisor
(category 1); every `inherit` panics. -/
private def Pex : Params :=
  { cat := fun k => if k < 2 then 1 else 3, filter := fun c => c == 1, slot := fun _ => 0,
    createChecks := true, namespaced := false, panics := fun op _ _ => op == .inherit,
    order := fun _ _ m => m }

/-- name 7: appear (kind 0), change of body, change of kind inside the category, change of kind
across categories, disappear, reappear; name 8 unchanged all the time. -/
private def hex : List Item :=
  [.attach,
   .snap [(7, some (0, 0)), (8, some (1, 5))],
   .snap [(8, some (1, 5)), (7, some (0, 1))],
   .snap [(7, some (1, 1)), (8, some (1, 5))],
   .snap [(7, some (2, 1)), (8, some (1, 5))],
   .snap [(8, some (1, 5))],
   .snap [(7, some (0, 0)), (8, some (1, 5))]]

example : Pex.WF := ⟨fun _ _ m => List.Perm.refl m, fun h => by simp [Pex] at h⟩
example : HistWF hex := by
  intro it hit
  simp only [hex, List.mem_cons, List.mem_nil_iff, or_false] at hit
  rcases hit with e | e | e | e | e | e | e <;> subst e <;> first | trivial | (simp [Item.WF, Map.WF])

example : callsOn Pex hex 7 =
    [⟨.init, 7, ⟨0, 0, 0⟩, none, false⟩,
     ⟨.inherit, 7, ⟨1, 0, 1⟩, some ⟨0, 0, 0⟩, true⟩,      -- the panic is recorded, nothing else changes
     ⟨.close, 7, ⟨1, 0, 1⟩, none, false⟩, ⟨.init, 7, ⟨2, 1, 1⟩, none, false⟩,  -- kind 0 → 1
     ⟨.close, 7, ⟨2, 1, 1⟩, none, false⟩,                 -- kind 1 → 2: leaves the category
     ⟨.init, 7, ⟨5, 0, 0⟩, none, false⟩] := by decide +kernel
example : callsOn Pex hex 8 = [⟨.init, 8, ⟨0, 1, 5⟩, none, false⟩] := by decide +kernel
example : held Pex hex 0 7 = some ⟨5, 0, 0⟩ ∧ held Pex hex 0 8 = some ⟨0, 1, 5⟩ := by decide +kernel

/-- Non-vacuity of `applyConfig_notify_regenerated_from_source`: the supervisor's watcher (`Pex`: category 1 =
kinds 0, 1) on the diff `dex`: 9 and the old 7 leave, the new 7 and 10 arrive, 8 is updated; the event is sent.
A diff with nothing for this watcher sends nothing. -/
example : Gen.FactsC20IR.notifyIR Pex [(7, ⟨0, 0, 0⟩), (8, ⟨1, 1, 5⟩), (9, ⟨0, 0, 0⟩)] dex.deleted dex.created dex.updated false =
    ([(7, ⟨3, 1, 0⟩), (10, ⟨3, 0, 0⟩), (8, ⟨3, 1, 6⟩)],
     (⟨[(9, ⟨0, 0, 0⟩), (7, ⟨0, 0, 0⟩)], [(7, ⟨3, 1, 0⟩), (10, ⟨3, 0, 0⟩)], [(8, ⟨3, 1, 6⟩)]⟩ : Event), true) := by decide +kernel
example : (Gen.FactsC20IR.notifyIR Pex [] [(5, ⟨0, 2, 0⟩)] [] [] false).2.2 = false := by decide +kernel

/-- Non-vacuity of `handleEvent_regenerated_from_source`: an event that deletes 9, creates 10 (and 8, which already
exists: refused) and updates 8, on a supervisor holding 8 and 9. -/
private def cex : CState := Gen.FactsC20IR.handleEventIR Pex ⟨[((0, 8), ⟨1, 1, 5⟩), ((0, 9), ⟨0, 0, 0⟩)], [], false⟩
  ⟨[(9, ⟨0, 0, 0⟩)], [(10, ⟨3, 0, 0⟩), (8, ⟨3, 0, 0⟩)], [(8, ⟨3, 1, 6⟩)]⟩
example : cex.store = [((0, 10), ⟨3, 0, 0⟩), ((0, 8), ⟨3, 1, 6⟩)] ∧
    cex.log = [⟨.close, 9, ⟨0, 0, 0⟩, none, false⟩, ⟨.init, 10, ⟨3, 0, 0⟩, none, false⟩,
      ⟨.inherit, 8, ⟨3, 1, 6⟩, some ⟨1, 1, 5⟩, true⟩] := by decide +kernel

/-- Non-vacuity of the shutdown theorems: `hex` leaves 7 and 8 live; shutdown closes both, once. -/
example : ((shutdown Pex (fun m => m) (run Pex Sys.init hex).w.cons).log.drop
    (run Pex Sys.init hex).w.cons.log.length) =
    [⟨.close, 8, ⟨0, 1, 5⟩, none, false⟩, ⟨.close, 7, ⟨5, 0, 0⟩, none, false⟩] := by decide +kernel

/-- The loop body of `applyConfig` **before** the repair: a change of kind goes to `updated`. -/
def diffStepUnrepaired (g : Nat) (d : Diff) (x : Name × Option (Kind × Body)) : Diff :=
  match x.2 with
  | none => d
  | some (k, b) =>
    let entity : Entity := ⟨g, k, b⟩
    match d.ents.get x.1 with
    | some p =>
      if p.kind = k ∧ p.body = b then d
      else { ents := d.ents.set x.1 entity, deleted := d.deleted, created := d.created,
             updated := d.updated.set x.1 entity }
    | none => { ents := d.ents.set x.1 entity, deleted := d.deleted,
                created := d.created.set x.1 entity, updated := d.updated }

def stepUnrepaired (P : Params) (s : Sys) : Item → Sys
  | .snap cfg =>
    let d := cfg.foldl (diffStepUnrepaired s.g)
      ⟨s.ents.filter (fun e => (cfg.get e.1).isSome), s.ents.filter (fun e => (cfg.get e.1).isNone), [], []⟩
    ⟨s.g + 1, s.t + 1, d.ents, stepW P s.t s.w d⟩
  | .attach => ⟨s.g, s.t + 1, s.ents, attachW P s.t s.ents s.w⟩

/-- The defect (reproduced on the real code by the harness, see `fixes/C20-kind-change.md`):
with the unrepaired loop body a change of kind inside the consumer's categories is an `inherit`
from an object of another kind (it panics; the old object is never closed), and a change of kind
out of the consumer's categories leaves the old object live forever — even after the name has
disappeared from the configuration. -/
example :
    let s := ([.attach, .snap [(7, some (0, 0))], .snap [(7, some (1, 0))]] : List Item).foldl
      (stepUnrepaired Pex) Sys.init
    callsOf 7 s.w.cons.log =
      [⟨.init, 7, ⟨0, 0, 0⟩, none, false⟩, ⟨.inherit, 7, ⟨1, 1, 0⟩, some ⟨0, 0, 0⟩, true⟩] := by decide +kernel

example :
    let s := ([.attach, .snap [(7, some (0, 0))], .snap [(7, some (2, 0))], .snap []] : List Item).foldl
      (stepUnrepaired Pex) Sys.init
    s.w.cons.store.get (0, 7) = some ⟨0, 0, 0⟩ ∧ s.ents.get 7 = none ∧
      callsOf 7 s.w.cons.log = [⟨.init, 7, ⟨0, 0, 0⟩, none, false⟩] := by decide +kernel

/-- The traffic consumer's shape: pipelines (kind 4) in slot 0, gates in slot 1, namespaced. -/
private def Ptr : Params :=
  { cat := fun k => if k == 4 then 2 else 3, filter := fun c => c == 2 || c == 3,
    slot := fun k => if k == 4 then 0 else 1, createChecks := false, namespaced := true,
    panics := fun _ _ _ => false, order := fun _ _ m => m }

example : Ptr.WF := ⟨fun _ _ m => List.Perm.refl m, fun _ k => by
  by_cases h : k = 4 <;> simp [Ptr, h]⟩

/-- pipeline 7 and gate 8 share the namespace; the last gate disappears, the pipeline stays, is then
changed (inherited) and finally removed (closed); the namespace is gone only at the very end. -/
private def htr : List Item :=
  [.attach, .snap [(7, some (4, 0)), (8, some (2, 0))], .snap [(7, some (4, 0))],
   .snap [(7, some (4, 1))], .snap []]

example : callsOn Ptr htr 7 =
    [⟨.init, 7, ⟨0, 4, 0⟩, none, false⟩, ⟨.inherit, 7, ⟨2, 4, 1⟩, some ⟨0, 4, 0⟩, false⟩,
     ⟨.close, 7, ⟨2, 4, 1⟩, none, false⟩] := by decide +kernel
example : (run Ptr Sys.init (htr.take 3)).w.cons.ns = true ∧ held Ptr (htr.take 3) 0 7 = some ⟨0, 4, 0⟩ ∧
    (run Ptr Sys.init htr).w.cons.ns = false := by decide +kernel

/-- A `_cleanSpace` that probes `trafficGates` twice (seeded change C20-m2) drops the namespace with
a live pipeline inside as soon as the last gate goes: the invariant `NsOK` is what excludes it. -/
def cleanSpaceGatesTwice (c : CState) : CState :=
  let serverLen := (c.store.filter (fun e => e.1.1 == 1)).length
  let pipelineLen := (c.store.filter (fun e => e.1.1 == 1)).length
  if serverLen + pipelineLen == 0 then { store := [], log := c.log, ns := false } else c

example : (cleanSpaceGatesTwice ⟨[((0, 7), ⟨0, 4, 0⟩)], [], true⟩).store = [] ∧
    (cleanSpace ⟨[((0, 7), ⟨0, 4, 0⟩)], [], true⟩).store = [((0, 7), ⟨0, 4, 0⟩)] := by decide +kernel

/-! ## Panic isolation proved, not assumed

`panic_isolated` above is a congruence: the model's control flow never reads `Params.panics`. The abort
semantics of `Proofs/LifecycleAbort.lean` (`runA`) *does*: a panic that its `…WithRecovery` wrapper does not
recover skips the rest of the step (`Store`, `_cleanSpace`) and all remaining work of this and every later
event. The wrappers' `recover()`s are read from the source on every run (`FactsC20.recoversFirst`). -/

/-- the three `recover()` flags as regenerated from `object.go` (Init, Inherit, Close) -/
def factsRec : Rec :=
  match Gen.FactsC20.recoversFirst with
  | [a, b, c] => ⟨a, b, c⟩
  | _ => ⟨false, false, false⟩

/-- A panic in a lifecycle callback never aborts the reconciliation: in the abort semantics, with the
wrappers as they are in the source, every history ends un-aborted in exactly the state of the model — for
every panic oracle, iteration order and consumer shape. All theorems above therefore hold of the abortable
system; removing one `recover()` from the source makes `factsRec ≠ Rec.all` and breaks this proof. -/
theorem panic_never_aborts (P : Params) (h : List Item) :
    runA factsRec P (Sys.init, false) h = (run P Sys.init h, false) := by
  have hr : factsRec = Rec.all := by decide +kernel
  rw [hr]; exact runA_all P h Sys.init

/-- Panic isolation on the abortable system: whatever panics on *other* names, the calls made on
`n` (with their flags) and the object live for `n` are the same, and the consumer goroutine is still alive. -/
theorem panic_isolated_abortable (P : Params) (ok : P.WF) (h : List Item) (wf : HistWF h)
    (f : Op → Name → Entity → Bool) (n : Name) (hagree : ∀ op e, f op n e = P.panics op n e) :
    (runA factsRec { P with panics := f } (Sys.init, false) h).2 = false ∧
    callsOf n (runA factsRec { P with panics := f } (Sys.init, false) h).1.w.cons.log =
      callsOf n (runA factsRec P (Sys.init, false) h).1.w.cons.log ∧
    ∀ s, (runA factsRec { P with panics := f } (Sys.init, false) h).1.w.cons.store.get (s, n) =
      (runA factsRec P (Sys.init, false) h).1.w.cons.store.get (s, n) := by
  rw [panic_never_aborts, panic_never_aborts]
  obtain ⟨h1, h2⟩ := panic_isolated P ok h wf f n hagree
  exact ⟨rfl, h1, h2⟩

/-- Every object of a snapshot is reconciled although another one's callback panics: the abortable system
makes exactly the specification's calls on every name (`exactly_once` transported). -/
theorem exactly_once_abortable (P : Params) (ok : P.WF) (h : List Item) (wf : HistWF h) (n : Name) :
    callsOf n (runA factsRec P (Sys.init, false) h).1.w.cons.log = callsOn P h n := by
  rw [panic_never_aborts]; rfl

/-- The abort branch is real: without the `recover()` of `InitWithRecovery`, a panicking
`Init` of object 7 prevents object 8 of the same snapshot from being initialised (and kills the consumer);
with it, 8 is initialised and 7's panic is only recorded. Same history, same panic oracle. -/
private def Pab : Params :=
  { cat := fun _ => 1, filter := fun c => c == 1, slot := fun _ => 0, createChecks := true, namespaced := false,
    panics := fun op n _ => op == .init && n == 7, order := fun _ _ m => m }
private def hab : List Item := [.attach, .snap [(7, some (0, 0)), (8, some (0, 1))]]

example : (runA ⟨false, true, true⟩ Pab (Sys.init, false) hab).2 = true ∧
    callsOf 8 (runA ⟨false, true, true⟩ Pab (Sys.init, false) hab).1.w.cons.log = [] ∧
    (runA ⟨false, true, true⟩ Pab (Sys.init, false) hab).1.w.cons.store = [] := by decide +kernel
example : (runA Rec.all Pab (Sys.init, false) hab).2 = false ∧
    callsOf 8 (runA Rec.all Pab (Sys.init, false) hab).1.w.cons.log = [⟨.init, 8, ⟨0, 0, 1⟩, none, false⟩] ∧
    callsOf 7 (runA Rec.all Pab (Sys.init, false) hab).1.w.cons.log = [⟨.init, 7, ⟨0, 0, 0⟩, none, true⟩] := by decide +kernel
/-- once aborted, later snapshots are not reconciled at all -/
example : callsOf 9 (runA ⟨false, true, true⟩ Pab (Sys.init, false) (hab ++ [.snap [(9, some (0, 2))]])).1.w.cons.log = [] ∧
    callsOf 9 (runA Rec.all Pab (Sys.init, false) (hab ++ [.snap [(9, some (0, 2))]])).1.w.cons.log =
      [⟨.init, 9, ⟨1, 0, 2⟩, none, false⟩] := by decide +kernel

/-- Several watchers (`for _, watcher := range or.watchers`): each watcher + consumer is stepped with its own
parameters on the same diff, independently of the others — component `i` of `stepAll` is `stepW` of component
`i`; so every per-consumer theorem (`exactly_once`, `live_eq_snapshot`, `kind_change_close_init` …) applies to
each consumer of a registry with several watchers, e.g. the supervisor closing and the traffic controller
initialising on a cross-category change of kind. -/
theorem stepAll_componentwise (Ps : List Params) (t : Nat) (ws : List WState) (d : Diff) (i : Nat) :
    (stepAll Ps t ws d)[i]? =
      match Ps[i]?, ws[i]? with
      | some P, some w => some (stepW P t w d)
      | _, _ => none := by
  unfold stepAll
  rw [List.zip_eq_zipWith, List.map_zipWith, List.getElem?_zipWith]
  cases Ps[i]? <;> cases ws[i]? <;> rfl

/-! ## The pending-event queue (seeded change C20-m5)

`Proofs/LifecycleQueue.lean`: the registry goroutine *sends* a watcher's event and goes on; the consumer goroutine
*receives* one event at a time. `qrun` ranges over every interleaving of `produce` (apply a snapshot / attach) and
`consume` (receive + `handleEvent`). The theorems above were about the synchronous model (each event handled inside
the step that produces it), i.e. about quiescent states only. -/

/-- Exactly once and live = snapshot, for every interleaving and at every moment — also while events are
pending. Whatever snapshots the registry has applied while the consumer was busy, the consumer has made on every
name exactly the lifecycle calls the specification prescribes for a prefix `h.take m` of the applied items, its
live object for the name is that prefix's, the queue holds the events of the remaining `h.length - m` items in
order, and the registry is at the latest snapshot. Nothing is skipped, merged or reordered. -/
theorem exactly_once_any_interleaving (P : Params) (ok : P.WF) (its : List QItem)
    (wf : HistWF (produced its)) (n : Name) :
    ∃ m, m ≤ (produced its).length ∧
      callsOf n (qrun P QSys.init its).cons.log = specWord P n 0 false none ((produced its).take m) ∧
      (∀ s, (qrun P QSys.init its).cons.store.get (s, n) =
        (view P (specFinal n 0 false none ((produced its).take m)).1
          (specFinal n 0 false none ((produced its).take m)).2).filter (fun e => decide (P.slot e.kind = s))) ∧
      (qrun P QSys.init its).queue.length = (produced its).length - m ∧
      (qrun P QSys.init its).s.ents.get n = (specFinal n 0 false none (produced its)).2 := by
  obtain ⟨a, b, hab, hs, hc, hq⟩ := qrun_prefix ok.order its
  have wfa : HistWF a := fun it hit => wf it (by rw [hab]; exact List.mem_append_left _ hit)
  have ht : (produced its).take a.length = a := by rw [hab, List.take_left]
  refine ⟨a.length, by simp [hab], ?_, fun s => ?_, ?_, ?_⟩
  · rw [ht, hc]; exact exactly_once P ok a wfa n
  · rw [ht, hc]; exact (live_eq_snapshot P ok a wfa n s).1
  · rw [hq, pending_length, hab]; simp
  · rw [hs]; exact (live_eq_snapshot P ok _ wf n 0).2

/-- Once the queue is empty the consumer is at the latest snapshot: all lifecycle calls of the whole history,
live set = latest applied snapshot — however the applications and the consumptions were interleaved. -/
theorem exactly_once_when_drained (P : Params) (ok : P.WF) (its : List QItem) (wf : HistWF (produced its))
    (hq : (qrun P QSys.init its).queue = []) (n : Name) :
    callsOf n (qrun P QSys.init its).cons.log = specWord P n 0 false none (produced its) ∧
    ∀ s, (qrun P QSys.init its).cons.store.get (s, n) =
      (view P (specFinal n 0 false none (produced its)).1 (specFinal n 0 false none (produced its)).2).filter
        (fun e => decide (P.slot e.kind = s)) := by
  rw [qrun_drained ok.order its hq]
  exact ⟨exactly_once P ok _ wf n, fun s => (live_eq_snapshot P ok _ wf n s).1⟩

/-- The consumer loops as the queue model assumes them (regenerated from the source on every run): `Supervisor.run`
and `RawConfigTrafficController.run` receive from the watcher channel in exactly one place, one event per
iteration of the `select`, and pass the received event itself to `handleEvent` — no second receive, no merging or
rewriting of events in between (the received value's name is normalised to `ev`). -/
theorem consumer_loops_pass_events_unmodified :
    Gen.FactsC20.supervisorRunWatchCase = ["ev := <-s.watcher.Watch()", "s.handleEvent(ev)"] ∧
    Gen.FactsC20.supervisorWatchReceives = ["<-s.watcher.Watch()"] ∧
    Gen.FactsC20.supervisorHandleEventArgs = ["ev", "calls:1"] ∧
    Gen.FactsC20.trafficRunWatchCase = ["ev := <-rctc.watcher.Watch()", "rctc.handleEvent(ev)"] ∧
    Gen.FactsC20.trafficWatchReceives = ["<-rctc.watcher.Watch()"] ∧
    Gen.FactsC20.trafficHandleEventArgs = ["ev", "calls:1"] :=
  ⟨rfl, rfl, rfl, rfl, rfl, rfl⟩

/-- Non-vacuity (the scenario of seeded change C20-m5): the consumer is busy while name 7 changes its body
(snapshot 2), disappears (3) and reappears with the body of snapshot 2 (4); then it consumes the four pending
events: `init, inherit, close, init` — not "nothing" — and the live object is the newest entity. At the moment
three events are pending the consumer is at prefix 2 of 5. -/
private def Pq : Params :=
  { cat := fun _ => 1, filter := fun c => c == 1, slot := fun _ => 0, createChecks := true, namespaced := false,
    panics := fun _ _ _ => false, order := fun _ _ m => m }
private def itsBusy : List QItem :=
  [.produce .attach, .consume, .produce (.snap [(7, some (0, 0))]), .consume,
   .produce (.snap [(7, some (0, 1))]), .produce (.snap []), .produce (.snap [(7, some (0, 1))])]

example : (qrun Pq QSys.init itsBusy).queue.length = 3 ∧
    callsOf 7 (qrun Pq QSys.init itsBusy).cons.log = [⟨.init, 7, ⟨0, 0, 0⟩, none, false⟩] := by decide +kernel
example : callsOf 7 (qrun Pq QSys.init (itsBusy ++ [.consume, .consume, .consume])).cons.log =
    [⟨.init, 7, ⟨0, 0, 0⟩, none, false⟩, ⟨.inherit, 7, ⟨1, 0, 1⟩, some ⟨0, 0, 0⟩, false⟩,
     ⟨.close, 7, ⟨1, 0, 1⟩, none, false⟩, ⟨.init, 7, ⟨3, 0, 1⟩, none, false⟩] ∧
    (qrun Pq QSys.init (itsBusy ++ [.consume, .consume, .consume])).cons.store = [((0, 7), ⟨3, 0, 1⟩)] ∧
    (qrun Pq QSys.init (itsBusy ++ [.consume, .consume, .consume])).queue = [] := by decide +kernel

end EgVerif.C20
