import EgVerif.Proofs.Proxy
import EgVerif.Proofs.Payload
import EgVerif.Model.ProxyE2E
import EgVerif.Model.ProxyFlow
import EgVerif.Gen.FactsC03
import EgVerif.Proofs.ProxyIR
/-!
# C03 — the Proxy forwards faithfully, strips hop-by-hop headers, keeps responses well-framed

Theorems about `Model.Proxy` / `Model.Framing` (line-by-line models of `cloneHeader`,
`prepareRequest`, `checkAddrPattern`, `compression.compress`, `buildResponse`,
`ResponseAdaptor.Handle/compress/decompress`, the mux write-out — **of the repaired code**,
see `fixes/C03-*.patch`), for every header set, every `Connection` token list, every
canonicalisation function, every body type and gzip pair, every chain of adaptors.
Lemmas about the model's definitions live in `Proofs/Proxy.lean`.
-/
namespace EgVerif.C03
open EgVerif.Proxy

/-! ### Facts regenerated from the source -/

/-- The RFC 2616 §13.5.1 list (+ `Proxy-Connection`) of the property statement is covered by
the table extracted from pool.go, and the model's table *is* the extracted one. -/
theorem hopHeaders_cover :
    Gen.FactsC03.extractionFailed = false ∧
    (∀ k ∈ Spec.rfcHopHeaders, k ∈ Gen.FactsC03.hopHeaders) ∧
    Gen.FactsC03.hopHeaders = hopHeaders := by decide

/-- `prepareRequest` takes its header from `cloneHeader` (printed statement). The bodies of `cloneHeader`,
`prepareRequest` and `checkAddrPattern` themselves are tied to the model by
`cloneHeader_ / prepare_ / checkAddr_regenerated_from_source` below. -/
theorem request_side_facts :
    Gen.FactsC03.extractionFailed = false ∧
    Gen.FactsC03.prepareHeader = "stdr.Header = cloneHeader(req.HTTPHeader())" := ⟨rfl, rfl⟩

private def adaptorBlock : String :=
  "{ egresp.SetPayload([]byte(ra.spec.Body)) egresp.HTTPHeader().Set(keyContentLength, strconv.Itoa(len(ra.spec.Body))) egresp.HTTPHeader().Del(\"Content-Encoding\") }"

/-- Response side (the body of `compress` is tied by `compress_regenerated_from_source`): the CallbackReader is
the outermost wrapper, the adaptor declares the length of a replaced body,
`FetchPayload` knows the reply to HEAD has no body, the mux writes header, status, body. -/
theorem response_side_facts :
    Gen.FactsC03.buildResponseOrder = true ∧
    Gen.FactsC03.respAdaptorBodyBlock = adaptorBlock ∧
    Gen.FactsC03.respAdaptor_compress_setsLength = true ∧
    Gen.FactsC03.respAdaptor_decompress_setsLength = true ∧
    Gen.FactsC03.fetchPayloadHeadGuard = true ∧
    Gen.FactsC03.muxWriteOut = true := ⟨rfl, rfl, rfl, rfl, rfl, rfl⟩

/-! ### Hop-by-hop headers -/

/-- Every header in the hop table and every header named by a `Connection` token is absent
from what `cloneHeader` returns — for every header set and every token list. -/
theorem cloneHeader_strips_hop (canon : String → String) (hop : List String) (h : Hdr) (k : String)
    (hk : k ∈ hop.map canon ∨ k ∈ connTokens canon h) :
    (cloneHeader canon hop h).get k = [] := by
  unfold cloneHeader
  rw [Hdr.get_delAll]
  by_cases h1 : k ∈ hop.map canon
  · simp [h1]
  · simp only [h1, if_false]
    rw [Hdr.get_delAll]
    rcases hk with hk | hk
    · exact absurd hk h1
    · simp [hk]

/-- Every other header is kept with all its values in order (repeated header lines included). -/
theorem cloneHeader_keeps_e2e (canon : String → String) (hop : List String) (h : Hdr) (k : String)
    (h1 : k ∉ hop.map canon) (h2 : k ∉ connTokens canon h) :
    (cloneHeader canon hop h).get k = h.get k := by
  unfold cloneHeader
  rw [Hdr.get_delAll, if_neg h1, Hdr.get_delAll, if_neg h2]

/-- `cloneHeader` with the source's table satisfies the executable header specification the
judge evaluates on the backend's observation (for any `canon` that fixes the canonical
hop names, as `textproto.CanonicalMIMEHeaderKey` does). -/
theorem cloneHeader_meets_spec (canon : String → String) (h : Hdr)
    (hc : ∀ k ∈ hopHeaders, canon k = k) (skip : List String := []) :
    Spec.headerViolation canon h (cloneHeader canon hopHeaders h) skip = none := by
  have hmap : hopHeaders.map canon = hopHeaders :=
    (List.map_congr_left hc).trans (List.map_id _)
  have h1 : ∀ k ∈ Spec.rfcHopHeaders, k ∈ hopHeaders := hopHeaders_cover.2.2 ▸ hopHeaders_cover.2.1
  have h2 : ∀ k ∈ hopHeaders, k ∈ Spec.rfcHopHeaders := by decide
  unfold Spec.headerViolation
  rw [List.findSome?_eq_none_iff]
  intro k _
  have hiff : Spec.isHop canon h k = true ↔ k ∈ hopHeaders.map canon ∨ k ∈ connTokens canon h := by
    unfold Spec.isHop
    rw [hmap, Bool.or_eq_true, List.contains_iff_mem, List.contains_iff_mem]
    exact or_congr ⟨h1 k, h2 k⟩ Iff.rfl
  by_cases hh : Spec.isHop canon h k = true
  · rw [if_pos hh, cloneHeader_strips_hop canon _ h k (hiff.mp hh)]
    rfl
  · rw [if_neg hh, cloneHeader_keeps_e2e canon _ h k (fun a => hh (hiff.mpr (.inl a))) (fun b => hh (hiff.mpr (.inr b)))]
    simp

/-! ### URL, Host, address pattern -/

/-- The string handed to `http.NewRequest` splits back (net/url: fragment at the first `#`,
query at the first `?`) into exactly the client's escaped path and raw query, provided the
escaped path contains neither `?` nor `#` (contract of `URL.EscapedPath`) and the raw query
no `#` (a request-target never does: RFC 7230 §5.3.1). Method and body are passed through
by `prepareRequest` unchanged (`req.Method()`, `req.GetPayload()`). -/
theorem url_preserved (ep rq : List Char)
    (h1 : '?' ∉ ep) (h2 : '#' ∉ ep) (h3 : '#' ∉ rq) :
    splitTarget (ep ++ (if rq = [] then [] else '?' :: rq)) = (ep, rq) := by
  have hne : ∀ {c : Char} {l : List Char}, c ∉ l → ∀ x ∈ l, (x != c) = true :=
    fun h x hx => bne_iff_ne.mpr fun e => h (e ▸ hx)
  -- what follows the path has no `#`, and is empty or starts with the `?` that ends the path
  generalize ht : (if rq = [] then [] else '?' :: rq) = t
  have hf : '#' ∉ ep ++ t := by
    subst ht
    split <;> simp [h2, h3]
  have hq : t.takeWhile (· != '?') = [] ∧ (t.dropWhile (· != '?')).drop 1 = rq := by
    subst ht
    split
    · rename_i h; subst h; exact ⟨rfl, rfl⟩
    · exact ⟨rfl, rfl⟩
  unfold splitTarget
  dsimp only
  have hall := List.takeWhile_append_of_pos (l₂ := []) (hne hf)
  rw [List.append_nil, List.takeWhile_nil, List.append_nil] at hall
  rw [hall, List.takeWhile_append_of_pos (hne h1), List.dropWhile_append_of_pos (hne h1), hq.1, hq.2, List.append_nil]

/-- The unrepaired code concatenated the *decoded* path: a decoded `?` moves the rest of the
path into the query (concrete witness; reproduced on the real code, see notes). -/
example : splitTarget ("/a?b" ++ "?x=1").toList = ("/a".toList, "b?x=1".toList) := by decide

/-- (`hostSent` is textually the declarative `Spec.expectedHost`; the Host rule as a statement about the code is
`host_rule` below, next to the regenerated ties.) -/
example (s : ServerCfg) (clientHost : String) :
    hostSent s clientHost = Spec.expectedHost (!s.addrIsHostName) s.keepHost clientHost s.hostPort := rfl

/-- `checkAddrPattern` classifies by the host part for the four well-formed authority shapes. -/
theorem addr_pattern_classifies (isIP : List Char → Bool) (name port : List Char)
    (hn1 : ':' ∉ name) (hn2 : ']' ∉ name) (hp1 : ':' ∉ port) (hp2 : ']' ∉ port) :
    -- name            (also a dotted IPv4 literal)
    addrIsHostName isIP name = !isIP name ∧
    -- name:port
    (name.head? ≠ some '[' → addrIsHostName isIP (name ++ ':' :: port) = !isIP name) := by
  have s0 : lastIndex ']' name = -1 := lastIndex_not_mem hn2
  have c0 : lastIndex ':' name = -1 := lastIndex_not_mem hn1
  constructor
  · simp [addrIsHostName, s0, c0]
  · intro _
    have s1 : lastIndex ']' (name ++ ':' :: port) = -1 :=
      lastIndex_not_mem (by simp [hn2, hp2])
    have c1 : lastIndex ':' (name ++ ':' :: port) = name.length := lastIndex_append_mem ':' name port hp1
    have : (name.length : Int) > -1 := by omega
    simp [addrIsHostName, s1, c1, this]

/-- Bracketed IPv6 shape `[v6]:port` is classified by `v6` (the shape `[v6]` without a port
is covered by the `decide` examples at the end and by the correspondence run). -/
theorem addr_pattern_classifies_v6 (isIP : List Char → Bool) (v6 port : List Char)
    (hp1 : ':' ∉ port) (hp2 : ']' ∉ port) :
    addrIsHostName isIP ('[' :: v6 ++ ']' :: ':' :: port) = !isIP v6 := by
  -- the last `]` sits after `[v6`, the last `:` after `[v6]`
  have hsq : lastIndex ']' ('[' :: v6 ++ ']' :: ':' :: port) = ('[' :: v6).length :=
    lastIndex_append_mem ']' _ _ (by simp [hp2])
  have hco : lastIndex ':' ('[' :: v6 ++ ']' :: ':' :: port) = ('[' :: v6 ++ [']']).length := by
    rw [List.append_cons]
    exact lastIndex_append_mem ':' _ _ hp1
  have hne : (v6.length : Int) + 1 ≠ -1 := by omega
  unfold addrIsHostName
  rw [hsq, hco]
  simp only [gt_iff_lt, Int.ofNat_lt, Int.toNat_natCast]
  simp [hne, List.take_take]

/-! ### Framing -/

section framing
variable {β : Type} (ops : BodyOps β)

/-- Proxy compression leaves no declared length behind (header *and* field), hence is
well-framed whatever it got; otherwise it changes nothing. -/
theorem framing_preserved_proxyCompress (minLength : Nat) (reqHdr : Hdr) (r : Resp β)
    (h : WellFramed ops r) : WellFramed ops (proxyCompress ops minLength reqHdr r) :=
  proxyCompress_induct ops (P := WellFramed ops) h fun _ =>
    .inl (by rw [Hdr.get_add_other ne_CL_Vary, Hdr.get_set_other ne_CL_CE, Hdr.get_del_same])

/-- After compression `FetchPayload` sees an unknown length (the repair). -/
theorem proxyCompress_coherent {minLength : Nat} {reqHdr : Hdr} {r : Resp β}
    (h : Coherent r) : Coherent (proxyCompress ops minLength reqHdr r) :=
  proxyCompress_induct ops (P := Coherent) h fun _ =>
    ⟨fun _ => by rw [Hdr.get_add_other ne_CL_Vary, Hdr.get_set_other ne_CL_CE, Hdr.get_del_same],
      fun hc => by simp at hc⟩

theorem framing_preserved_adaptorBody (s : String) (r : Resp β)
    (h : WellFramed ops r) : WellFramed ops (adaptorBody ops s r) := by
  unfold adaptorBody
  split
  · exact h
  · right
    simp only [Pl.content]
    rw [Hdr.get_del_other ne_CL_CE, Hdr.get_set_same]

theorem framing_preserved_adaptorCompress (r : Resp β)
    (h : WellFramed ops r) : WellFramed ops (adaptorCompress ops r) := by
  unfold adaptorCompress
  split
  · exact h
  · split
    · left; simp only []; rw [Hdr.get_set_other ne_CL_CE, Hdr.get_del_same]
    · right; simp only [Pl.content]; rw [Hdr.get_set_other ne_CL_CE, Hdr.get_set_same]

theorem framing_preserved_adaptorDecompress (r r' : Resp β)
    (h : WellFramed ops r) (hd : adaptorDecompress ops r = some r') : WellFramed ops r' := by
  unfold adaptorDecompress at hd
  split at hd
  · cases hd; exact h
  · split at hd
    · split at hd
      · cases hd
      · cases hd; left; simp only []; rw [Hdr.get_del_other ne_CL_CE, Hdr.get_del_same]
    · split at hd
      · cases hd
      · cases hd; right; simp only [Pl.content]; rw [Hdr.get_del_other ne_CL_CE, Hdr.get_set_same]

theorem framing_preserved_adaptorCore (a : AdSpec) (r : Resp β)
    (h : WellFramed ops r) : WellFramed ops (adaptorCore ops a r) :=
  adaptorCore_induct ops (framing_preserved_adaptorBody ops a.body) (framing_preserved_adaptorCompress ops)
    (framing_preserved_adaptorDecompress ops) h

theorem framing_preserved_adaptHeader (a : AdSpec) (r : Resp β) (hk : keyCL ∉ a.hkeys)
    (h : WellFramed ops r) : WellFramed ops { r with hdr := adaptHeader a r.hdr } := by
  unfold WellFramed at *
  simp only []
  rw [get_adaptHeader_other hk]
  exact h

theorem framing_preserved_adaptorHandle (a : AdSpec) (r : Resp β) (hk : keyCL ∉ a.hkeys)
    (h : WellFramed ops r) : WellFramed ops (adaptorHandle ops a r) := by
  unfold adaptorHandle
  exact framing_preserved_adaptorCore ops a _ (framing_preserved_adaptHeader ops a r hk h)

/-- **Any** chain of ResponseAdaptor filters (any number, any header / body / compress /
decompress settings, the header sections not naming Content-Length) keeps a well-framed
response well-framed. -/
theorem pipeline_of_transformations_well_framed (as : List AdSpec) (has : ∀ a ∈ as, keyCL ∉ a.hkeys)
    (r : Resp β) (h : WellFramed ops r) : WellFramed ops (adaptorChain ops as r) :=
  adaptorChain_induct ops (fun a ha r => framing_preserved_adaptorHandle ops a r (has a ha)) h

/-- What `fetchPayload` returns: in stream mode the response with its reader as payload; otherwise the first `n`
bytes buffered — the whole body in the specification's sense, which was not short (for the reply to a HEAD request
nothing is said about `n`). -/
theorem fetchPayload_cases {dflt limit : Int} {isHead : Bool} {r r' : Resp β}
    (h : fetchPayload ops dflt limit isHead r = some r') :
    (Payload.normLimit dflt limit < 0 ∧ r' = { r with payload := .stream r.payload.content }) ∨
    ∃ n, r' = { r with payload := .bytes (ops.take n r.payload.content) } ∧
      (isHead = false → Payload.Spec.isShort ⟨r.cl, ops.len r.payload.content⟩ = false ∧
        n = Payload.Spec.size ⟨r.cl, ops.len r.payload.content⟩) := by
  unfold fetchPayload at h
  by_cases hs : Payload.normLimit dflt limit < 0
  · rw [Payload.fetchResp, if_pos hs] at h
    cases h
    exact .inl ⟨hs, rfl⟩
  cases isHead
  · rw [Payload.fetchResp_false, Payload.fetch_eq rfl (Int.not_lt.mp hs)] at h
    -- of the four rows of the table only the last, `.ok`, is a success
    by_cases hsh : Payload.Spec.isShort ⟨r.cl, ops.len r.payload.content⟩ = true
    · rw [if_pos hsh] at h
      by_cases hd : Payload.normLimit dflt limit < r.cl
      · rw [if_pos hd] at h
        cases h
      · rw [if_neg hd] at h
        cases h
    · rw [if_neg hsh] at h
      by_cases hb : Payload.normLimit dflt limit < Payload.Spec.size ⟨r.cl, ops.len r.payload.content⟩
      · rw [if_pos hb] at h
        cases h
      · rw [if_neg hb] at h
        cases h
        exact .inr ⟨_, rfl, fun _ => ⟨Bool.eq_false_iff.mpr hsh, rfl⟩⟩
  · rw [Payload.fetchResp, if_neg hs, if_pos rfl] at h
    cases h
    exact .inr ⟨0, rfl, nofun⟩

/-- `FetchPayload` in buffered mode turns a coherent backend response into a well-framed one:
the payload has exactly the declared number of bytes, or there is no declared length.
`take` law: `len (take n b) = n` whenever `n ≤ len b`. -/
theorem framing_established_by_fetch (dflt limit : Int) (r r' : Resp β)
    (htake : ∀ n b, n ≤ ops.len b → ops.len (ops.take n b) = n)
    (hc : Coherent r) (hf : fetchPayload ops dflt limit false r = some r') (hb : r'.payload.isStream = false) :
    WellFramed ops r' := by
  rcases fetchPayload_cases ops hf with ⟨_, rfl⟩ | ⟨n, rfl, hn⟩
  · cases hb
  obtain ⟨hsh, hn⟩ := hn rfl
  by_cases h0 : 0 ≤ r.cl
  · right
    have hle : r.cl.toNat ≤ ops.len r.payload.content := by
      simpa [Payload.Spec.isShort, h0] using hsh
    rw [Payload.Spec.size, if_pos h0] at hn
    show r.hdr.get keyCL = [toString (ops.len (ops.take n r.payload.content))]
    rw [hc.2 h0, hn, htake _ _ hle]
  · left; exact hc.1 (by omega)

/-- What the mux hands to net/http for a well-framed response: no Content-Length, or exactly
the number of bytes `io.Copy` will offer. -/
example (r : Resp β) (h : WellFramed ops r) :
    (writeOut ops r).declared = [] ∨ (writeOut ops r).declared = [toString (writeOut ops r).offered] := by
  unfold writeOut; exact h

/-- The Bool version evaluated by the judge is the predicate of the theorems. -/
theorem wellFramedB_iff (r : Resp β) : wellFramedB ops r = true ↔ WellFramed ops r := by
  unfold wellFramedB WellFramed
  simp [List.isEmpty_iff]

end framing

/-! ### Content -/

/-- A response that `alreadyGzipped` rejects does not carry the label `gzip`. -/
theorem not_gz_label {h : Hdr} (hng : ¬ alreadyGzipped h = true) :
    ((h.get keyCE).head? == some "gzip") = false := by
  cases hh : (h.get keyCE) with
  | nil => simp
  | cons v t =>
    simp only [List.head?_cons]
    by_cases hv : v = "gzip"
    · exfalso; apply hng
      unfold alreadyGzipped
      rw [hh, hv, List.any_cons]
      have hs : strContains "gzip" "gzip" = true := by decide
      rw [hs]; rfl
    · simp [hv]

section content
variable {β : Type} (ops : BodyOps β)

theorem pl_content_map (f : β → β) (p : Pl β) : (p.map f).content = f p.content := by
  cases p <;> rfl

/-- Gzipping a body that is not labelled `gzip` and labelling it so keeps the decoded content. -/
theorem decoded_gz (hgz : ∀ b, ops.ungz (ops.gz b) = some b) {r r' : Resp β} {b : β}
    (hng : ¬ alreadyGzipped r.hdr = true) (h : decoded ops r = some b)
    (hce : r'.hdr.get keyCE = ["gzip"]) (hp : r'.payload.content = ops.gz r.payload.content) :
    decoded ops r' = some b := by
  unfold decoded at h ⊢
  rw [not_gz_label hng, if_neg Bool.false_ne_true] at h
  rw [hce, hp, ← Option.some.inj h]
  simp only [List.head?_cons, beq_self_eq_true, if_true]
  exact hgz _

/-- Un-gzipping a body labelled `gzip` and dropping the label keeps the decoded content. -/
theorem decoded_ungz {r r' : Resp β} {b d : β}
    (hl : ((r.hdr.get keyCE).head? == some "gzip") = true) (h : decoded ops r = some b)
    (hu : ops.ungz r.payload.content = some d)
    (hce : r'.hdr.get keyCE = []) (hp : r'.payload.content = d) : decoded ops r' = some b := by
  unfold decoded at h ⊢
  rw [if_pos hl, hu] at h
  rw [hce, hp]
  exact h

/-- Proxy compression is undone by undoing the label it sets. -/
theorem content_roundtrip_proxyCompress (hgz : ∀ b, ops.ungz (ops.gz b) = some b)
    {minLength : Nat} {reqHdr : Hdr} {r : Resp β} {b : β} (h : decoded ops r = some b) :
    decoded ops (proxyCompress ops minLength reqHdr r) = some b :=
  proxyCompress_induct ops (P := fun r' => decoded ops r' = some b) h fun hng =>
    decoded_gz ops hgz hng h (by rw [Hdr.get_add_other ne_CE_Vary, Hdr.get_set_same]) (pl_content_map _ _)

theorem content_roundtrip_adaptorCompress (hgz : ∀ b, ops.ungz (ops.gz b) = some b)
    (r : Resp β) (b : β) (h : decoded ops r = some b) : decoded ops (adaptorCompress ops r) = some b := by
  unfold adaptorCompress
  split
  · exact h
  · rename_i hng
    -- a stream and a buffered body alike are gzipped and labelled so
    cases hp : r.payload <;> exact decoded_gz ops hgz hng h (Hdr.get_set_same _ _ _) (by rw [hp]; rfl)

theorem content_roundtrip_adaptorDecompress (r r' : Resp β) (b : β) (h : decoded ops r = some b)
    (hd : adaptorDecompress ops r = some r') : decoded ops r' = some b := by
  unfold adaptorDecompress at hd
  split at hd
  · cases hd; exact h
  · rename_i hgzl
    have hl : ((r.hdr.get keyCE).head? == some "gzip") = true := by simpa using hgzl
    split at hd
    · rename_i b0 hp
      split at hd
      · cases hd
      · rename_i d hu
        cases hd
        exact decoded_ungz ops hl h (by rw [hp]; exact hu) (Hdr.get_del_same _ _) rfl
    · rename_i b0 hp
      split at hd
      · cases hd
      · rename_i d hu
        cases hd
        exact decoded_ungz ops hl h (by rw [hp]; exact hu) (Hdr.get_del_same _ _) rfl

/-- ResponseAdaptor `compress` / `decompress` (no `body:`) keep the decoded content. -/
theorem content_roundtrip_adaptorCore (hgz : ∀ b, ops.ungz (ops.gz b) = some b)
    (a : AdSpec) (ha : a.body = "") (r : Resp β) (b : β) (h : decoded ops r = some b) :
    decoded ops (adaptorCore ops a r) = some b := by
  apply adaptorCore_induct ops (P := fun r => decoded ops r = some b) _
    (fun r => content_roundtrip_adaptorCompress ops hgz r b)
    (fun r r' => content_roundtrip_adaptorDecompress ops r r' b) h
  intro r1 h1
  rw [ha]
  exact h1

/-- Full `Handle` (header section not naming Content-Encoding, no `body:`). -/
theorem content_roundtrip_adaptor (hgz : ∀ b, ops.ungz (ops.gz b) = some b)
    (a : AdSpec) (ha : a.body = "") (hk : keyCE ∉ a.hkeys) (r : Resp β) (b : β) (h : decoded ops r = some b) :
    decoded ops (adaptorHandle ops a r) = some b := by
  unfold adaptorHandle
  apply content_roundtrip_adaptorCore ops hgz a ha
  unfold decoded at *
  simp only []
  rw [get_adaptHeader_other hk]
  exact h

/-- Through proxy compression and any chain of body-less adaptors the
client can recover exactly the backend's content by undoing the labelled encoding. -/
theorem content_roundtrip (hgz : ∀ b, ops.ungz (ops.gz b) = some b)
    (compression : Option Nat) (reqHdr : Hdr) (as : List AdSpec)
    (has : ∀ a ∈ as, a.body = "" ∧ keyCE ∉ a.hkeys)
    (r : Resp β) (b : β) (h : decoded ops r = some b) :
    decoded ops (adaptorChain ops as
      (match compression with | none => r | some ml => proxyCompress ops ml reqHdr r)) = some b := by
  have h0 : decoded ops (match compression with | none => r | some ml => proxyCompress ops ml reqHdr r) = some b := by
    cases compression with
    | none => exact h
    | some ml => exact content_roundtrip_proxyCompress ops hgz h
  exact adaptorChain_induct ops
    (fun a ha r1 => content_roundtrip_adaptor ops hgz a (has a ha).1 (has a ha).2 r1 b) h0

end content

/-! ### The pool's memory cache -/

/-- Facts: a cache hit builds its response from a **copy** of the entry's header
(`ce.Header.Clone()`) and installs the entry's body as a fresh payload (`SetPayload(ce.Body)`; filters
replace payload slices, they never write into them); `Store` snapshots a copy of the header and is
called right after `buildResponse`, before any later filter. This is what makes `alias = false` the
right instance of `Model/ProxyCache.poolStep`. -/
theorem cache_facts :
    Gen.FactsC03.cacheHitBody = ["if sp.memoryCache == nil { return false }", "ce := sp.memoryCache.Load(spCtx.req)",
      "if ce == nil { return false }", "resp, _ := httpprot.NewResponse(nil)", "resp.SetStatusCode(ce.StatusCode)",
      "resp.Std().Header = ce.Header.Clone()", "resp.SetPayload(ce.Body)", "spCtx.resp = resp",
      "spCtx.SetOutputResponse(resp)", "return true"] ∧
    Gen.FactsC03.cacheStoreEntry = "CacheEntry{ StatusCode: resp.StatusCode(), Header: resp.HTTPHeader().Clone(), Body: resp.RawPayload(), }" ∧
    Gen.FactsC03.cacheStoreAfterBuild = true := ⟨rfl, rfl, rfl⟩

section cache
variable {β : Type} (ops : BodyOps β)

/-- Nothing after `FetchPayload` reads the `ContentLength` field: the adaptors commute with
changing it. -/
theorem adaptorChain_setCl (as : List AdSpec) (r : Resp β) (c : Int) :
    adaptorChain ops as { r with cl := c } = { adaptorChain ops as r with cl := c } := by
  unfold adaptorChain
  induction as generalizing r with
  | nil => rfl
  | cons a t ih =>
    have : adaptorHandle ops a { r with cl := c } = { adaptorHandle ops a r with cl := c } :=
      adaptorCore_setCl ops a { r with hdr := adaptHeader a r.hdr } c
    rw [List.foldl_cons, this, ih]
    rfl

/-- The response a hit builds from the snapshot of `r` is `r` up to the `ContentLength` field. -/
theorem respFromCache_snapshot (r : Resp β) (hb : r.payload.isStream = false) :
    respFromCache ⟨r.status, r.hdr, r.payload.content⟩ = { r with cl := -1 } := by
  obtain ⟨st, h, cl, pl⟩ := r
  cases pl <;> simp_all [respFromCache, Pl.content, Pl.isStream]

theorem ccHas_mono (h : Hdr) (ws ws' : List String) (hsub : ∀ w ∈ ws, w ∈ ws') (hn : ccHas h ws' = false) :
    ccHas h ws = false := by
  unfold ccHas at *
  rw [List.any_eq_false] at *
  intro v hv
  have := hn v hv
  simp only [Bool.not_eq_true] at this ⊢
  rw [List.any_eq_false] at *
  intro w hw
  exact this w (hsub w hw)

theorem poolStep_hit (cfg : CacheCfg) (as : List AdSpec) (c : Cache β) (q : PoolReq β) (e : CacheEntry β)
    (hl : cacheLoad cfg q.key q.method q.hdr c = some e) :
    poolStep ops cfg false as c q = (c, adaptorChain ops as (respFromCache e)) := by
  simp [poolStep, hl]

/-- While every request loads the entry `e`, every response is the downstream image of `e` (a hit does not
change the cache, so the next request meets the same one). -/
theorem runHistory_hits (cfg : CacheCfg) (as : List AdSpec) (c : Cache β) (e : CacheEntry β) (qs : List (PoolReq β))
    (hl : ∀ q ∈ qs, cacheLoad cfg q.key q.method q.hdr c = some e) :
    ∀ resp ∈ runHistory ops cfg false as c qs, resp = adaptorChain ops as (respFromCache e) := by
  induction qs with
  | nil => intro _ h; cases h
  | cons q t ih =>
    intro resp h
    unfold runHistory at h
    rw [poolStep_hit ops cfg as c q e (hl q List.mem_cons_self)] at h
    rcases List.mem_cons.mp h with rfl | h
    · rfl
    · exact ih (fun q' hq' => hl q' (List.mem_cons_of_mem _ hq')) resp h

/-- **Cache entries are immutable under downstream transformations**: after a cacheable miss
produced `r`, every later request with the same key / method / header — whatever the backend
would answer by then, however many there are, whatever the response-editing filters `as` do —
gets exactly the response the miss got (up to the internal ContentLength field). -/
theorem cache_hits_equal_miss (cfg : CacheCfg) (as : List AdSpec) (c : Cache β) (q : PoolReq β) (r : Resp β)
    (hmiss : cacheLoad cfg q.key q.method q.hdr c = none) (hfresh : q.fresh = some r)
    (hst : storable ops cfg q.method q.hdr r = true)
    (qs : List (PoolReq β)) (hsame : ∀ q' ∈ qs, q'.key = q.key ∧ q'.method = q.method ∧ q'.hdr = q.hdr) :
    ∀ resp ∈ runHistory ops cfg false as c (q :: qs), resp.view = (adaptorChain ops as r).view := by
  -- facts packed in `storable`
  have hst' := hst
  unfold storable at hst'
  simp only [Bool.and_eq_true, Bool.not_eq_true', decide_eq_true_eq] at hst'
  obtain ⟨⟨⟨⟨⟨hns, _⟩, hm⟩, _⟩, hreq⟩, _⟩ := hst'
  have hnc : ccHas q.hdr ["no-cache"] = false :=
    ccHas_mono q.hdr _ _ (by intro w hw; simp at hw; simp [hw]) hreq
  -- first step: a miss that stores the snapshot
  have hstep : poolStep ops cfg false as c q =
      ((q.key, ⟨r.status, r.hdr, r.payload.content⟩) :: c, adaptorChain ops as r) := by
    simp [poolStep, hmiss, hfresh, cacheStore, hst]
  intro resp hr
  unfold runHistory at hr
  rw [hstep] at hr
  rcases List.mem_cons.mp hr with rfl | hr
  · rfl
  -- every later request loads that snapshot
  rw [runHistory_hits ops cfg as _ _ qs ?_ resp hr, respFromCache_snapshot r hns, adaptorChain_setCl]
  · rfl
  · intro q' hq'
    obtain ⟨hk, hme, hh⟩ := hsame q' hq'
    unfold cacheLoad
    rw [hk, hme, hh, hm, hnc]
    simp [List.lookup]

/-- … and every one of those responses is well-framed if the Proxy's own response was. -/
theorem cache_hits_well_framed (cfg : CacheCfg) (as : List AdSpec) (has : ∀ a ∈ as, keyCL ∉ a.hkeys)
    (c : Cache β) (q : PoolReq β) (r : Resp β)
    (hmiss : cacheLoad cfg q.key q.method q.hdr c = none) (hfresh : q.fresh = some r)
    (hst : storable ops cfg q.method q.hdr r = true) (hwf : WellFramed ops r)
    (qs : List (PoolReq β)) (hsame : ∀ q' ∈ qs, q'.key = q.key ∧ q'.method = q.method ∧ q'.hdr = q.hdr) :
    ∀ resp ∈ runHistory ops cfg false as c (q :: qs), WellFramed ops resp := by
  intro resp hr
  have hv := cache_hits_equal_miss ops cfg as c q r hmiss hfresh hst qs hsame resp hr
  have hw := pipeline_of_transformations_well_framed ops as has r hwf
  unfold Resp.view at hv
  simp only [Prod.mk.injEq] at hv
  unfold WellFramed at *
  rw [hv.2.1, hv.2.2]
  exact hw

end cache

/-! ### Regenerated tie by translation (notes/IR.md): the code itself, re-translated on every run

`Gen.FactsC03IR.*` are produced by `harness/factextract/facts_c03_ir.go` (go/ast → Lean) from the
*current* bodies of `cloneHeader`, `Server.checkAddrPattern`, `serverPoolContext.prepareRequest`,
`compression.acceptGzip / alreadyGziped / compress`, …; the lemmas about their loops, and the ties of
`prepareRequest`, `RequestAdaptor.Handle` and `Proxy.Handle`, are in `Proofs/ProxyIR.lean`. -/

/-- `cloneHeader` (pool.go; both loops over the `Connection` lines and their tokens, the hop-table loop)
is the model's `cloneHeader`, for every header set, canonicalisation and hop table. -/
theorem cloneHeader_regenerated_from_source (canon : String → String) (hop : List String) (h : Hdr) :
    Gen.FactsC03IR.extractionFailed = false ∧
    Gen.FactsC03IR.cloneHeaderIR canon hop h = cloneHeader canon hop h :=
  ⟨by decide, by
    simp only [Gen.FactsC03IR.cloneHeaderIR, cloneHeader_regenerated_from_source_loop1, cloneHeader, connTokens,
      Hdr.delAll, List.foldl_map,
      loop_eq_foldl (Gen.FactsC03IR.cloneHeaderIR_loop3 canon hop h) _ (fun o => o) (fun _ => rfl) (fun _ _ _ => rfl)]⟩

/-- `Server.checkAddrPattern` (server.go): the `LastIndexByte` arithmetic, both slicings and the
`net.ParseIP` test are the model's `addrIsHostName`; an unparsable URL leaves the flag as it was. -/
theorem checkAddr_regenerated_from_source (isIP : List Char → Bool) (parsed : Option (List Char)) (old : Bool) :
    Gen.FactsC03IR.extractionFailed = false ∧
    Gen.FactsC03IR.checkAddrIR isIP parsed old = (match parsed with
      | none => old
      | some host => addrIsHostName isIP host) := by
  refine ⟨by decide, ?_⟩
  cases parsed with
  | none => rfl
  | some host =>
    unfold Gen.FactsC03IR.checkAddrIR addrIsHostName parseIP
    dsimp only [Option.isNone_some, Option.getD_some]
    -- Go's `host[0]` on the non-empty string is the model's `head?`
    have hhead : ∀ l : List Char, (l.getD (Int.toNat 0) (Char.ofNat 0) == '[') = (l.head? == some '[') := by
      intro l
      cases l <;> rfl
    simp only [hhead, decide_eq_true_eq, show Int.toNat 1 = 1 from rfl]
    cases isIP _ <;> rfl

/-- `prepareRequest` (pool.go): URL construction, payload choice (mirror + stream ⇒ the stub), header
clone and Host rule are the model's `prepareRequest`; it fails only when `http.NewRequestWithContext`
rejects the URL. -/
theorem prepare_regenerated_from_source {π : Type} (canon : String → String) (urlOK : String → Bool) (stub : π)
    (span : Option Unit) (svr : ServerCfg) (mirror : Bool) (q : PReq π) :
    Gen.FactsC03IR.extractionFailed = false ∧
    Gen.FactsC03IR.prepareIR canon urlOK stub span svr mirror q =
      (if urlOK (targetURL svr.url q.escapedPath q.rawQuery) then
        (false, some (prepareRequest canon hopHeaders svr mirror stub q))
      else (true, none)) :=
  ⟨by decide, Proxy.prepare_regenerated_from_source canon urlOK stub span svr mirror q⟩

/-- `compression.acceptGzip` / `alreadyGziped` (compression.go) are the model's predicates. -/
theorem acceptGzip_regenerated_from_source (reqHdr respHdr : Hdr) :
    Gen.FactsC03IR.extractionFailed = false ∧
    Gen.FactsC03IR.acceptGzipIR reqHdr = acceptGzip reqHdr ∧
    Gen.FactsC03IR.alreadyGzipedIR respHdr = alreadyGzipped respHdr := by
  refine ⟨by decide, ?_, ?_⟩
  · simp only [Gen.FactsC03IR.acceptGzipIR, acceptGzip, acceptGzip_regenerated_from_source_loop]
    cases h : Hdr.get reqHdr keyAE with
    | nil => simp
    | cons v t =>
      by_cases h2 : (v :: t).any (fun v => strContains v "*/*" || strContains v "gzip") = true <;> simp [h2]
  · simp only [Gen.FactsC03IR.alreadyGzipedIR, alreadyGzipped, alreadyGziped_regenerated_from_source_loop]
    by_cases h : (Hdr.get respHdr keyCE).any (fun v => strContains v "gzip") = true <;> simp [h]

/-- `compression.compress`: the decision (three early `return false`) and the four header / field updates
are the model's `proxyCompress`; it returns `true` exactly when it compressed. -/
theorem compress_regenerated_from_source {β : Type} (ops : BodyOps β) (minLength : Nat) (reqHdr : Hdr) (r : Resp β) :
    Gen.FactsC03IR.extractionFailed = false ∧
    Gen.FactsC03IR.compressIR ops minLength reqHdr r =
      (acceptGzip reqHdr && !alreadyGzipped r.hdr && !(r.cl != -1 && decide (r.cl < (minLength : Int))),
       proxyCompress ops minLength reqHdr r) := by
  refine ⟨by decide, ?_⟩
  unfold Gen.FactsC03IR.compressIR proxyCompress
  dsimp only
  rw [Int.ofNat_eq_natCast]
  cases acceptGzip reqHdr
  · rfl
  · cases alreadyGzipped r.hdr
    · cases (r.cl != -1 && decide (r.cl < (minLength : Int))) <;> rfl
    · rfl

/-- `pathadaptor.Adapt` (the RequestAdaptor's `path:` section): precedence and the four rewrites are the model's. -/
theorem pathAdapt_regenerated_from_source (σ : Nat → String → String → String) (pa : PathAd) (path : String) :
    Gen.FactsC03IR.extractionFailed = false ∧ Gen.FactsC03IR.pathAdaptIR σ pa path = pa.adapt σ path := by
  refine ⟨by decide, ?_⟩
  simp only [Gen.FactsC03IR.pathAdaptIR, PathAd.adapt, strLen_ne_zero]
  cases h : pa.re with
  | none => simp
  | some x =>
    obtain ⟨id, repl⟩ := x
    simp

/-- `adaptHeader` of requestadaptor.go and of responseadaptor.go (the three loops del / set / add, keys
canonicalised by `http.Header`) are the model's `adaptHeader`. -/
theorem adaptHeader_regenerated_from_source (canon : String → String) (a : AdSpec) (h : Hdr) :
    Gen.FactsC03IR.extractionFailed = false ∧
    Gen.FactsC03IR.adaptReqHeaderIR canon a h = adaptHeader (a.canonKeys canon) h ∧
    Gen.FactsC03IR.adaptRespHeaderIR canon a h = adaptHeader (a.canonKeys canon) h := by
  refine ⟨by decide, ?_⟩
  unfold Gen.FactsC03IR.adaptReqHeaderIR Gen.FactsC03IR.adaptRespHeaderIR adaptHeader AdSpec.canonKeys Hdr.delAll
  dsimp only
  rw [loop_eq_foldl (Gen.FactsC03IR.adaptReqHeaderIR_loop1 canon a h) _ (fun o => o) (fun _ => rfl) (fun _ _ _ => rfl),
    loop_eq_foldl (Gen.FactsC03IR.adaptRespHeaderIR_loop1 canon a h) _ (fun o => o) (fun _ => rfl) (fun _ _ _ => rfl)]
  dsimp only
  rw [loop_eq_foldl (Gen.FactsC03IR.adaptReqHeaderIR_loop2 canon a h) _ (fun o => o) (fun _ => rfl) (fun _ _ _ => rfl),
    loop_eq_foldl (Gen.FactsC03IR.adaptRespHeaderIR_loop2 canon a h) _ (fun o => o) (fun _ => rfl) (fun _ _ _ => rfl)]
  dsimp only
  rw [loop_eq_foldl (Gen.FactsC03IR.adaptReqHeaderIR_loop3 canon a h) _ (fun o => o) (fun _ => rfl) (fun _ _ _ => rfl),
    loop_eq_foldl (Gen.FactsC03IR.adaptRespHeaderIR_loop3 canon a h) _ (fun o => o) (fun _ => rfl) (fun _ _ _ => rfl)]
  simp only [List.foldl_map, and_self]

/-- `RequestAdaptor.Handle` (requestadaptor.go): method / path / Host afterwards = `adaptReqLine`; header
section, body, compress, decompress in that order = `reqAdaptorFull`; failure result ⇔ the model has none. -/
theorem handleReqAd_regenerated_from_source {β : Type} (ops : BodyOps β) (σ : Nat → String → String → String)
    (esc : String → String) (a : ReqLineAd) (ad : AdSpec) (q : ReqLine) (m : ReqMsg β) :
    Gen.FactsC03IR.extractionFailed = false ∧
    (Gen.FactsC03IR.handleReqAdIR ops σ a (some ad) ad.body (if ad.compress then "gzip" else "") (if ad.decompress then "gzip" else "") q m).2.1 =
      ((adaptReqLine σ esc a q).method, (adaptReqLine σ esc a q).path, (adaptReqLine σ esc a q).host) ∧
    (∀ m', reqAdaptorFull ops ad m = some m' →
      (Gen.FactsC03IR.handleReqAdIR ops σ a (some ad) ad.body (if ad.compress then "gzip" else "") (if ad.decompress then "gzip" else "") q m).1 = "" ∧
      (Gen.FactsC03IR.handleReqAdIR ops σ a (some ad) ad.body (if ad.compress then "gzip" else "") (if ad.decompress then "gzip" else "") q m).2.2 = m') ∧
    (reqAdaptorFull ops ad m = none →
      (Gen.FactsC03IR.handleReqAdIR ops σ a (some ad) ad.body (if ad.compress then "gzip" else "") (if ad.decompress then "gzip" else "") q m).1
        = "decompressFailed") := by
  refine ⟨by decide, Proxy.handleReqAd_regenerated_from_source_line ops σ esc a (some ad) _ _ _ q m, ?_⟩
  -- the translated code and the model run the same stages on the message the header section leaves
  have hI := handleReqAdIR_stages ops σ a ad ad.compress ad.decompress q m
  have hS := reqAdaptorHandle_stages ops ad ⟨adaptHeader ad m.hdr, m.payload⟩
  dsimp only at hI hS
  rw [← hI.1, ← hI.2] at hS
  generalize Gen.FactsC03IR.handleReqAdIR ops σ a (some ad) _ _ _ q m = out at hS ⊢
  obtain ⟨hm, hs⟩ := hS
  unfold reqAdaptorFull
  rw [hm]
  by_cases he : out.1 = ""
  · rw [if_pos he]
    exact ⟨fun m' h => ⟨he, Option.some.inj h⟩, fun h => (nomatch h)⟩
  · rw [if_neg he]
    exact ⟨fun m' h => (nomatch h), fun _ => hs.resolve_left he⟩

/-- `ServerPool.handleMirror` (pool.go): the mirror backend is sent the model's mirror request; **`spCtx.resp`
is never set** — whatever the mirror answers (or whether sending fails) the client-visible response cannot
come from it. -/
theorem handleMirror_regenerated_from_source {π : Type} (canon : String → String) (urlOK : String → Bool) (stub : π)
    (span : Option Unit) (chosen : Option ServerCfg) (sendErr : Bool) (q : PReq π) :
    Gen.FactsC03IR.extractionFailed = false ∧
    Gen.FactsC03IR.handleMirrorIR canon urlOK stub span chosen sendErr q =
      ((match chosen with
        | none => none
        | some svr => if urlOK (targetURL svr.url q.escapedPath q.rawQuery) then
            mirrorSent canon (some (svr, true)) stub q else none), none) := by
  refine ⟨by decide, ?_⟩
  cases chosen with
  | none => rfl
  | some svr =>
    simp only [Gen.FactsC03IR.handleMirrorIR, Proxy.prepare_regenerated_from_source, mirrorSent, Option.isNone_some,
      Bool.false_eq_true, if_false, Option.getD_some]
    by_cases hu : urlOK (targetURL svr.url q.escapedPath q.rawQuery) = true
    · cases sendErr <;> simp [hu]
    · simp [hu]

/-- `Proxy.Handle` (proxy.go): the mirror pool is started iff it exists and its filter matches; the request is
served (`handle(ctx, false)`) by the first matching candidate pool, else the main pool — never by the mirror. -/
theorem proxyHandle_regenerated_from_source (mirror : Option (Nat × Bool)) (main : Nat × Bool) (cands : List (Nat × Bool)) :
    Gen.FactsC03IR.extractionFailed = false ∧
    Gen.FactsC03IR.proxyHandleIR mirror main cands = proxyHandle mirror main cands :=
  ⟨by decide, Proxy.proxyHandle_regenerated_from_source mirror main cands⟩

/-- **Host rule, on the re-translated `prepareRequest`** (pool.go): whenever the request can be built, the Host the
transport puts on the wire for it is the client's Host for an IP-addressed or `keepHost` server and the server's own
`host[:port]` otherwise — the declarative `Spec.expectedHost` the judge evaluates on the backend's observation.
(`isIP` of the server's host part is `!svr.addrIsHostName`, by `checkAddr_regenerated_from_source` /
`addr_pattern_classifies`.) -/
theorem host_rule {π : Type} (canon : String → String) (urlOK : String → Bool) (stub : π) (span : Option Unit)
    (svr : ServerCfg) (q : PReq π) (hq : q.host ≠ "")
    (hu : urlOK (targetURL svr.url q.escapedPath q.rawQuery) = true) :
    ∃ o, Gen.FactsC03IR.prepareIR canon urlOK stub span svr false q = (false, some o) ∧
      o.wireHost svr = Spec.expectedHost (!svr.addrIsHostName) svr.keepHost q.host svr.hostPort := by
  refine ⟨prepareRequest canon hopHeaders svr false stub q, ?_, prepareRequest_wireHost canon _ svr false stub q hq⟩
  rw [Proxy.prepare_regenerated_from_source, if_pos hu]

/-- The fields of the model's `prepareRequest` are the pieces the request-side theorems talk about:
method and payload untouched (main pool), URL = `targetURL` (⇒ `url_preserved`), header = `cloneHeader`
(⇒ `cloneHeader_strips_hop / keeps_e2e`), and the Host on the wire = `hostSent` (⇒ `host_rule`) whenever
the client sent a Host. -/
theorem prepareRequest_fields {π : Type} (canon : String → String) (svr : ServerCfg) (stub : π) (q : PReq π) :
    let o := prepareRequest canon hopHeaders svr false stub q
    o.method = q.method ∧ o.payload = some q.payload ∧ o.url = targetURL svr.url q.escapedPath q.rawQuery ∧
    o.hdr = cloneHeader canon hopHeaders q.hdr ∧ (q.host ≠ "" → o.wireHost svr = hostSent svr q.host) := by
  exact ⟨prepareRequest_method .., prepareRequest_payload .., prepareRequest_url .., prepareRequest_hdr ..,
    prepareRequest_wireHost canon _ svr false stub q⟩

/-- non-vacuity: the translated code on concrete inputs. -/
example : Gen.FactsC03IR.cloneHeaderIR id hopHeaders
    [("X-A", ["1"]), ("Connection", ["close, X-Foo"]), ("X-Foo", ["bar"]), ("Keep-Alive", ["3"]), ("X-A", ["2"])]
    = [("X-A", ["1"]), ("X-A", ["2"])] := by decide

example : Gen.FactsC03IR.checkAddrIR (fun s => s == "::1".toList) (some "[::1]:8080".toList) true = false ∧
    Gen.FactsC03IR.checkAddrIR (fun _ => false) (some "example.com:80".toList) false = true ∧
    Gen.FactsC03IR.checkAddrIR (fun _ => false) none false = false := by decide

/-! ### Retries: faithfulness holds per attempt, for any number of attempts -/

/-- **Every attempt of a retried request puts the same faithful request on the wire** — for any number
of attempts `n`: `prepareRequest` asks the request for a fresh payload reader each time. Together with
`prepare_regenerated_from_source` (the payload of the built request *is* `req.GetPayload()`, obtained
inside `prepareRequest`) and `prepareRequest_fields` this extends method / URL / header / Host / body
faithfulness from the single request to every attempt. -/
theorem every_attempt_faithful {π : Type} (empty : π) (o : OutReq π) (n : Nat) :
    retrySeen true empty o n = List.replicate n o ∧ ∀ s ∈ retrySeen true empty o n, s = o := by
  have h : retrySeen true empty o n = List.replicate n o := by
    unfold retrySeen attemptSeen
    simp only [Bool.true_or, if_true]
    rw [List.map_const', List.length_range]
  exact ⟨h, fun s hs => (List.mem_replicate.mp (h ▸ hs)).2⟩

/-- Facts behind `fresh = true`: `Request.GetPayload` returns a new reader over the buffered bytes on every
call, and the function the retry wrapper calls once per attempt (`doHandle`) runs `prepareRequest` itself
(whose translated body — `prepare_regenerated_from_source` — takes the payload from `req.GetPayload()`). -/
theorem retry_facts :
    Gen.FactsC03.getPayloadFresh = true ∧ Gen.FactsC03.prepareInsideDoHandle = true := ⟨rfl, rfl⟩

/-- The seeded defect C03-m4 in the model: one payload reader shared by all attempts (`fresh = false`)
sends the body on the first attempt only. -/
example : retrySeen false ([] : List Nat) ⟨"POST", "http://b/x", some [1, 2, 3], [], ""⟩ 3 =
    [⟨"POST", "http://b/x", some [1, 2, 3], [], ""⟩, ⟨"POST", "http://b/x", some [], [], ""⟩,
     ⟨"POST", "http://b/x", some [], [], ""⟩] := by decide

/-- Number of attempts: one without a retry policy or for a stream request (its body can be read only
once), otherwise one more than the failed attempts, capped by `maxAttempts`. -/
theorem attempts_bounded (m : Nat) (isStream : Bool) (failures : Nat) :
    attemptsMade none isStream failures = 1 ∧ attemptsMade (some m) true failures = 1 ∧
    attemptsMade (some m) false failures ≤ m ∧ attemptsMade (some m) false failures ≤ failures + 1 ∧
    (failures < m → attemptsMade (some m) false failures = failures + 1) := by
  simp only [attemptsMade, if_true, Bool.false_eq_true, if_false]
  refine ⟨trivial, trivial, by omega, by omega, by intro h; omega⟩

/-- In the end-to-end model with a pool retry policy and `failureCodes`: whatever the scripted fates of the
attempts (resets, listed statuses, oversized answers …), every request the backend sees is the one
faithful request `prepare` built, and there are at most `max 1 maxAttempts`… exactly as many as the
retry loop made. -/
theorem runRetry_attempts_same_request {β : Type} (ops : BodyOps β) (canon : String → String) (cfg : Cfg)
    (retryMax : Option Nat) (failureCodes : List Nat) (q : ClientReq β) (replies : List (Reply β))
    (seenAll : List (BackendSeen β)) (cl : Resp β) (ok : Bool) (m : ReqMsg β) (seen : BackendSeen β)
    (hp : prepare ops canon cfg q = .ready m seen)
    (hr : runRetry ops canon cfg retryMax failureCodes q replies = .proxied seenAll cl ok) :
    ∀ s ∈ seenAll, s = seen := by
  unfold runRetry at hr
  rw [hp] at hr
  simp only [] at hr
  intro s hs
  split at hr <;> (cases hr; exact (List.mem_replicate.mp hs).2)

/-- Without a retry policy and without `failureCodes` the retry model is the plain `run`: one attempt,
the same client response. -/
theorem runRetry_single_eq_run {β : Type} (ops : BodyOps β) (canon : String → String) (cfg : Cfg)
    (q : ClientReq β) (reply : BackendReply β) :
    runRetry ops canon cfg none [] q [.resp reply] = match run ops canon cfg q reply with
      | .early st => .early st
      | .adaptorFailed => .adaptorFailed
      | .proxied seen cl ok => .proxied [seen] cl ok := by
  unfold runRetry run
  cases hp : prepare ops canon cfg q with
  | early st => rfl
  | adaptorFailed => rfl
  | ready m seen =>
    have hr : proxyResp ops cfg q.method seen.hdr reply = none ∨
        ∃ r, proxyResp ops cfg q.method seen.hdr reply = some r := by
      cases proxyResp ops cfg q.method seen.hdr reply with
      | none => exact Or.inl rfl
      | some r => exact Or.inr ⟨r, rfl⟩
    rcases hr with hr | ⟨r, hr⟩ <;>
      simp [retryLoop, doHandleOut, hr]

/-! ### RequestAdaptor: what the backend then sees (faithfulness modulo the configured adaption) -/

/-- An adaptor that configures nothing for the request line leaves it alone. -/
theorem adaptReqLine_default (σ : Nat → String → String → String) (esc : String → String) (q : ReqLine) :
    adaptReqLine σ esc {} q = q := by
  obtain ⟨m, p, e, h⟩ := q
  simp [adaptReqLine]

/-- Method and Host after the adaptor: the configured value when there is one, the client's otherwise;
the Host rule (`host_rule`) then applies to that Host. -/
theorem adaptReqLine_method_host (σ : Nat → String → String → String) (esc : String → String) (a : ReqLineAd) (q : ReqLine) :
    (adaptReqLine σ esc a q).method = (if a.method = "" then q.method else a.method) ∧
    (adaptReqLine σ esc a q).host = (if a.host = "" then q.host else a.host) := by
  simp only [adaptReqLine]
  constructor
  · by_cases h1 : a.method = ""
    · simp [h1]
    · by_cases h2 : a.method = q.method <;> simp [h1, h2]
  · by_cases h : a.host = "" <;> simp [h]

/-- The path the backend is asked for is exactly `PathAdaptor.Adapt` of the client's decoded path; when the
adaption does not change the path its original escaped form is kept (so `url_preserved` still applies),
otherwise the default encoding of the new path is sent. -/
theorem adaptReqLine_path (σ : Nat → String → String → String) (esc : String → String) (a : ReqLineAd) (q : ReqLine) :
    (adaptReqLine σ esc a q).path = (match a.path with | some pa => pa.adapt σ q.path | none => q.path) ∧
    ((adaptReqLine σ esc a q).path = q.path → (adaptReqLine σ esc a q).escapedPath = q.escapedPath) ∧
    ((adaptReqLine σ esc a q).path ≠ q.path →
      (adaptReqLine σ esc a q).escapedPath = esc (adaptReqLine σ esc a q).path) := by
  simp only [adaptReqLine]
  refine ⟨rfl, ?_, ?_⟩
  · intro h; simp [h]
  · intro h; simp [h]

/-- `pathadaptor.Adapt`: precedence replace > addPrefix > trimPrefix > regexp, nothing configured = identity. -/
theorem pathAdapt_cases (σ : Nat → String → String → String) (pa : PathAd) (p : String) :
    (pa.replace ≠ "" → pa.adapt σ p = pa.replace) ∧
    (pa.replace = "" → pa.addPrefix ≠ "" → pa.adapt σ p = pa.addPrefix ++ p) ∧
    (pa.replace = "" → pa.addPrefix = "" → pa.trimPrefix ≠ "" → pa.adapt σ p = trimPrefixS p pa.trimPrefix) ∧
    (pa.replace = "" → pa.addPrefix = "" → pa.trimPrefix = "" → pa.re = none → pa.adapt σ p = p) := by
  refine ⟨?_, ?_, ?_, ?_⟩ <;> intros <;> simp_all [PathAd.adapt]

/-- **Headers after a RequestAdaptor `header:` section**: whatever the section deletes, sets or adds, the
backend never sees a hop-by-hop header (also not one the adaptor itself set), and every other header arrives
exactly as the adaptor left it — provided the section does not edit `Connection` itself and the header is not
named by a `Connection` token. -/
theorem reqAdapt_header_then_clone (canon : String → String) (hop : List String) (a : AdSpec) (h : Hdr) (k : String) :
    (k ∈ hop.map canon → (cloneHeader canon hop (adaptHeader a h)).get k = []) ∧
    (k ∉ hop.map canon → "Connection" ∉ a.hkeys → k ∉ connTokens canon h →
      (cloneHeader canon hop (adaptHeader a h)).get k = (adaptHeader a h).get k) := by
  constructor
  · intro hk
    exact cloneHeader_strips_hop canon hop _ k (Or.inl hk)
  · intro h1 hc h2
    apply cloneHeader_keeps_e2e canon hop _ k h1
    unfold connTokens at *
    rw [get_adaptHeader_other hc]
    exact h2

/-- **Headers after a ResponseAdaptor `header:` section** (what the client then sees): every header the
section does not name is the backend's, values and order included. -/
theorem respAdapt_header_other {β : Type} (ops : BodyOps β) (a : AdSpec) (r : Resp β) (k : String)
    (hk : k ∉ a.hkeys) (h1 : k ≠ keyCL) (h2 : k ≠ keyCE) :
    (adaptorHandle ops a r).hdr.get k = r.hdr.get k :=
  ((adaptorCore_status_hdr ops a _).2 k h1 h2).trans (get_adaptHeader_other hk)

/-! ### Mirror pool -/

/-- What a mirror backend is sent is the same faithful request (method, URL, stripped header, Host rule of the
*mirror's* server), with the one documented exception: a stream body is replaced by the constant stub. -/
theorem mirror_request_faithful {π : Type} (canon : String → String) (svr : ServerCfg) (stub : π) (q : PReq π) :
    mirrorSent canon (some (svr, true)) stub q = some (prepareRequest canon hopHeaders svr true stub q) ∧
    (prepareRequest canon hopHeaders svr true stub q).method = q.method ∧
    (prepareRequest canon hopHeaders svr true stub q).hdr = cloneHeader canon hopHeaders q.hdr ∧
    (prepareRequest canon hopHeaders svr true stub q).payload = some (if q.isStream then stub else q.payload) ∧
    (∀ svr', mirrorSent canon (some (svr', false)) stub q = none) ∧ mirrorSent canon none stub q = none := by
  exact ⟨rfl, prepareRequest_method .., prepareRequest_hdr .., prepareRequest_payload .., fun _ => rfl, rfl⟩

/-- The primary pool's request does not depend on whether a mirror exists (`mirror = false` never reads the
stub): the client's backend gets the faithful request, mirror or not. -/
theorem primary_ignores_mirror_stub {π : Type} (canon : String → String) (svr : ServerCfg) (s1 s2 : π) (q : PReq π) :
    prepareRequest canon hopHeaders svr false s1 q = prepareRequest canon hopHeaders svr false s2 q := by
  simp [prepareRequest]


/-! ### Every history through the cache; every adaptor combination end to end -/

section cacheAll
variable {β : Type} (ops : BodyOps β)

/-- Every entry of the cache is the snapshot of a well-framed response. -/
def CacheWF (c : Cache β) : Prop := ∀ ke ∈ c, WellFramed ops (respFromCache ke.2)

/-- One step answers well-framed and keeps the cache's invariant: a hit serves a snapshot and leaves the cache
alone, a miss stores at most the snapshot of its fresh (hence well-framed) response. -/
theorem poolStep_wellFramed (cfg : CacheCfg) (as : List AdSpec) (has : ∀ a ∈ as, keyCL ∉ a.hkeys) (c : Cache β)
    (q : PoolReq β) (hc : CacheWF ops c) (hfail : WellFramed ops q.failure)
    (hfresh : ∀ r, q.fresh = some r → WellFramed ops r) :
    CacheWF ops (poolStep ops cfg false as c q).1 ∧ WellFramed ops (poolStep ops cfg false as c q).2 := by
  unfold poolStep
  cases hl : cacheLoad cfg q.key q.method q.hdr c with
  | some e =>
    refine ⟨hc, pipeline_of_transformations_well_framed ops as has _ (hc _ (mem_of_lookup (a := q.key) ?_))⟩
    unfold cacheLoad at hl
    split at hl
    · cases hl
    · split at hl
      · cases hl
      · exact hl
  | none =>
    cases hf : q.fresh with
    | none => exact ⟨hc, hfail⟩
    | some r =>
      refine ⟨?_, pipeline_of_transformations_well_framed ops as has r (hfresh r hf)⟩
      dsimp only [cacheStore]
      split
      · intro ke hke
        rcases List.mem_cons.mp hke with rfl | hke
        · exact hfresh r hf
        · exact hc ke hke
      · exact hc

/-- **Every response of every history through a caching pool is well-framed** — any interleaving of keys,
methods, `no-cache` / `no-store` requests, failures, hits and misses, any number of requests, any chain of
downstream response-editing filters not naming Content-Length — provided what the Proxy itself produces
(fresh responses, failure responses) is well-framed and the cache started out with well-framed snapshots. -/
theorem all_history_responses_well_framed (cfg : CacheCfg) (as : List AdSpec) (has : ∀ a ∈ as, keyCL ∉ a.hkeys)
    (qs : List (PoolReq β)) (c : Cache β) (hc : CacheWF ops c)
    (hq : ∀ q ∈ qs, WellFramed ops q.failure ∧ ∀ r, q.fresh = some r → WellFramed ops r) :
    ∀ resp ∈ runHistory ops cfg false as c qs, WellFramed ops resp := by
  induction qs generalizing c with
  | nil => intro resp h; cases h
  | cons q t ih =>
    intro resp h
    obtain ⟨hfail, hfresh⟩ := hq q List.mem_cons_self
    obtain ⟨hc', hw⟩ := poolStep_wellFramed ops cfg as has c q hc hfail hfresh
    rcases List.mem_cons.mp h with rfl | h
    · exact hw
    · exact ih _ hc' (fun q' hq' => hq q' (List.mem_cons_of_mem _ hq')) resp h

/-- **A hit is a bit-exact copy of what was stored**: in any history, a response served from the cache is the
downstream image of the stored snapshot (status, every header line, every body byte), and the snapshot itself
is not changed by serving it — so the next hit is the same copy again. -/
theorem hit_is_exact_copy (cfg : CacheCfg) (as : List AdSpec) (c : Cache β) (q : PoolReq β) (e : CacheEntry β)
    (hl : cacheLoad cfg q.key q.method q.hdr c = some e) :
    (poolStep ops cfg false as c q).2 = adaptorChain ops as (respFromCache e) ∧
    (respFromCache e).status = e.status ∧ (respFromCache e).hdr = e.hdr ∧ (respFromCache e).payload = .bytes e.body ∧
    (poolStep ops cfg false as c q).1 = c ∧
    cacheLoad cfg q.key q.method q.hdr (poolStep ops cfg false as c q).1 = some e := by
  have h := poolStep_hit ops cfg as c q e hl
  refine ⟨by rw [h], rfl, rfl, rfl, by rw [h], by rw [h]; exact hl⟩

end cacheAll

section e2e
variable {β : Type} (ops : BodyOps β)

/-- The backend is *honest*: a declared length is the number of bytes it sends. -/
def HonestReply (b : BackendReply β) : Prop := 0 ≤ b.cl → b.cl.toNat = ops.len b.body

/-- the same for a response inside the proxy -/
def HonestResp (r : Resp β) : Prop := 0 ≤ r.cl → r.cl.toNat = ops.len r.payload.content

/-- What the transport hands over is coherent (ContentLength field = Content-Length header) whenever the
backend's reply is — also after its transparent gunzip, which drops both. -/
theorem transportReply_coherent {method : String} {outHdr : Hdr} {b : BackendReply β}
    (hb : Coherent (⟨b.status, b.hdr, b.cl, .stream b.body⟩ : Resp β)) :
    Coherent (transportReply ops method outHdr b) := by
  have hg : ∀ pl : Pl β, Coherent (⟨b.status, (b.hdr.del keyCE).del keyCL, -1, pl⟩ : Resp β) := by
    intro pl
    constructor
    · intro _; exact Hdr.get_del_same _ _
    · intro h; simp at h
  unfold transportReply
  split
  · exact hb
  · split
    · split
      · exact hg _
      · exact hg _
    · exact hb

/-- … and honest whenever the backend is (for a non-HEAD request; after the gunzip no length is declared). -/
theorem transportReply_honest {method : String} {outHdr : Hdr} {b : BackendReply β}
    (hm : (method == "HEAD") = false) (hb : HonestReply ops b) :
    HonestResp ops (transportReply ops method outHdr b) := by
  unfold transportReply HonestResp
  simp only [hm, Bool.false_eq_true, if_false]
  split
  · split <;> (intro h; simp at h)
  · exact hb

theorem wellFramed_of_coherent_honest (r : Resp β) (hc : Coherent r) (hh : HonestResp ops r) : WellFramed ops r := by
  by_cases h : 0 ≤ r.cl
  · right; rw [hc.2 h, hh h]
  · left; exact hc.1 (by omega)

theorem proxyCompress_honest {minLength : Nat} {reqHdr : Hdr} {r : Resp β} (h : HonestResp ops r) :
    HonestResp ops (proxyCompress ops minLength reqHdr r) :=
  proxyCompress_induct ops (P := HonestResp ops) h fun _ hc => by simp at hc

theorem compressed_coherent {cfg : Cfg} {outHdr : Hdr} {r : Resp β} (h : Coherent r) :
    Coherent (compressed ops cfg outHdr r) := by
  unfold compressed
  cases cfg.compression with
  | none => exact h
  | some ml => exact proxyCompress_coherent ops h

theorem compressed_honest {cfg : Cfg} {outHdr : Hdr} {r : Resp β} (h : HonestResp ops r) :
    HonestResp ops (compressed ops cfg outHdr r) := by
  unfold compressed
  cases cfg.compression with
  | none => exact h
  | some ml => exact proxyCompress_honest ops h

/-- Whatever `fetchOrFail` returns is, in stream mode, `r1` with its reader as payload, and otherwise came out of
`FetchPayload`: in buffered mode a failing body reader is an error. -/
theorem fetchOrFail_cases {cfg : Cfg} {isHead fails : Bool} {r1 r2 : Resp β}
    (h : fetchOrFail ops cfg isHead fails r1 = some r2) :
    (Payload.normLimit cfg.dflt (Payload.effLimit cfg.poolMax cfg.proxyMax) < 0 ∧
      r2 = { r1 with payload := .stream r1.payload.content }) ∨
    fetchPayload ops cfg.dflt (Payload.effLimit cfg.poolMax cfg.proxyMax) isHead r1 = some r2 := by
  unfold fetchOrFail at h
  split at h
  · unfold Payload.fetchFailing at h
    dsimp only at h
    generalize Payload.normLimit cfg.dflt (Payload.effLimit cfg.poolMax cfg.proxyMax) = lim at h ⊢
    by_cases hs : lim < 0
    · rw [if_pos hs] at h; cases h; exact .inl ⟨hs, rfl⟩
    · rw [if_neg hs] at h
      by_cases hl : ops.len r1.payload.content ≤ lim.toNat
      · rw [if_pos hl] at h; cases h
      · rw [if_neg hl] at h; cases h
  · exact .inr h

/-- In stream mode `fetchOrFail` hands `r1` on as a stream, status and header untouched — whether or not its
reader is going to fail. -/
theorem fetchOrFail_stream (cfg : Cfg) (isHead fails : Bool) (r1 : Resp β)
    (hs : Payload.normLimit cfg.dflt (Payload.effLimit cfg.poolMax cfg.proxyMax) < 0) :
    fetchOrFail ops cfg isHead fails r1 = some { r1 with payload := .stream r1.payload.content } := by
  unfold fetchOrFail
  split
  · simp [Payload.fetchFailing, hs]
  · simp [fetchPayload, Payload.fetchResp, hs]

/-- Anatomy of a proxied result of `run`: either the Proxy failed (500, nothing of the backend's answer is handed
on) or its response went through the downstream adaptors. -/
theorem run_proxied {canon : String → String} {cfg : Cfg} {q : ClientReq β} {reply : BackendReply β}
    {seen : BackendSeen β} {cl : Resp β} {ok : Bool} (hr : run ops canon cfg q reply = .proxied seen cl ok) :
    (proxyResp ops cfg q.method seen.hdr reply = none ∧ cl = failureResp ops 500 ∧ ok = false) ∨
    ∃ r2, proxyResp ops cfg q.method seen.hdr reply = some r2 ∧ cl = adaptorChain ops (downstream cfg) r2 ∧ ok = true := by
  unfold run at hr
  cases hp : prepare ops canon cfg q with
  | early st => rw [hp] at hr; cases hr
  | adaptorFailed => rw [hp] at hr; cases hr
  | ready m s =>
    rw [hp] at hr
    dsimp only at hr
    cases hpr : proxyResp ops cfg q.method s.hdr reply with
    | none => rw [hpr] at hr; cases hr; exact .inl ⟨hpr, rfl, rfl⟩
    | some r2 => rw [hpr] at hr; cases hr; exact .inr ⟨r2, hpr, rfl, rfl⟩

theorem mem_downstream (cfg : Cfg) (a : AdSpec) : a ∈ downstream cfg ↔ cfg.respAd = some a := by
  unfold downstream
  cases cfg.respAd <;> simp [eq_comm]

theorem failureResp_wellFramed (code : Nat) : WellFramed ops (failureResp ops code) := Or.inl rfl

/-- **End to end, buffered mode, every adaptor combination** (response limit in force ≥ 0): for every client
request, every RequestAdaptor, every `compression:` setting, every limit at the four levels, every ResponseAdaptor
whose header section does not name Content-Length, and every coherent backend reply — honest or not — to a
non-HEAD request: whatever reaches the client (the proxied response or the Proxy's own failure response) is
well-framed. -/
theorem e2e_response_well_framed (canon : String → String) (cfg : Cfg) (q : ClientReq β) (reply : BackendReply β)
    (htake : ∀ n b, n ≤ ops.len b → ops.len (ops.take n b) = n)
    (hbuf : 0 ≤ Payload.normLimit cfg.dflt (Payload.effLimit cfg.poolMax cfg.proxyMax))
    (hhead : (q.method == "HEAD") = false)
    (had : ∀ a, cfg.respAd = some a → keyCL ∉ a.hkeys)
    (hb : Coherent (⟨reply.status, reply.hdr, reply.cl, .stream reply.body⟩ : Resp β))
    (seen : BackendSeen β) (cl : Resp β) (ok : Bool)
    (hr : run ops canon cfg q reply = .proxied seen cl ok) : WellFramed ops cl := by
  obtain h | ⟨r2, hpr, hcl, _⟩ := run_proxied ops hr
  · rw [h.2.1]; exact failureResp_wellFramed ops 500
  · rw [hcl]
    apply pipeline_of_transformations_well_framed ops _ (fun a ha => had a ((mem_downstream cfg a).mp ha))
    have hnn : ¬ Payload.normLimit cfg.dflt (Payload.effLimit cfg.poolMax cfg.proxyMax) < 0 := by omega
    have hf := (fetchOrFail_cases ops hpr).resolve_left (fun h => hnn h.1)
    rw [hhead] at hf
    have hstream : r2.payload.isStream = false := by
      rcases fetchPayload_cases ops hf with ⟨hs, _⟩ | ⟨n, rfl, _⟩
      · exact absurd hs hnn
      · rfl
    exact framing_established_by_fetch ops _ _ _ r2 htake
      (compressed_coherent ops (transportReply_coherent ops hb)) hf hstream

/-- **End to end, stream mode** (response limit in force < 0: nothing is buffered, the body reader itself is
handed on), for an **honest** backend (a declared length is the number of bytes sent): the response the client
is sent is well-framed — through the transparent gunzip, the Proxy's compression and every ResponseAdaptor
not naming Content-Length. (A dishonest backend: see `clientAborted` / C07 `stream_short_body_aborted`.) -/
theorem e2e_response_well_framed_stream (canon : String → String) (cfg : Cfg) (q : ClientReq β) (reply : BackendReply β)
    (hs : Payload.normLimit cfg.dflt (Payload.effLimit cfg.poolMax cfg.proxyMax) < 0)
    (hhead : (q.method == "HEAD") = false)
    (had : ∀ a, cfg.respAd = some a → keyCL ∉ a.hkeys)
    (hb : Coherent (⟨reply.status, reply.hdr, reply.cl, .stream reply.body⟩ : Resp β))
    (hh : HonestReply ops reply)
    (seen : BackendSeen β) (cl : Resp β) (ok : Bool)
    (hr : run ops canon cfg q reply = .proxied seen cl ok) : WellFramed ops cl := by
  obtain h | ⟨r2, hpr, hcl, _⟩ := run_proxied ops hr
  · rw [h.2.1]; exact failureResp_wellFramed ops 500
  · rw [hcl]
    apply pipeline_of_transformations_well_framed ops _ (fun a ha => had a ((mem_downstream cfg a).mp ha))
    unfold proxyResp at hpr
    rw [fetchOrFail_stream ops cfg _ _ _ hs] at hpr
    cases hpr
    exact wellFramed_of_coherent_honest ops _
      (compressed_coherent ops (transportReply_coherent ops hb))
      (compressed_honest ops (transportReply_honest ops hhead hh))


/-! #### Status and end-to-end response headers -/

theorem adaptorHandle_status (a : AdSpec) (r : Resp β) : (adaptorHandle ops a r).status = r.status :=
  (adaptorCore_status_hdr ops a _).1

theorem transportReply_status_hdr (method : String) (outHdr : Hdr) (b : BackendReply β) :
    KeepsE2E (transportReply ops method outHdr b) ⟨b.status, b.hdr, b.cl, .stream b.body⟩ := by
  unfold transportReply
  split
  · exact ⟨rfl, fun _ _ _ => rfl⟩
  · split
    · split <;> exact ⟨rfl, fun k h1 h2 => by rw [Hdr.get_del_other h1, Hdr.get_del_other h2]⟩
    · exact .refl _

theorem proxyCompress_status_hdr (minLength : Nat) (reqHdr : Hdr) (r : Resp β) :
    (proxyCompress ops minLength reqHdr r).status = r.status ∧
    ∀ k, k ≠ keyCL → k ≠ keyCE → k ≠ keyVary → (proxyCompress ops minLength reqHdr r).hdr.get k = r.hdr.get k :=
  proxyCompress_induct ops
    (P := fun r' => r'.status = r.status ∧ ∀ k, k ≠ keyCL → k ≠ keyCE → k ≠ keyVary → r'.hdr.get k = r.hdr.get k)
    ⟨rfl, fun _ _ _ _ => rfl⟩ fun _ =>
      ⟨rfl, fun k h1 h2 h3 => by rw [Hdr.get_add_other h3, Hdr.get_set_other h2, Hdr.get_del_other h1]⟩

theorem fetchOrFail_status_hdr {cfg : Cfg} {isHead fails : Bool} {r1 r2 : Resp β}
    (h : fetchOrFail ops cfg isHead fails r1 = some r2) : r2.status = r1.status ∧ r2.hdr = r1.hdr := by
  rcases fetchOrFail_cases ops h with ⟨_, rfl⟩ | h
  · exact ⟨rfl, rfl⟩
  · rcases fetchPayload_cases ops h with ⟨_, rfl⟩ | ⟨n, rfl, _⟩ <;> exact ⟨rfl, rfl⟩

theorem proxyResp_status_hdr {cfg : Cfg} {method : String} {outHdr : Hdr} {reply : BackendReply β} {r2 : Resp β}
    (h : proxyResp ops cfg method outHdr reply = some r2) :
    r2.status = reply.status ∧
    ∀ k, k ≠ keyCL → k ≠ keyCE → k ≠ keyVary → r2.hdr.get k = reply.hdr.get k := by
  obtain ⟨hs, hh⟩ := fetchOrFail_status_hdr ops h
  rw [hs, hh]
  have ht := transportReply_status_hdr ops method outHdr reply
  unfold compressed
  cases cfg.compression with
  | none => exact ⟨ht.1, fun k h1 h2 _ => ht.2 k h1 h2⟩
  | some ml =>
    have hc := proxyCompress_status_hdr ops ml outHdr (transportReply ops method outHdr reply)
    exact ⟨hc.1.trans ht.1, fun k h1 h2 h3 => (hc.2 k h1 h2 h3).trans (ht.2 k h1 h2)⟩

/-- **The client receives the backend's status and end-to-end headers**: whenever the Proxy succeeds, in buffered
or stream mode, with or without `compression:` / transparent gunzip / a ResponseAdaptor, the response leaving the
pipeline has the backend's status code, and every header the backend sent — values, order, repeated lines —
except the framing / encoding headers the proxy itself manages (`Content-Length`, `Content-Encoding`, `Vary`) and
the keys a configured ResponseAdaptor `header:` section names. -/
theorem run_status_headers (canon : String → String) (cfg : Cfg) (q : ClientReq β) (reply : BackendReply β)
    (seen : BackendSeen β) (cl : Resp β)
    (hr : run ops canon cfg q reply = .proxied seen cl true) :
    cl.status = reply.status ∧
    ∀ k, k ≠ keyCL → k ≠ keyCE → k ≠ keyVary → (∀ a, cfg.respAd = some a → k ∉ a.hkeys) →
      cl.hdr.get k = reply.hdr.get k := by
  obtain h | ⟨r2, hpr, hcl, _⟩ := run_proxied ops hr
  · exact absurd h.2.2 (by decide)
  · subst hcl
    have hp := proxyResp_status_hdr ops hpr
    constructor
    · exact adaptorChain_induct ops (P := fun r' => r'.status = reply.status)
        (fun a _ r' h => (adaptorHandle_status ops a r').trans h) hp.1
    · intro k h1 h2 h3 hk
      exact adaptorChain_induct ops (P := fun r' => r'.hdr.get k = reply.hdr.get k)
        (fun a ha r' h => (respAdapt_header_other ops a r' k (hk a ((mem_downstream cfg a).mp ha)) h1 h2).trans h)
        (hp.2 k h1 h2 h3)


/-! #### The request the backend sees is `prepareRequest`'s; `targetURL` at `List Char` level -/

/-- `targetURL` on characters: server URL, escaped path, then `?` + raw query when there is one — the shape
`url_preserved` is stated for. -/
theorem targetURL_toList (u ep rq : String) :
    (targetURL u ep rq).toList = u.toList ++ (ep.toList ++ (if rq.toList = [] then [] else '?' :: rq.toList)) := by
  unfold targetURL
  by_cases h : rq = ""
  · subst h; simp
  · have h2 : rq.toList ≠ [] := fun hl => h (String.toList_eq_nil_iff.mp hl)
    simp [h, h2, String.toList_append]

/-- `url_preserved` for the `String`-level URL the model and the judge use: what follows the server URL in
`targetURL` splits back (net/url: fragment at `#`, query at `?`) into exactly the escaped path and raw query. -/
theorem targetURL_preserved (u ep rq : String) (h1 : '?' ∉ ep.toList) (h2 : '#' ∉ ep.toList) (h3 : '#' ∉ rq.toList) :
    ∃ rest, (targetURL u ep rq).toList = u.toList ++ rest ∧ splitTarget rest = (ep.toList, rq.toList) :=
  ⟨_, targetURL_toList u ep rq, url_preserved ep.toList rq.toList h1 h2 h3⟩

/-- A `.ready` outcome of `prepare`: what the backend sees is built from the request line and message as the
RequestAdaptor left them. -/
theorem prepare_ready {canon : String → String} {cfg : Cfg} {q : ClientReq β} {m : ReqMsg β} {seen : BackendSeen β}
    (h : prepare ops canon cfg q = .ready m seen) :
    let l : ReqLine := match cfg.reqAd with
      | none => ⟨q.method, q.path, q.escapedPath, q.host⟩
      | some _ => adaptReqLine cfg.σ cfg.esc cfg.reqLine ⟨q.method, q.path, q.escapedPath, q.host⟩
    seen = ⟨l.method, targetURL cfg.server.url l.escapedPath q.rawQuery, hostSent cfg.server l.host,
      cloneHeader canon hopHeaders m.hdr, m.payload.content, m.payload.isStream⟩ := by
  unfold prepare at h
  dsimp only at h
  split at h
  · cases h
  · split at h
    · cases h
    · cases h; rfl

/-- **What `run` says the backend sees is `prepareRequest`'s output** (the function tied to pool.go by
`prepare_regenerated_from_source`) applied to the request as the RequestAdaptor left it: method, URL, header,
body, and the Host the transport puts on the wire. -/
theorem prepare_seen_eq_prepareRequest (canon : String → String) (cfg : Cfg) (q : ClientReq β)
    (m : ReqMsg β) (seen : BackendSeen β) (stub : β) (h : prepare ops canon cfg q = .ready m seen) :
    let l : ReqLine := match cfg.reqAd with
      | none => ⟨q.method, q.path, q.escapedPath, q.host⟩
      | some _ => adaptReqLine cfg.σ cfg.esc cfg.reqLine ⟨q.method, q.path, q.escapedPath, q.host⟩
    let o := prepareRequest canon hopHeaders cfg.server false stub
      ⟨l.method, l.escapedPath, q.rawQuery, l.host, m.hdr, m.payload.content, m.payload.isStream⟩
    seen.method = o.method ∧ seen.url = o.url ∧ seen.hdr = o.hdr ∧ o.payload = some seen.body ∧
    seen.streamed = m.payload.isStream ∧ (l.host ≠ "" → seen.host = o.wireHost cfg.server) := by
  have hs := prepare_ready ops h
  dsimp only at hs
  subst hs
  dsimp only
  refine ⟨?_, ?_, ?_, ?_, rfl, fun hl => ?_⟩
  · rw [prepareRequest_method]
  · rw [prepareRequest_url]
  · rw [prepareRequest_hdr]
  · rw [prepareRequest_payload]; rfl
  · rw [prepareRequest_wireHost _ _ _ _ _ _ hl]


/-! #### Content: bit-exact after undoing the labelled encoding, through the whole of `run` -/

/-- `FetchPayload` on an honest response keeps every body byte (buffered: exactly the declared / delivered
bytes are taken; stream: the reader itself). `take` law: taking all bytes is the identity. -/
theorem fetchPayload_content {dflt limit : Int} {r r' : Resp β}
    (htakeAll : ∀ b, ops.take (ops.len b) b = b) (hh : HonestResp ops r)
    (h : fetchPayload ops dflt limit false r = some r') :
    r'.payload.content = r.payload.content ∧ r'.hdr = r.hdr := by
  rcases fetchPayload_cases ops h with ⟨_, rfl⟩ | ⟨n, rfl, hn⟩
  · exact ⟨rfl, rfl⟩
  refine ⟨?_, rfl⟩
  have hn' : n = ops.len r.payload.content := by
    rw [(hn rfl).2, Payload.Spec.size]
    split
    · rename_i h0; exact hh h0
    · rfl
  show ops.take n r.payload.content = r.payload.content
  rw [hn']; exact htakeAll _

/-- The transparent gunzip of the transport undoes exactly the label it removes. -/
theorem transportReply_decoded {method : String} {outHdr : Hdr} {b : BackendReply β} {c : β}
    (hm : (method == "HEAD") = false)
    (hd : decoded ops (⟨b.status, b.hdr, b.cl, .stream b.body⟩ : Resp β) = some c) :
    decoded ops (transportReply ops method outHdr b) = some c := by
  unfold transportReply
  simp only [hm, Bool.false_eq_true, if_false]
  split
  · rename_i hg
    have hce : ((b.hdr.get keyCE).head? == some "gzip") = true := by
      unfold gunzipApplies at hg
      simp only [Bool.and_eq_true] at hg
      exact hg.2
    unfold decoded at hd
    simp only [hce, if_true, Pl.content] at hd
    rw [hd]
    unfold decoded
    simp only [Pl.content]
    rw [Hdr.get_del_other ne_CL_CE.symm, Hdr.get_del_same]
    simp
  · exact hd

theorem compressed_decoded (hgz : ∀ b, ops.ungz (ops.gz b) = some b) {cfg : Cfg} {outHdr : Hdr} {r : Resp β} {c : β}
    (h : decoded ops r = some c) : decoded ops (compressed ops cfg outHdr r) = some c := by
  unfold compressed
  cases cfg.compression with
  | none => exact h
  | some ml => exact content_roundtrip_proxyCompress ops hgz h

/-- **content_roundtrip over `run`**: for an honest backend reply to a non-HEAD request, buffered or stream
mode, with or without the transport's transparent gunzip, the Proxy's `compression:` and a body-less
ResponseAdaptor (compress / decompress / header section not naming Content-Encoding): once the client undoes the
Content-Encoding the response is labelled with, it holds exactly the content the backend's reply carried under
*its* label — through `FetchPayload` (`take`) as well. -/
theorem run_content_roundtrip (hgz : ∀ b, ops.ungz (ops.gz b) = some b) (htakeAll : ∀ b, ops.take (ops.len b) b = b)
    (canon : String → String) (cfg : Cfg) (q : ClientReq β) (reply : BackendReply β) (c : β)
    (hhead : (q.method == "HEAD") = false) (hh : HonestReply ops reply)
    (had : ∀ a, cfg.respAd = some a → a.body = "" ∧ keyCE ∉ a.hkeys)
    (hd : decoded ops (⟨reply.status, reply.hdr, reply.cl, .stream reply.body⟩ : Resp β) = some c)
    (seen : BackendSeen β) (cl : Resp β)
    (hr : run ops canon cfg q reply = .proxied seen cl true) : decoded ops cl = some c := by
  obtain h | ⟨r2, hpr, hcl, _⟩ := run_proxied ops hr
  · exact absurd h.2.2 (by decide)
  · subst hcl
    have h1 := compressed_decoded ops hgz (cfg := cfg) (outHdr := seen.hdr)
      (transportReply_decoded ops (outHdr := seen.hdr) hhead hd)
    have hh1 := compressed_honest ops (cfg := cfg) (outHdr := seen.hdr)
      (transportReply_honest ops (outHdr := seen.hdr) hhead hh)
    have h2 : decoded ops r2 = some c := by
      rcases fetchOrFail_cases ops hpr with ⟨_, rfl⟩ | hf
      · exact h1
      · rw [hhead] at hf
        obtain ⟨hc, hhd⟩ := fetchPayload_content ops htakeAll hh1 hf
        unfold decoded at h1 ⊢
        rw [hc, hhd]; exact h1
    exact content_roundtrip ops hgz none seen.hdr (downstream cfg) (fun a ha => had a ((mem_downstream cfg a).mp ha))
      r2 c h2


end e2e
/-! ### Non-vacuity and the witnesses against the unrepaired code -/

/-- A concrete body algebra: bodies are byte lists, "gzip" prepends a marker byte. -/
def exOps : BodyOps (List Nat) :=
  { len := List.length, gz := fun b => 31 :: b,
    ungz := fun b => match b with | 31 :: t => some t | _ => none,
    ofStr := fun s => s.toList.map Char.toNat, take := List.take, empty := [] }

example : ∀ b, exOps.ungz (exOps.gz b) = some b := fun _ => rfl
example : ∀ n b, n ≤ exOps.len b → exOps.len (exOps.take n b) = n := by
  intro n b h; simp [exOps] at *; omega

private def exResp : Resp (List Nat) :=
  ⟨200, [("Content-Length", ["3"]), ("X-B", ["b"])], 3, .bytes [1, 2, 3]⟩

example : WellFramed exOps exResp := by right; decide
example : Coherent exResp := by constructor <;> decide

/-- Unrepaired `ResponseAdaptor` `body:` (`fixes/C03-adaptor-content-length.patch`): backend declared 3 bytes, the adaptor
writes 5 — not well-framed; the repaired function declares 5. -/
example : wellFramedB exOps (adaptorBodyOld exOps "hello" exResp) = false ∧
    wellFramedB exOps (adaptorBody exOps "hello" exResp) = true := by decide

/-- Unrepaired `compress` (`fixes/C03-proxy-compression.patch`): the stale `ContentLength` (3) makes `FetchPayload`
read 3 of the 4 compressed bytes; repaired, it reads the whole stream. -/
example :
    (fetchPayload exOps 4194304 0 false (proxyCompressOld exOps 0 [] exResp)).map (·.payload) = some (.bytes [31, 1, 2]) ∧
    (fetchPayload exOps 4194304 0 false (proxyCompress exOps 0 [] exResp)).map (·.payload) = some (.bytes [31, 1, 2, 3]) := by
  decide

/-- Hop-by-hop example: `Connection: close, X-Foo` removes `X-Foo`, `Keep-Alive` goes, `X-A` stays. -/
example : cloneHeader id hopHeaders
    [("X-A", ["1"]), ("Connection", ["close, X-Foo"]), ("X-Foo", ["bar"]), ("Keep-Alive", ["3"]), ("X-A", ["2"])]
    = [("X-A", ["1"]), ("X-A", ["2"])] := by decide

example : addrIsHostName (fun s => s == "::1".toList) "[::1]:8080".toList = false ∧
    addrIsHostName (fun _ => false) "example.com:80".toList = true := by decide

/-! Memory cache, three identical cacheable GETs followed by a `compress: gzip` adaptor. With the
copy (`alias = false`, the code) all three responses are well-framed and equal; if a hit handed
out the entry's own header map (`alias = true`, the seeded defect C03-m3) the adaptor's edits of
hit #1 would stay in the entry and hit #2 would declare the gzip length over the plain body. -/
private def exCacheCfg : CacheCfg := ⟨[200], ["GET"], 100⟩
private def exQ : PoolReq (List Nat) := ⟨"httpa/GET", "GET", [], some exResp, ⟨500, [], -1, .bytes []⟩⟩

example : storable exOps exCacheCfg exQ.method exQ.hdr exResp = true := by decide

example :
    (runHistory exOps exCacheCfg false [{ compress := true }] [] [exQ, exQ, exQ]).map (wellFramedB exOps) = [true, true, true] ∧
    (runHistory exOps exCacheCfg true [{ compress := true }] [] [exQ, exQ, exQ]).map (wellFramedB exOps) = [true, true, false] ∧
    ((runHistory exOps exCacheCfg true [{ hadd := [("X-Added", "1")] }] [] [exQ, exQ, exQ]).map (·.hdr.get "X-Added"))
      = [["1"], ["1"], ["1", "1"]] := by decide

/-- non-vacuity: an interleaved history (two keys, a no-cache request, a failing backend) — all responses
well-framed, the cache's entries are snapshots. -/
example :
    let q1 : PoolReq (List Nat) := ⟨"k1", "GET", [], some ⟨200, [("Content-Length", ["3"])], 3, .bytes [1, 2, 3]⟩, ⟨500, [], -1, .bytes []⟩⟩
    let q2 : PoolReq (List Nat) := ⟨"k2", "GET", [], some ⟨200, [("Content-Length", ["1"])], 1, .bytes [9]⟩, ⟨500, [], -1, .bytes []⟩⟩
    let q3 : PoolReq (List Nat) := ⟨"k1", "GET", [("Cache-Control", ["no-cache"])], none, ⟨500, [], -1, .bytes []⟩⟩
    (runHistory exOps ⟨[200], ["GET"], 100⟩ false [{ compress := true }] [] [q1, q2, q1, q3, q2, q1]).map (wellFramedB exOps)
      = [true, true, true, true, true, true] := by decide


/-! non-vacuity for the end-to-end theorems: a concrete configuration (compression on, a ResponseAdaptor that
adds a header, IP server) and a coherent, honest backend reply meet every hypothesis of
`e2e_response_well_framed` (buffered) / `e2e_response_well_framed_stream` / `run_status_headers` /
`run_content_roundtrip`, and `run` really is a successful `.proxied` there. -/
private def exCfgE (poolMax : Int) : Cfg :=
  { server := ⟨"http://127.0.0.1:9", "127.0.0.1:9", false, false⟩, compression := some 0, pathMax := 0, serverMax := 0,
    poolMax := poolMax, proxyMax := 0, reqAd := none, respAd := some { hadd := [("X-Added", "1")] }, dflt := 4194304 }
private def exQE : ClientReq (List Nat) :=
  { method := "GET", escapedPath := "/a", rawQuery := "x=1", host := "client.example", hdr := [("Accept-Encoding", ["gzip"])],
    declared := 0, body := [] }
private def exReplyE : BackendReply (List Nat) := ⟨200, [("Content-Length", ["3"]), ("X-B", ["b"])], 3, [1, 2, 3]⟩

example : Coherent (⟨exReplyE.status, exReplyE.hdr, exReplyE.cl, .stream exReplyE.body⟩ : Resp (List Nat)) ∧
    HonestReply exOps exReplyE ∧ (∀ b : List Nat, exOps.take (exOps.len b) b = b) ∧
    0 ≤ Payload.normLimit (exCfgE 0).dflt (Payload.effLimit (exCfgE 0).poolMax (exCfgE 0).proxyMax) ∧
    Payload.normLimit (exCfgE (-1)).dflt (Payload.effLimit (exCfgE (-1)).poolMax (exCfgE (-1)).proxyMax) < 0 := by
  refine ⟨⟨by decide, by decide⟩, by intro _; decide, ?_, by decide, by decide⟩
  intro b; simp [exOps]

example : (match run exOps id (exCfgE 0) exQE exReplyE with
      | .proxied seen cl ok => (ok, seen.url, cl.status, wellFramedB exOps cl, cl.hdr.get "X-B", cl.hdr.get "X-Added", decoded exOps cl)
      | _ => (false, "", 0, false, [], [], none))
    = (true, "http://127.0.0.1:9/a?x=1", 200, true, ["b"], ["1"], some [1, 2, 3]) ∧
    (match run exOps id (exCfgE (-1)) exQE exReplyE with
      | .proxied _ cl ok => (ok, cl.status, cl.payload.isStream, wellFramedB exOps cl, decoded exOps cl)
      | _ => (false, 0, false, false, none))
    = (true, 200, true, true, some [1, 2, 3]) := ⟨by rfl, by rfl⟩


/-! ### HEAD and the RequestAdaptor `method:` section (open known finding `C03-head-method-adapted`)

Full statement (fails): *a client that sent HEAD is never sent body bytes*, i.e.
`q.method = "HEAD" → bodyOnWire ops (adaptReqLine σ esc a q).method r = 0` for every adaptor `a`. -/

/-- … proved when the adaptor leaves the method alone (or sets HEAD): net/http still knows the request was HEAD. -/
theorem head_response_bodyless_partial {β : Type} (ops : BodyOps β) (σ : Nat → String → String → String)
    (esc : String → String) (a : ReqLineAd) (q : ReqLine) (r : Resp β)
    (hq : q.method = "HEAD") (ha : a.method = "" ∨ a.method = "HEAD") :
    bodyOnWire ops (adaptReqLine σ esc a q).method r = 0 := by
  have hm : (adaptReqLine σ esc a q).method = "HEAD" := by
    rw [(adaptReqLine_method_host σ esc a q).1]
    rcases ha with ha | ha <;> simp [ha, hq]
  simp [bodyOnWire, hm]

/-- The excluded case is a genuine defect (reproduced over loopback, replay in corpus/C03/e2e.jsonl): `method: GET`
on a HEAD request makes `SetMethod` rewrite the very `*http.Request` net/http decides from, and the backend's 3 body
bytes go out to a client that expects none. -/
example : bodyOnWire exOps (adaptReqLine (fun _ p _ => p) id { method := "GET" } ⟨"HEAD", "/a", "/a", "h"⟩).method exResp = 3 := by
  decide


/-! ### Overlapping compressed responses: no gzip writer is ever shared -/

/-- Invariant of the code's reader lifecycle: every writer handed out so far is below `nextWriter`, and no two
readers have the same one. -/
theorem gz_inv (ops : List GzOp) (s : GzState) (hlt : ∀ w ∈ s.writers, w < s.nextWriter) (hnd : s.writers.Nodup) :
    (∀ w ∈ (ops.foldl (gzStep false) s).writers, w < (ops.foldl (gzStep false) s).nextWriter) ∧
    (ops.foldl (gzStep false) s).writers.Nodup := by
  induction ops generalizing s with
  | nil => exact ⟨hlt, hnd⟩
  | cons o t ih =>
    simp only [List.foldl_cons]
    cases o with
    | close rid => exact ih s hlt hnd
    | new =>
      apply ih
      · intro w hw
        simp only [gzStep, Bool.false_eq_true, if_false, List.mem_append, List.mem_singleton] at hw ⊢
        rcases hw with hw | hw
        · have := hlt w hw; omega
        · omega
      · simp only [gzStep, Bool.false_eq_true, if_false]
        rw [List.nodup_append]
        refine ⟨hnd, by simp, ?_⟩
        intro a ha b hb
        simp only [List.mem_singleton] at hb
        have := hlt a ha
        omega

/-- **No gzip writer is shared between two compress readers** — for every history of reader creations and `Close`
calls: any number of readers alive at the same time, every reader closed any number of times (the proxy closes each
compressed body at least twice), in any interleaving. So what one response's compressor writes can never end up in
another response. -/
theorem gzip_writers_never_shared (ops : List GzOp) (i j : Nat) (w : Nat)
    (hi : (gzRun false ops).writers[i]? = some w) (hj : (gzRun false ops).writers[j]? = some w) : i = j := by
  have h := (gz_inv ops {} (by intro w hw; simp at hw) (by simp)).2
  unfold gzRun at hi hj
  generalize (ops.foldl (gzStep false) {}).writers = l at h hi hj
  have hi' := List.getElem?_eq_some_iff.mp hi
  have hj' := List.getElem?_eq_some_iff.mp hj
  obtain ⟨hil, hiv⟩ := hi'
  obtain ⟨hjl, hjv⟩ := hj'
  exact (List.getElem_inj h).mp (hiv.trans hjv.symm)

/-- Facts that make `pooled = false` the right instance: `NewGZipCompressReader` allocates its own buffer and its own
`gzip.NewWriter(buff)`, the file has no package-level state besides `bodyFlushSize`, and `Close` mentions neither the
writer nor the buffer (so calling it twice is harmless). -/
theorem gzip_reader_facts :
    Gen.FactsC03.gzipWriterOwned = true ∧ Gen.FactsC03.gzipNoPackageState = true ∧
    Gen.FactsC03.gzipCloseStateless = true := ⟨rfl, rfl, rfl⟩

/-- The seeded defect C03-m5 in the model: one completed response closed twice puts its writer into the pool
twice, and the next two overlapping responses (readers 1 and 2) get the same writer. -/
example : (gzRun true [.new, .close 0, .close 0, .new, .new]).writers = [0, 0, 0] ∧
    (gzRun false [.new, .close 0, .close 0, .new, .new]).writers = [0, 1, 2] := by decide


/-! ### The judges' executable specifications accept the model (`observed = model ∧ model ⊨ spec ⇒ observed ⊨ spec`) -/

section accept
variable {β : Type} (ops : BodyOps β)

theorem hdr_get_del_eq (h : Hdr) (k k' : String) : Hdr.get (Hdr.del h k') k = if k = k' then [] else Hdr.get h k :=
  Hdr.get_del h k k'

theorem get_adaptHeader_congr (a : AdSpec) (h1 h2 : Hdr) (k : String) (h : h1.get k = h2.get k) :
    (adaptHeader a h1).get k = (adaptHeader a h2).get k := by
  unfold adaptHeader Hdr.delAll
  exact get_foldl_congr _ k (fun x y kv hxy => by rw [Hdr.get_add, Hdr.get_add, hxy]) _ _ _
    (get_foldl_congr _ k (fun x y kv hxy => by rw [Hdr.get_set, Hdr.get_set, hxy]) _ _ _
      (get_foldl_congr _ k (fun x y k' hxy => by rw [Hdr.get_del, Hdr.get_del, hxy]) _ _ _ h))

/-- **`e2e` / `unit` request side.** What `run` shows the backend meets `Spec.reqSideOK` against the request as the
RequestAdaptor left it: method, URL, Host (`expectedHost`) and the header specification (`headerViolation`, with any
list of skipped framing keys). Hypotheses the judge relies on, explicit: `canon` fixes the canonical hop names, and the
scenario's "server is IP-addressed" flag is the negation of what `checkAddrPattern` computed for the server URL. -/
theorem run_meets_backendSeenOK (canon : String → String) (cfg : Cfg) (q : ClientReq β) (m : ReqMsg β)
    (seen : BackendSeen β) (skip : List String) (serverIsIP : Bool)
    (hc : ∀ k ∈ hopHeaders, canon k = k) (hip : serverIsIP = !cfg.server.addrIsHostName)
    (h : prepare ops canon cfg q = .ready m seen) :
    let l : ReqLine := match cfg.reqAd with
      | none => ⟨q.method, q.path, q.escapedPath, q.host⟩
      | some _ => adaptReqLine cfg.σ cfg.esc cfg.reqLine ⟨q.method, q.path, q.escapedPath, q.host⟩
    Spec.reqSideOK canon l.method (targetURL cfg.server.url l.escapedPath q.rawQuery) m.hdr skip serverIsIP cfg.server.keepHost
      l.host cfg.server.hostPort seen.method seen.url seen.host seen.hdr = true := by
  have hs := prepare_ready ops h
  dsimp only at hs
  subst hs
  have hv := cloneHeader_meets_spec canon m.hdr hc skip
  simp [Spec.reqSideOK, hip, hv, hostSent, Spec.expectedHost]

/-- **`e2e` response side (and the misses of `hist`).** When the Proxy succeeds, the response leaving the pipeline meets
`Spec.clientSeenOK`: the backend's status, the backend's end-to-end header lines `H` after the configured
ResponseAdaptor header section, and correct framing. Explicit hypotheses (the generator's well-formedness): `H` is the
reply's header without the framing / encoding keys; neither `H` nor the adaptor's header section names
Content-Length / Content-Encoding / Vary; the response is well-framed (`e2e_response_well_framed` in buffered mode,
`e2e_response_well_framed_stream` for an honest backend). -/
theorem run_meets_clientSeenOK (canon : String → String) (cfg : Cfg) (q : ClientReq β) (reply : BackendReply β)
    (seen : BackendSeen β) (cl : Resp β) (H : Hdr)
    (hH : ∀ k, k ≠ keyCL → k ≠ keyCE → k ≠ keyVary → H.get k = reply.hdr.get k)
    (hE : ∀ k ∈ (match cfg.respAd with | none => H | some a => adaptHeader a H).map (fun e : String × List String => e.1),
      k ≠ keyCL ∧ k ≠ keyCE ∧ k ≠ keyVary)
    (hwf : WellFramed ops cl)
    (hr : run ops canon cfg q reply = .proxied seen cl true) :
    Spec.clientSeenOK reply.status (match cfg.respAd with | none => H | some a => adaptHeader a H)
      cl.status cl.hdr (ops.len cl.payload.content) = true := by
  obtain h | ⟨r2, hpr, hcl, _⟩ := run_proxied ops hr
  · exact absurd h.2.2 (by decide)
  · have hst := (run_status_headers ops canon cfg q reply seen cl hr).1
    have hfr : Spec.framedOKL (cl.hdr.get keyCL) (ops.len cl.payload.content) = true := by
      have := (wellFramedB_iff ops cl).mpr hwf
      simpa [Spec.framedOKL, wellFramedB] using this
    simp only [Spec.clientSeenOK, hst, beq_self_eq_true, Bool.true_and, hfr, Bool.and_true, Option.isNone_iff_eq_none]
    unfold Spec.respHeaderViolation
    rw [List.find?_eq_none]
    intro k hk
    obtain ⟨k1, k2, k3⟩ := hE k hk
    have hr2 := (proxyResp_status_hdr ops hpr).2 k k1 k2 k3
    simp only [bne_iff_ne, ne_eq, Decidable.not_not]
    subst hcl
    unfold downstream adaptorChain
    cases hra : cfg.respAd with
    | none => simp only [List.foldl_nil]; rw [hr2, hH k k1 k2 k3]
    | some a =>
      simp only [List.foldl_cons, List.foldl_nil]
      unfold adaptorHandle
      rw [(adaptorCore_status_hdr ops a _).2 k k1 k2]
      exact get_adaptHeader_congr a _ _ k (by rw [hr2, hH k k1 k2 k3])

/-- **`hist`.** Under the hypotheses of `cache_hits_equal_miss` every response of the history — the creating miss and
every later hit — meets `Spec.hitSameAsMiss` against the miss's response, on any set of header keys. -/
theorem hist_meets_cacheOK (cfg : CacheCfg) (as : List AdSpec) (c : Cache β) (qq : PoolReq β) (r : Resp β)
    (hmiss : cacheLoad cfg qq.key qq.method qq.hdr c = none) (hfresh : qq.fresh = some r)
    (hst : storable ops cfg qq.method qq.hdr r = true)
    (qs : List (PoolReq β)) (hsame : ∀ q' ∈ qs, q'.key = qq.key ∧ q'.method = qq.method ∧ q'.hdr = qq.hdr)
    (keys : List String) :
    ∀ resp ∈ runHistory ops cfg false as c (qq :: qs),
      Spec.hitSameAsMiss keys (adaptorChain ops as r).status (adaptorChain ops as r).hdr resp.status resp.hdr = true := by
  intro resp hr
  have hv := cache_hits_equal_miss ops cfg as c qq r hmiss hfresh hst qs hsame resp hr
  unfold Resp.view at hv
  simp only [Prod.mk.injEq] at hv
  simp [Spec.hitSameAsMiss, hv.1, hv.2.1]

/-- **`conc`.** Each of the overlapping compressed responses, taken alone in the model (no state is shared between
responses: `gzip_writers_never_shared`), meets `Spec.isolationOK`: its own backend's status, labelled `gzip`, and —
`run_content_roundtrip` — decoding to its own backend's body. Scenario class of the harness: Proxy `compression:`,
no adaptors, the client accepts gzip, the backend's reply is not labelled gzip and not shorter than `minLength`. -/
theorem conc_meets_isolationOK (canon : String → String) (cfg : Cfg) (q : ClientReq β) (reply : BackendReply β)
    (seen : BackendSeen β) (cl : Resp β) (ml : Nat)
    (hc : cfg.compression = some ml) (hra : cfg.respAd = none)
    (hdid : compressDid ml seen.hdr (transportReply ops q.method seen.hdr reply) = true)
    (hr : run ops canon cfg q reply = .proxied seen cl true) :
    Spec.isolationOK reply.status cl.status (cl.hdr.get keyCE) true = true := by
  obtain h | ⟨r2, hpr, hcl, _⟩ := run_proxied ops hr
  · exact absurd h.2.2 (by decide)
  · have hst := (run_status_headers ops canon cfg q reply seen cl hr).1
    have hd : downstream cfg = [] := by simp [downstream, hra]
    subst hcl
    simp only [hd, adaptorChain, List.foldl_nil] at hst ⊢
    have hce : r2.hdr.get keyCE = ["gzip"] := by
      have h1 : (compressed ops cfg seen.hdr (transportReply ops q.method seen.hdr reply)).hdr.get keyCE = ["gzip"] := by
        unfold compressed
        simp only [hc]
        unfold compressDid at hdid
        simp only [Bool.and_eq_true, Bool.not_eq_true'] at hdid
        unfold proxyCompress
        simp only [hdid.1.1, hdid.1.2, hdid.2, Bool.not_true, Bool.false_eq_true, if_false]
        rw [Hdr.get_add_other ne_CE_Vary, Hdr.get_set_same]
      rw [(fetchOrFail_status_hdr ops hpr).2]
      exact h1
    simp [Spec.isolationOK, hst, hce]

end accept

end EgVerif.C03
