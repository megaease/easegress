import EgVerif.Proofs.Signer
import EgVerif.Proofs.ValidatorIR
import EgVerif.Proofs.SignerIR
import EgVerif.Proofs.SignerCanonIR
import EgVerif.Proofs.SignerSignIR
import EgVerif.Proofs.SignerValueIR
import EgVerif.Gen.FactsC06
/-!
# C06 — the Validator admits exactly the requests with valid JWT, signature or Basic credentials

Property theorems about `Model/Validator.lean` (mirror of `Validator.Handle`, the header rules, the JWT token
source / key function, Basic credential parsing — **with the two repairs `fixes/C06-signature-body.patch` and
`fixes/C06-basic-colon.patch` applied**) and `Model/Signer.lean` (mirror of `signer.go`, with
`fixes/C06-signature-query-unparsed.patch` applied), for **all**
configurations, requests, keys, clocks and oracle answers. SHA-256 / HMAC are an opaque parameter
(`Signer.Crypto`); wherever collision-freeness is needed it is an explicit hypothesis of the theorem.
-/
namespace EgVerif.C06
open EgVerif.Sha256 (Bytes)
open EgVerif.Signer EgVerif.Validator

/-! ## 0. Facts regenerated from the source on every run (`harness/factextract/facts_c06.go`) -/
section Facts
open EgVerif.Gen

/-- `Validator.Handle` checks headers, JWT, signature, (OAuth2,) Basic in this order, answers 400 for the first
and 401 for the others, and only ever returns `resultInvalid = "invalid"` or `""` — the shape `handleWith` mirrors. -/
theorem facts_handle_shape :
    FactsC06.extractionFailed = false ∧
    FactsC06.handleOrder = ["headers", "jwt", "signer", "oauth2", "basicAuth"] ∧
    FactsC06.handleStatuses = ["http.StatusBadRequest", "http.StatusUnauthorized", "http.StatusUnauthorized",
      "http.StatusUnauthorized", "http.StatusUnauthorized"] ∧
    FactsC06.handleReturns = ["resultInvalid", "resultInvalid", "resultInvalid", "resultInvalid", "resultInvalid", "\"\""] ∧
    FactsC06.resultInvalid = "invalid" := ⟨rfl, rfl, rfl, rfl, rfl⟩

/-- the two defect patterns are absent from the tree being checked: `Verify` is not handed the drained `req.Std()`
(so `handle`, not `handleDrained`, is the model), and `parseCredentials` does not split at every colon
(`parseCreds`, not `parseCredsSplitAll`). Behaviour itself is checked by the correspondence run. -/
theorem facts_repairs_present :
    FactsC06.verifyGetsDrainedStd = false ∧ FactsC06.parseCredentialsSplitsAll = false := ⟨rfl, rfl⟩

/-- constants and default literals of `signer.go` are the ones the model uses -/
theorem facts_signer_constants :
    b FactsC06.authHeader = authHeader ∧ b FactsC06.hostHeader = hostHeader ∧
    b FactsC06.unsignedPayload = unsignedPayload ∧ b FactsC06.sha256Empty = sha256Empty ∧
    FactsC06.dateFormat = "20060102" ∧ FactsC06.timeFormat = "20060102T150405Z" ∧
    FactsC06.alwaysIgnored = ["Authorization", "User-Agent"] ∧
    b FactsC06.jwtPrefix = b "Bearer " ∧ b FactsC06.basicPrefix = b "Basic " ∧
    FactsC06.defaultLiteral.map b =
      [b "ScopeSuffix=" ++ defaultLiteral.scopeSuffix, b "AlgorithmName=" ++ defaultLiteral.algorithmName,
       b "AlgorithmValue=" ++ defaultLiteral.algorithmValue, b "SignedHeaders=" ++ defaultLiteral.signedHeaders,
       b "Signature=" ++ defaultLiteral.signature, b "Date=" ++ defaultLiteral.date, b "Expires=" ++ defaultLiteral.expires,
       b "Credential=" ++ defaultLiteral.credential, b "ContentSHA256=" ++ defaultLiteral.contentSha256,
       b "SigningKeyPrefix=" ++ defaultLiteral.signingKeyPrefix] :=
  -- the constants are the model's up to unfolding; only the `Field=value` strings have to be split by evaluation
  ⟨rfl, rfl, rfl, rfl, rfl, rfl, rfl, rfl, rfl, by decide +kernel⟩

/-- the canonical request and the string to sign are assembled in the order `canonicalRequest` / `stringToSign`
use; `Verify` recomputes the body hash itself (`hashBody(req, true)`), reads the clock once, and fails in the
order expired → unknown key → mismatch. -/
theorem facts_signer_shape :
    FactsC06.canonicalRequestWrites = ["req.Method", "'\\n'", "buildCanonicalURI(req.URL)", "'\\n'",
      "ctx.getCanonicalQuery(req.URL)", "'\\n'", "ctx.CanonicalHeaders", "'\\n'", "ctx.SignedHeaders", "'\\n'", "ctx.BodyHash"] ∧
    FactsC06.stringToSignWrites = ["ctx.literal.AlgorithmValue", "'\\n'", "formatTime(ctx.Time)", "'\\n'",
      "ctx.scopeString", "'\\n'", "hcr"] ∧
    FactsC06.verifyErrors = ["signature expired", "signature expired", "access-key-id not found",
      "signature verification failed"] ∧
    FactsC06.verifyIgnoresBodyHashHeader = true ∧ FactsC06.verifyClockReads = 1 := ⟨rfl, rfl, rfl, rfl, rfl⟩

end Facts

/-! ## 1. `Handle`: conjunction of the configured methods, 400 / 401 -/

/-- What "every configured method accepts the request" means. -/
structure Accepts (cfg : Validator.Cfg) (env : Env) (r : Request) : Prop where
  /-- header rules: (the first value of) every configured header is listed or matches the regexp -/
  rules : ∀ rules, cfg.headers = some rules → ∀ rule ∈ rules, ruleOK env.re r.std.headers rule = true
  /-- JWT: the presented token names the configured algorithm, verifies under the configured secret
  with that algorithm, and its claims are currently valid -/
  jwt : ∀ j, cfg.jwt = some j → ∃ t, jwtToken j env.cookie r.std.headers = some t ∧
    env.jwtLib.headerAlg t = some j.alg ∧ env.jwtLib.claimsOK t = true ∧ env.jwtLib.sigOK t j.alg j.secret = true
  /-- signature: `Verify` succeeds for the payload that will be forwarded -/
  sig : ∀ s, cfg.sig = some s → verify s env.crypto env.clock env.now r.std (some r.payload) = .ok ()
  /-- OAuth2 validator in JWT mode: the bearer token names the configured algorithm, verifies under the configured secret with
  that algorithm, and its claims are currently valid -/
  oauth2 : ∀ o, cfg.oauth2 = some o → ∃ t, hget r.std.headers authHeader = b "Bearer " ++ t ∧
    env.jwtLib.headerAlg t = some o.alg ∧ env.jwtLib.claimsOK t = true ∧ env.jwtLib.sigOK t o.alg o.secret = true
  /-- Basic: `Authorization: Basic base64(user ":" password)`, user id up to the first colon, pair configured -/
  basic : cfg.basic = true → ∃ tok u p, hget r.std.headers authHeader = b "Basic " ++ tok ∧
    Sha256.b64Decode tok = some (u ++ 58 :: p) ∧ 58 ∉ u ∧ env.users u p = true

/-- what `Accepts.rules` means without the model function: the header is present and its **first** value
is one of the listed values or matches the compiled regular expression -/
theorem header_rule_iff (re : Bytes → Bytes → Bool) (h : Header) (r : HeaderRule) :
    ruleOK re h r = true ↔ ∃ v vs, hvals h (canonKey r.key) = v :: vs ∧ (v ∈ r.values ∨ ∃ p, r.regexp = some p ∧ re p v = true) := by
  unfold ruleOK
  cases hv : hvals h (canonKey r.key) with
  | nil => simp
  | cons v vs =>
    cases hr : r.regexp with
    | none => simp
    | some p => simp

theorem jwtOK_iff (j : JwtCfg) (env : Env) (h : Header) :
    Spec.jwtOK j env h = true ↔ ∃ t, jwtToken j env.cookie h = some t ∧
      env.jwtLib.headerAlg t = some j.alg ∧ env.jwtLib.claimsOK t = true ∧ env.jwtLib.sigOK t j.alg j.secret = true := by
  unfold Spec.jwtOK
  cases jwtToken j env.cookie h with
  | none => simp
  | some t => simp [and_assoc]

theorem sigValidate_iff (s : Signer.Cfg) (env : Env) (r : Request) (body : Option Bytes) :
    sigValidate s env r body = true ↔ verify s env.crypto env.clock env.now r.std body = .ok () := by
  unfold sigValidate
  cases verify s env.crypto env.clock env.now r.std body with
  | ok u => simp
  | error e => simp

/-- Basic authentication writes user `u` to `X-AUTH-USER` (accepts) iff the header is
`Basic ` followed by the base64 of `u:p` where `u` contains no colon and `(u, p)` is a configured pair —
for every `p`, colons included. -/
theorem basic_accept_iff (users : Bytes → Bytes → Bool) (h : Header) (u : Bytes) :
    basicValidate users h = some u ↔ ∃ tok p, hget h authHeader = b "Basic " ++ tok ∧
      Sha256.b64Decode tok = some (u ++ 58 :: p) ∧ 58 ∉ u ∧ users u p = true := by
  unfold basicValidate basicValidateWith parseBasicAuthorizationHeader
  constructor
  · intro hv
    cases hs : stripPrefix (b "Basic ") (hget h authHeader) with
    | none => simp [hs] at hv
    | some tok =>
      simp only [hs] at hv
      cases hd : Sha256.b64Decode tok with
      | none => simp [hd] at hv
      | some creds =>
        simp only [hd] at hv
        cases hp : parseCreds creds with
        | none => simp [hp] at hv
        | some up =>
          obtain ⟨u', p⟩ := up
          simp only [hp] at hv
          by_cases hm : users u' p = true
          · simp [hm] at hv
            subst hv
            have := splitFirst_eq_some.mp hp
            exact ⟨tok, p, stripPrefix_eq_some.mp hs, by rw [hd, this.1], this.2, hm⟩
          · simp [hm] at hv
  · rintro ⟨tok, p, h1, h2, h3, h4⟩
    have hp : parseCreds (u ++ 58 :: p) = some (u, p) := splitFirst_append p h3
    simp [stripPrefix_eq_some.mpr h1, h2, hp, h4]

theorem oauthOK_iff (o : JwtCfg) (env : Env) (h : Header) :
    Spec.jwtOK ⟨o.alg, o.secret, []⟩ { env with cookie := fun _ => none } h = true ↔
      ∃ t, hget h authHeader = b "Bearer " ++ t ∧
        env.jwtLib.headerAlg t = some o.alg ∧ env.jwtLib.claimsOK t = true ∧ env.jwtLib.sigOK t o.alg o.secret = true := by
  rw [jwtOK_iff]
  simp only [jwtToken, ne_eq, not_true_eq_false, if_false, stripPrefix_eq_some]

theorem accepts_iff (cfg : Validator.Cfg) (env : Env) (r : Request) : Spec.accepts cfg env r = true ↔ Accepts cfg env r := by
  unfold Spec.accepts Spec.rulesOK
  simp only [Bool.and_eq_true]
  constructor
  · rintro ⟨⟨⟨⟨h1, h2⟩, h3⟩, h5⟩, h4⟩
    refine ⟨?_, ?_, ?_, ?_, ?_⟩
    · intro rules e rule hr
      rw [e] at h1
      exact (List.all_eq_true.mp h1) rule hr
    · intro j e
      rw [e] at h2
      exact (jwtOK_iff j env _).mp h2
    · intro s e
      rw [e] at h3
      exact (sigValidate_iff s env r _).mp h3
    · intro o e
      rw [e] at h5
      exact (oauthOK_iff o env _).mp h5
    · intro hb
      simp only [hb, Bool.not_true, Bool.false_or] at h4
      rw [← basicValidate_eq_spec] at h4
      obtain ⟨u, hu⟩ := Option.isSome_iff_exists.mp h4
      obtain ⟨tok, p, hh⟩ := (basic_accept_iff env.users _ u).mp hu
      exact ⟨tok, u, p, hh⟩
  · intro a
    refine ⟨⟨⟨⟨?_, ?_⟩, ?_⟩, ?_⟩, ?_⟩
    · cases e : cfg.headers with
      | none => rfl
      | some rules => exact List.all_eq_true.mpr (a.rules rules e)
    · cases e : cfg.jwt with
      | none => rfl
      | some j => exact (jwtOK_iff j env _).mpr (a.jwt j e)
    · cases e : cfg.sig with
      | none => rfl
      | some s => exact (sigValidate_iff s env r _).mpr (a.sig s e)
    · cases e : cfg.oauth2 with
      | none => rfl
      | some o => exact (oauthOK_iff o env _).mpr (a.oauth2 o e)
    · cases e : cfg.basic with
      | false => rfl
      | true =>
        obtain ⟨tok, u, p, hh⟩ := a.basic e
        have := (basic_accept_iff env.users _ u).mpr ⟨tok, p, hh⟩
        rw [basicValidate_eq_spec] at this
        simp [this]

/-- `Validator.Handle` returns `""` (the request goes on) iff every configured method
accepts the request — soundness and completeness of the filter in one statement. -/
theorem handle_iff_all (cfg : Validator.Cfg) (env : Env) (r : Request) : handle cfg env r = .pass ↔ Accepts cfg env r := by
  rw [handle_eq_expected, ← accepts_iff]
  unfold Spec.expected
  by_cases h : Spec.accepts cfg env r = true
  · simp [h]
  · rw [if_neg h]
    constructor
    · intro e; split at e <;> simp at e
    · intro a; exact absurd a h

/-- a rejected request gets result `invalid` with status 400 exactly when a header rule
fails, 401 otherwise; nothing else is ever produced. -/
theorem handle_status (cfg : Validator.Cfg) (env : Env) (r : Request) :
    handle cfg env r = .pass ∨
    (handle cfg env r = .invalid 400 ∧ Spec.rulesOK cfg env r = false) ∨
    (handle cfg env r = .invalid 401 ∧ Spec.rulesOK cfg env r = true ∧ ¬ Accepts cfg env r) := by
  rw [handle_eq_expected, ← accepts_iff]
  unfold Spec.expected
  by_cases h : Spec.accepts cfg env r = true
  · simp [h]
  · by_cases h2 : Spec.rulesOK cfg env r = true <;> simp [h, h2]

/-- the header rules are checked first: a request violating one is answered 400 whatever else it carries -/
theorem headers_first (cfg : Validator.Cfg) (env : Env) (r : Request) (h : Spec.rulesOK cfg env r = false) :
    handle cfg env r = .invalid 400 := by
  rw [handle_eq_expected]
  unfold Spec.expected Spec.accepts
  simp [h]

-- non-vacuity: a configuration with all four methods, a request that is accepted / rejected
section Example
def exEnv (sigOK basicOK : Bool) : Env :=
  { re := fun _ _ => false, jwtLib := ⟨fun _ => some (b "HS256"), fun _ => true, fun _ _ _ => true⟩,
    cookie := fun _ => none, crypto := ⟨fun x => x, fun _ x => x⟩,
    clock := ⟨fun _ => [], fun _ => [], fun _ => if sigOK then some 0 else none, fun _ => some 0⟩, now := 0,
    users := fun _ _ => basicOK }
def exReq : Request :=
  { std := ⟨b "GET", b "/", [], [(b "X-Env", [b "prod"]), (b "Authorization", [b "Bearer x"])], b "a", [], [], false⟩, payload := [] }
def exCfg : Validator.Cfg := { headers := some [⟨b "x-env", [b "prod"], none⟩], jwt := some ⟨b "HS256", [], []⟩, sig := none, basic := false }
example : handle exCfg (exEnv true true) exReq = .pass := by decide +kernel
example : handle { exCfg with basic := true } (exEnv true true) exReq = .invalid 401 := by decide +kernel
example : handle { exCfg with headers := some [⟨b "x-env", [b "stage"], none⟩] } (exEnv true true) exReq = .invalid 400 := by decide +kernel
-- OAuth2 validator in JWT mode: same bearer token, configured algorithm HS256 accepted / HS512 rejected (the toy library
-- reports header alg HS256)
example : handle { exCfg with oauth2 := some ⟨b "HS256", [], []⟩ } (exEnv true true) exReq = .pass := by decide +kernel
example : handle { exCfg with oauth2 := some ⟨b "HS512", [], []⟩ } (exEnv true true) exReq = .invalid 401 := by decide +kernel
end Example

/-! ## 2. Basic credentials -/

/-- for a user id without colon, `parseCredentials(u ++ ":" ++ p)` returns exactly
`(u, p)` for **every** password `p` — colons and non-ASCII bytes included. -/
theorem basic_parse_roundtrip (u p : Bytes) (hu : 58 ∉ u) : parseCreds (u ++ 58 :: p) = some (u, p) :=
  splitFirst_append p hu

/-- completeness of Basic authentication: the standard encoding of a configured pair is accepted -/
theorem basic_complete (users : Bytes → Bytes → Bool) (h : Header) (u p : Bytes) (hu : 58 ∉ u)
    (hup : users u p = true) (hh : hget h authHeader = b "Basic " ++ Sha256.b64Encode (u ++ 58 :: p)) :
    basicValidate users h = some u :=
  (basic_accept_iff users h u).mpr ⟨_, p, hh, Sha256.b64_roundtrip _, hu, hup⟩

/-- soundness towards the password: if a request is accepted as user `u`, the bytes after the first colon
of the decoded credentials are a password configured for `u` — so changing any byte of the password of an
accepted request to a non-configured one is rejected. -/
theorem basic_password_covered (users : Bytes → Bytes → Bool) (h : Header) (u tok creds : Bytes)
    (hv : basicValidate users h = some u) (hh : hget h authHeader = b "Basic " ++ tok)
    (hd : Sha256.b64Decode tok = some creds) : ∃ p, creds = u ++ 58 :: p ∧ users u p = true := by
  obtain ⟨tok', p, h1, h2, _, h4⟩ := (basic_accept_iff users h u).mp hv
  have : tok' = tok := by
    have := h1.symm.trans hh
    exact List.append_cancel_left this
  subst this
  rw [hd] at h2
  exact ⟨p, Option.some.inj h2, h4⟩

-- the unrepaired `parseCredentials` (`strings.Split`, `parts[1]`) truncates the password at its first colon:
example : parseCredsSplitAll (b "user:pa:ss") = some (b "user", b "pa") := by decide +kernel
example : parseCreds (b "user:pa:ss") = some (b "user", b "pa:ss") := by decide +kernel
-- … so with it a valid user is rejected and `user:pa:junk` is accepted for password `pa`
example : basicValidateWith parseCredsSplitAll (fun u p => u = b "user" && p = b "pa:ss")
    [(b "Authorization", [b "Basic dXNlcjpwYTpzcw=="])] = none := by decide +kernel
example : basicValidateWith parseCredsSplitAll (fun u p => u = b "user" && p = b "pa")
    [(b "Authorization", [b "Basic dXNlcjpwYTpqdW5r"])] = some (b "user") := by decide +kernel
example : basicValidate (fun u p => u = b "user" && p = b "pa:ss")
    [(b "Authorization", [b "Basic dXNlcjpwYTpzcw=="])] = some (b "user") := by decide +kernel

/-! ### 2b. Basic credentials across generations of the filter (hot update; seeded change C06-m5)

Every `Inherit` builds a fresh user cache with its own watcher / syncer, `Pipeline.Inherit` closes the previous generation: so
whatever generation answers, a request is checked against the **current** content of the htpasswd file / etcd prefix. -/

/-- for every history of inherits (+ close of the previous generation), updates of the user
table and requests, every request is answered from the table current at that moment. -/
theorem basic_history_current_table (t : UserTable) (ops : List GenOp) : genRun false ⟨t, t, true⟩ ops = genSpec t ops := by
  induction ops generalizing t with
  | nil => rfl
  | cons op r ih =>
    cases op with
    | inherit => simpa only [genRun, genStep, Bool.false_eq_true, if_false, genSpec] using ih t
    | update t' => simpa only [genRun, genStep, if_true, genSpec] using ih t'
    | req u p => simp only [genRun, genStep, genSpec, ih t]

/-- … combined with `basic_accept_iff`: a request is accepted as user `u` iff it carries `Basic base64(u:p)` with `(u, p)` in the
table the cache holds — which by `basic_history_current_table` is the current one. -/
theorem basic_accept_current_table (t : UserTable) (h : Header) (u : Bytes) :
    basicValidate (tableMatch t) h = some u ↔ ∃ tok p, hget h authHeader = b "Basic " ++ tok ∧
      Sha256.b64Decode tok = some (u ++ 58 :: p) ∧ 58 ∉ u ∧ tableMatch t u p = true :=
  basic_accept_iff (tableMatch t) h u

/-- contrast (the semantics of seeded change C06-m5: the new generation shares the previous generation's cache, which the
previous generation's `Close` stops): after one inherit a removed user is still admitted and a changed password refused -/
theorem shared_cache_serves_stale_table :
    genRun true ⟨[(b "bob", b "old")], [(b "bob", b "old")], true⟩
      [.inherit, .update [(b "bob", b "new")], .req (b "bob") (b "old"), .req (b "bob") (b "new")] = [true, false] ∧
    genRun false ⟨[(b "bob", b "old")], [(b "bob", b "old")], true⟩
      [.inherit, .update [(b "bob", b "new")], .req (b "bob") (b "old"), .req (b "bob") (b "new")] = [false, true] := by decide +kernel

/-! ## 3. JWT: token source and algorithm pinning -/

/-- the token is the named cookie's value when a cookie name is configured and that cookie
exists with a non-empty value; in every other case it is what follows `Bearer ` in the Authorization header
(and there is no token at all if the header does not start with `Bearer `). -/
theorem jwt_source (c : JwtCfg) (cookie : Bytes → Option Bytes) (h : Header) :
    (∀ v, c.cookieName ≠ [] → cookie c.cookieName = some v → v ≠ [] → jwtToken c cookie h = some v) ∧
    ((c.cookieName = [] ∨ cookie c.cookieName = none ∨ cookie c.cookieName = some []) →
      ∀ t, jwtToken c cookie h = some t ↔ hget h authHeader = b "Bearer " ++ t) := by
  constructor
  · intro v h1 h2 h3
    simp [jwtToken, h1, h2, h3]
  · intro hc t
    have : (if c.cookieName ≠ [] then (cookie c.cookieName).getD [] else []) = [] := by
      rcases hc with h | h | h <;> simp [h]
    simp only [jwtToken, this, ne_eq, not_true_eq_false, if_false]
    exact stripPrefix_eq_some

/-- a token is accepted only if its header names exactly the configured algorithm and
its signature verifies with *that* algorithm under the configured secret (no `none`, no downgrade to another
HS variant), and its claims are valid; conversely every such token is accepted. -/
theorem jwt_alg_pinned (c : JwtCfg) (lib : JwtLib) (cookie : Bytes → Option Bytes) (h : Header) :
    jwtValidate c lib cookie h = true ↔ ∃ t, jwtToken c cookie h = some t ∧ lib.headerAlg t = some c.alg ∧
      lib.claimsOK t = true ∧ lib.sigOK t c.alg c.secret = true := by
  unfold jwtValidate
  cases jwtToken c cookie h with
  | none => simp
  | some t => simp [jwtParse_keyFunc, and_assoc]

example : jwtValidate ⟨b "HS256", [1], []⟩ ⟨fun _ => some (b "none"), fun _ => true, fun _ _ _ => true⟩ (fun _ => none)
    [(b "Authorization", [b "Bearer x.y."])] = false := by decide +kernel

/-! ### 3b. "currently valid": the registered time claims `exp` / `nbf` / `iat`

`JwtLib.claimsOK` is instantiated by `claimsOKAt now claims` (`Model/Validator.lean`): golang-jwt's `MapClaims.Valid`
on the decoded claims, at `now = jwt.TimeFunc().Unix()`; `claims` (base64url + JSON decoding of the claims segment) stays
an oracle — the judge's own parser. A claim is a `ClaimVal`: absent, a JSON number `m · 10⁻ᵉ` in **any spelling**
(integer, fraction, exponent form), or a value of another JSON type. -/

/-- `MapClaims.Valid` spelled out (seconds = the number truncated toward zero; `0` and non-numbers count as absent) -/
theorem jwt_time_claims_iff (now : Int) (c : TimeClaims) :
    timeClaimsOK now c = true ↔ (c.exp.secs = 0 ∨ now ≤ c.exp.secs) ∧ (c.iat.secs = 0 ∨ c.iat.secs ≤ now) ∧
      (c.nbf.secs = 0 ∨ c.nbf.secs ≤ now) := by
  simp [timeClaimsOK, and_assoc]

/-- the whole-second test on `exp` is the exact comparison of the integer clock with the rational NumericDate -/
theorem jwt_exp_exact (now m : Int) (e : Nat) (hm : 0 ≤ m) :
    now ≤ (ClaimVal.num m e).secs ↔ now * (10 : Int) ^ e ≤ m := by
  simp only [ClaimVal.secs]
  rw [Int.tdiv_eq_ediv_of_nonneg hm]
  exact Int.le_ediv_iff_mul_le (pow10_pos e)

/-- `nbf` / `iat` hold from the whole second that contains them (`nbf < now + 1`): exact for integer NumericDates, less
than one second early for fractional ones (golang-jwt truncates) -/
theorem jwt_nbf_whole_second (now m : Int) (e : Nat) (hm : 0 ≤ m) :
    (ClaimVal.num m e).secs ≤ now ↔ m < (now + 1) * (10 : Int) ^ e := by
  simp only [ClaimVal.secs]
  rw [Int.tdiv_eq_ediv_of_nonneg hm, ← Int.lt_add_one_iff]
  exact Int.ediv_lt_iff_lt_mul (pow10_pos e)

/-- the decision depends on the number, not on how it is written (`1790738249.5` = `17907382495e-1`, `1.0e9` = `1000000000`) -/
theorem jwt_numeric_spelling_invariant (m m' : Int) (e e' : Nat) (h : m * (10 : Int) ^ e' = m' * (10 : Int) ^ e) :
    (ClaimVal.num m e).secs = (ClaimVal.num m' e').secs := by
  simp only [ClaimVal.secs]
  have he := pow10_pos e
  have he' := pow10_pos e'
  have h1 : Int.tdiv (m * (10 : Int) ^ e') ((10 : Int) ^ e * (10 : Int) ^ e') = Int.tdiv m ((10 : Int) ^ e) :=
    Int.mul_tdiv_mul_of_pos_left m ((10 : Int) ^ e) he'
  have h2 : Int.tdiv (m' * (10 : Int) ^ e) ((10 : Int) ^ e' * (10 : Int) ^ e) = Int.tdiv m' ((10 : Int) ^ e') :=
    Int.mul_tdiv_mul_of_pos_left m' ((10 : Int) ^ e') he
  rw [← h1, ← h2, h, Int.mul_comm ((10 : Int) ^ e) ((10 : Int) ^ e')]

/-- an accepted token's registered time claims are valid at `now` (the converse of `jwt_time_valid_accepted`) -/
theorem jwt_accepted_time_claims {c : JwtCfg} {lib : JwtLib} {cookie : Bytes → Option Bytes} {h : Header} {now : Int}
    {claims : Bytes → Option TimeClaims} {t : Bytes} {tc : TimeClaims}
    (hlib : lib.claimsOK = claimsOKAt now claims) (ht : jwtToken c cookie h = some t) (hc : claims t = some tc)
    (hv : jwtValidate c lib cookie h = true) : timeClaimsOK now tc = true := by
  obtain ⟨t', h1, _, h3, _⟩ := (jwt_alg_pinned c lib cookie h).mp hv
  rw [ht] at h1
  cases h1
  rw [hlib] at h3
  simpa only [claimsOKAt, hc] using h3

/-- a token whose `exp` is a NumericDate in the past (`exp < now`, exact rational comparison; not
one of the values golang-jwt reads as "absent", i.e. integer part ≠ 0) is rejected — whatever the spelling of the number,
whatever else the token carries, even with a correct signature. -/
theorem jwt_expired_rejected (c : JwtCfg) (lib : JwtLib) (cookie : Bytes → Option Bytes) (h : Header) (now : Int)
    (claims : Bytes → Option TimeClaims) (t : Bytes) (tc : TimeClaims) (m : Int) (e : Nat)
    (hlib : lib.claimsOK = claimsOKAt now claims) (ht : jwtToken c cookie h = some t) (hc : claims t = some tc)
    (hexp : tc.exp = .num m e) (hm : 0 ≤ m) (hpresent : (ClaimVal.num m e).secs ≠ 0) (hpast : m < now * (10 : Int) ^ e) :
    jwtValidate c lib cookie h = false := by
  cases hv : jwtValidate c lib cookie h with
  | false => rfl
  | true =>
    have := ((jwt_time_claims_iff now tc).mp (jwt_accepted_time_claims hlib ht hc hv)).1
    rw [hexp] at this
    rcases this with h0 | hle
    · exact absurd h0 hpresent
    · have := (jwt_exp_exact now m e hm).mp hle
      omega

/-- a token whose `nbf` lies a full second or more in the future is rejected, in every
numeric spelling. -/
theorem jwt_not_yet_valid_rejected (c : JwtCfg) (lib : JwtLib) (cookie : Bytes → Option Bytes) (h : Header) (now : Int)
    (claims : Bytes → Option TimeClaims) (t : Bytes) (tc : TimeClaims) (m : Int) (e : Nat)
    (hlib : lib.claimsOK = claimsOKAt now claims) (ht : jwtToken c cookie h = some t) (hc : claims t = some tc)
    (hnbf : tc.nbf = .num m e) (hm : 0 ≤ m) (hpresent : (ClaimVal.num m e).secs ≠ 0)
    (hfuture : (now + 1) * (10 : Int) ^ e ≤ m) :
    jwtValidate c lib cookie h = false := by
  cases hv : jwtValidate c lib cookie h with
  | false => rfl
  | true =>
    have := ((jwt_time_claims_iff now tc).mp (jwt_accepted_time_claims hlib ht hc hv)).2.2
    rw [hnbf] at this
    rcases this with h0 | hle
    · exact absurd h0 hpresent
    · have := (jwt_nbf_whole_second now m e hm).mp hle
      omega

/-- completeness: a token naming the configured algorithm, correctly signed, whose `exp` (if
present) is not before `now` and whose `nbf` / `iat` (if present) are not after `now` is accepted. -/
theorem jwt_time_valid_accepted (c : JwtCfg) (lib : JwtLib) (cookie : Bytes → Option Bytes) (h : Header) (now : Int)
    (claims : Bytes → Option TimeClaims) (t : Bytes) (tc : TimeClaims)
    (hlib : lib.claimsOK = claimsOKAt now claims) (ht : jwtToken c cookie h = some t) (hc : claims t = some tc)
    (halg : lib.headerAlg t = some c.alg) (hsig : lib.sigOK t c.alg c.secret = true)
    (hexp : tc.exp = .absent ∨ ∃ m e, tc.exp = .num m e ∧ 0 ≤ m ∧ now * (10 : Int) ^ e ≤ m)
    (hiat : tc.iat = .absent ∨ ∃ m e, tc.iat = .num m e ∧ 0 ≤ m ∧ m ≤ now * (10 : Int) ^ e)
    (hnbf : tc.nbf = .absent ∨ ∃ m e, tc.nbf = .num m e ∧ 0 ≤ m ∧ m ≤ now * (10 : Int) ^ e) :
    jwtValidate c lib cookie h = true := by
  refine (jwt_alg_pinned c lib cookie h).mpr ⟨t, ht, halg, ?_, hsig⟩
  rw [hlib]
  simp only [claimsOKAt, hc]
  -- `iat` and `nbf` alike: absent, or a number not after `now`
  have early : ∀ v : ClaimVal, (v = .absent ∨ ∃ m e, v = .num m e ∧ 0 ≤ m ∧ m ≤ now * (10 : Int) ^ e) →
      v.secs = 0 ∨ v.secs ≤ now := by
    rintro v (rfl | ⟨m, e, rfl, hm, hle⟩)
    · exact Or.inl rfl
    · refine Or.inr ((jwt_nbf_whole_second now m e hm).mpr ?_)
      have := pow10_pos e
      have : now * (10 : Int) ^ e < (now + 1) * (10 : Int) ^ e := by
        rw [Int.add_mul]
        omega
      omega
  refine (jwt_time_claims_iff now tc).mpr ⟨?_, early _ hiat, early _ hnbf⟩
  rcases hexp with h0 | ⟨m, e, h1, hm, hle⟩
  · rw [h0]
    exact Or.inl rfl
  · rw [h1]
    exact Or.inr ((jwt_exp_exact now m e hm).mpr hle)

-- non-vacuity: `exp = 1790738249.5` written as `17907382495e-1`, at now = 1790738250 (expired) / 1790738249 (valid);
-- a string-typed or zero `exp` is read as "absent" by golang-jwt (observation (h) in notes/C06.md)
example : timeClaimsOK 1790738250 ⟨.num 17907382495 1, .absent, .absent⟩ = false := by decide +kernel
example : timeClaimsOK 1790738249 ⟨.num 17907382495 1, .absent, .num 1790738249 0⟩ = true := by decide +kernel
example : timeClaimsOK 1790738250 ⟨.other, .absent, .absent⟩ = true := by decide +kernel
example : (ClaimVal.num 17907382495 1).secs = (ClaimVal.num 1790738249500 3).secs :=
  jwt_numeric_spelling_invariant _ _ _ _ (by decide)

/-! ## 4. API signature: `Sign` → `Verify` completeness

`Crypto` (SHA-256 hex digest, HMAC-SHA256) is an opaque parameter in all theorems of this and the next
section; the judge instantiates it with the executable `Model/Sha256.lean`, which is checked against the FIPS /
RFC 4231 vectors and, by every correspondence run, against `crypto/sha256` + `crypto/hmac`. -/

theorem defaultLiteral_ok : LitOK defaultLiteral :=
  ⟨by decide +kernel, by unfold Clean; decide +kernel, by unfold KeyOK Clean; decide +kernel, by unfold KeyOK Clean; decide +kernel,
   by decide +kernel⟩

/-- for every configuration, method, path, multi-valued query, header set, host and
body, a request signed by `Sign` with an access key of the store at time `t` verifies at any `now` within the TTL
window — *against the body the backend will receive* (`body.getD []`: what reading the payload yields, also when
the signer saw `Body == nil`).

Hypotheses (all explicit): the key is in the store; the standard-library clock contract `ClockOK`; the literals
are sane (`LitOK`, true for the defaults); key id and scopes contain no white space / `,` / `/` / `;` (they are
written unescaped into the Authorization header); the header map is what net/http produces (`HeaderOK`: distinct
canonical token keys, no `Host` key); the caller did not pre-set the content-hash header; the hash of the empty
string is the constant the Go code hard-wires (`sha256Empty`, checked for the executable SHA-256 by `#guard`); and the raw
query parses completely (`queryErr = false`: no pair with `;` or a bad escape — since fixes/C06-signature-query-unparsed.patch
`Sign` refuses to sign and `Verify` refuses to accept such a query). -/
theorem verify_sign_complete (cfg : Signer.Cfg) (cr : Crypto) (clock : Clock) (now t t' : Int) (keyId secret : Bytes)
    (scopes : List Bytes) (req : Req) (body : Option Bytes)
    (hstore : storeGet keyId cfg.store = some secret)
    (hclock : ClockOK clock t t') (hlit : LitOK cfg.lit)
    (httl : cfg.ttl > 0 → -cfg.ttl ≤ now - t' ∧ now - t' ≤ cfg.ttl)
    (hid : Clean keyId) (hsc : ∀ s ∈ scopes, Clean s)
    (hok : HeaderOK req.headers) (hnone : hget req.headers cfg.lit.contentSha256 = [])
    (hempty : cr.sha256hex [] = sha256Empty) (hq : req.queryErr = false) :
    verify cfg cr clock now (sign cfg cr clock keyId secret t scopes req body) (some (body.getD [])) = .ok () := by
  obtain ⟨hbh, hok1⟩ := hashBodySign_spec cfg cr req.headers body hempty hnone hok hlit.content
  unfold sign
  simp only [hbh]
  exact verify_signWith cfg cr clock now t t' keyId secret scopes _ _ hstore hclock hlit httl hid hsc
    (HeaderOK_hset _ _ hok1 hlit.date) (hget_hset_same _ _ _) hq

/-- … and therefore the (repaired) Validator lets the correctly signed request through with exactly the payload
that was signed. -/
theorem handle_accepts_signed (s : Signer.Cfg) (env : Env) (t t' : Int) (keyId secret : Bytes)
    (scopes : List Bytes) (req : Req) (body : Option Bytes)
    (hstore : storeGet keyId s.store = some secret)
    (hclock : ClockOK env.clock t t') (hlit : LitOK s.lit)
    (httl : s.ttl > 0 → -s.ttl ≤ env.now - t' ∧ env.now - t' ≤ s.ttl)
    (hid : Clean keyId) (hsc : ∀ x ∈ scopes, Clean x)
    (hok : HeaderOK req.headers) (hnone : hget req.headers s.lit.contentSha256 = [])
    (hempty : env.crypto.sha256hex [] = sha256Empty) (hq : req.queryErr = false) :
    handle { headers := none, jwt := none, sig := some s, basic := false } env
      ⟨sign s env.crypto env.clock keyId secret t scopes req body, body.getD []⟩ = .pass := by
  rw [handle_iff_all]
  refine ⟨by simp, by simp, ?_, by simp, by simp⟩
  intro s' hs'
  simp only [Option.some.injEq] at hs'
  subst hs'
  exact verify_sign_complete s env.crypto env.clock env.now t t' keyId secret scopes req body hstore hclock hlit httl hid hsc
    hok hnone hempty hq

/-! ## 5. API signature: what an accepted signature covers -/

/-- **`ttl_window`**, **`unknown_key_rejected`**, **`date_scope_prefix_checked`** in one statement: an accepted
request parses into a signing context whose time lies in `[now − ttl, now + ttl]` (when a TTL is configured) and,
for presigned URLs, is not older than its `Expires`; its access key id is in the store; and its signature is the
one recomputed with that key's secret. -/
theorem verify_ok_facts (cfg : Signer.Cfg) (cr : Crypto) (clock : Clock) (now : Int) (req : Req) (body : Option Bytes)
    (h : verify cfg cr clock now req body = .ok ()) :
    ∃ ctx secret, initFromSignedRequest cfg.lit clock req = .ok ctx ∧
      (cfg.ttl > 0 → -cfg.ttl ≤ now - ctx.time ∧ now - ctx.time ≤ cfg.ttl) ∧
      (ctx.presign = true → now - ctx.time ≤ ctx.expire) ∧
      storeGet ctx.keyId cfg.store = some secret ∧
      ctx.signature = expectedSignature cfg cr clock ctx secret req body :=
  (verify_ok_iff cfg cr clock now req body).mp h

theorem verify_ok_signature {cfg : Signer.Cfg} {cr : Crypto} {clock : Clock} {now : Int} {req : Req} {body : Option Bytes} {ctx : Ctx}
    (i : initFromSignedRequest cfg.lit clock req = .ok ctx) (v : verify cfg cr clock now req body = .ok ()) :
    ∃ secret, storeGet ctx.keyId cfg.store = some secret ∧ ctx.signature = expectedSignature cfg cr clock ctx secret req body := by
  obtain ⟨c, secret, h, _, _, k, e⟩ := verify_ok_facts cfg cr clock now req body v
  rw [i] at h
  cases h
  exact ⟨secret, k, e⟩

theorem ttl_window (cfg : Signer.Cfg) (cr : Crypto) (clock : Clock) (now : Int) (req : Req) (body : Option Bytes) (ctx : Ctx)
    (hi : initFromSignedRequest cfg.lit clock req = .ok ctx) (httl : cfg.ttl > 0)
    (hout : now - ctx.time < -cfg.ttl ∨ now - ctx.time > cfg.ttl) :
    verify cfg cr clock now req body = .error .expired := by
  unfold verify
  simp only [hi]
  rw [if_pos ⟨httl, hout⟩]

theorem unknown_key_rejected (cfg : Signer.Cfg) (cr : Crypto) (clock : Clock) (now : Int) (req : Req) (body : Option Bytes)
    (ctx : Ctx) (hi : initFromSignedRequest cfg.lit clock req = .ok ctx) (hk : storeGet ctx.keyId cfg.store = none) :
    verify cfg cr clock now req body ≠ .ok () := by
  intro h
  obtain ⟨secret, h4, _⟩ := verify_ok_signature hi h
  rw [hk] at h4
  cases h4

/-- header mode: the date in the credential scope must be a prefix of the
`X-Me-Date` header, which must parse. -/
theorem date_scope_prefix_checked (lit : Literal) (clock : Clock) (req : Req) (ctx : Ctx)
    (h : initFromHeader lit clock req = .ok ctx) :
    ∃ alg rest cred, splitFirst 32 (hget req.headers authHeader) = some (alg, rest) ∧ alg = lit.algorithmValue ∧
      hasPrefix (hget req.headers lit.date) ((splitOn 47 cred).getD 1 []) = true ∧
      clock.parseTime (hget req.headers lit.date) = some ctx.time ∧ ctx.keyId = (splitOn 47 cred).headD [] := by
  obtain ⟨alg, rest, _, _, _, cred, _, hsf, halg, _, _, _, _, hpre, ht, hk, _⟩ := initFromHeader_ok h
  exact ⟨alg, rest, cred, hsf, halg, hpre, ht, hk⟩

/-- repaired code: an accepted request's raw query parsed completely, i.e. `req.query` — what
the canonical query, and hence the signature, is computed from — holds **every** pair of the query that is forwarded. (Before
`fixes/C06-signature-query-unparsed.patch`, `url.Query()` silently dropped pairs with `;` or a bad escape: they were forwarded
without being covered by the signature, see `unparsed_query_defect`.) -/
theorem accepted_query_fully_parsed (cfg : Signer.Cfg) (cr : Crypto) (clock : Clock) (now : Int) (req : Req) (body : Option Bytes)
    (h : verify cfg cr clock now req body = .ok ()) : req.queryErr = false := by
  obtain ⟨ctx, _, hi, _⟩ := verify_ok_facts cfg cr clock now req body h
  exact (initFromSignedRequest_ok hi).1

theorem unparsed_query_rejected (cfg : Signer.Cfg) (cr : Crypto) (clock : Clock) (now : Int) (req : Req) (body : Option Bytes)
    (hq : req.queryErr = true) : verify cfg cr clock now req body = .error .badQuery := by
  unfold verify initFromSignedRequest
  simp [hq]

/-- Hypotheses `hH`, `hM` idealise SHA-256 / HMAC-SHA256 as injective (collision-free);
they are hypotheses of this theorem, not axioms, and visible here. If two requests are both accepted under the
*same* signing context (same credential, signed-header list, signature and timestamp — e.g. the second is the first
with anything but the Authorization / date header changed), then they agree on everything the signature covers:
method, canonical URI, canonical query (without the signature parameters), the canonical line of every signed header
including `host`, and the body hash. Contrapositive: changing any of these in an accepted request, while keeping its
signature, makes `Verify` fail. `NoLF` is what net/http guarantees for parsed requests. -/
theorem tamper_rejected (cfg : Signer.Cfg) (cr : Crypto) (clock : Clock) (now : Int) (r1 r2 : Req) (b1 b2 : Option Bytes)
    (ctx : Ctx)
    (hH : Function.Injective cr.sha256hex) (hM : ∀ k, Function.Injective (cr.hmac k))
    (i1 : initFromSignedRequest cfg.lit clock r1 = .ok ctx) (i2 : initFromSignedRequest cfg.lit clock r2 = .ok ctx)
    (v1 : verify cfg cr clock now r1 b1 = .ok ()) (v2 : verify cfg cr clock now r2 b2 = .ok ())
    (n1 : NoLF r1) (n2 : NoLF r2) (hsh : (10 : UInt8) ∉ ctx.signedHeaders) :
    covered cfg clock ctx r1 = covered cfg clock ctx r2 ∧ hashBodyVerify cfg cr b1 = hashBodyVerify cfg cr b2 := by
  obtain ⟨s1, k1, e1⟩ := verify_ok_signature i1 v1
  obtain ⟨s2, k2, e2⟩ := verify_ok_signature i2 v2
  rw [k1] at k2
  cases k2
  have := expectedSignature_inj cfg cr clock ctx s1 r1 r2 b1 b2 hH hM (e1.symm.trans e2)
  exact canonical_injective cfg clock ctx r1 r2 _ _ n1 n2 hsh this

/-- **The parser contract behind `NoLF`, made checkable.** `noLFb` is the executable test the judge evaluates on **every**
harness case (both harnesses; a failing case is reported as a broken contract of the trusted base): it is exactly `NoLF`. -/
theorem nolf_contract_checked (req : Req) : noLFb req = true ↔ NoLF req := by
  unfold noLFb
  simp only [Bool.and_eq_true, Bool.not_eq_true', List.all_eq_true]
  constructor
  · rintro ⟨⟨⟨h1, h2⟩, h3⟩, h4⟩
    refine ⟨by simpa using h1, by simpa using h2, by simpa using h3, ?_⟩
    intro e he v hv
    simpa using h4 e he v hv
  · intro h
    refine ⟨⟨⟨by simpa using h.method, by simpa using h.host⟩, by simpa using h.urlHost⟩, ?_⟩
    intro e he v hv
    simpa using h.values e he v hv

/-- … and why net/http satisfies it: any parser that takes the method, the hosts and the header values from the *lines* of
the request head (the head split at LF; folded lines joined by a space) yields a `NoLF` request, whatever bytes arrive. -/
theorem nolf_of_line_parser (raw : Bytes) (req : Req)
    (fromLines : ∀ (s : Bytes), (s = req.method ∨ s = req.host ∨ s = req.urlHost ∨ ∃ e ∈ req.headers, s ∈ e.2) →
      ∀ c ∈ s, c = 32 ∨ ∃ l ∈ splitOn 10 raw, c ∈ l) : NoLF req := by
  have key : ∀ s, (s = req.method ∨ s = req.host ∨ s = req.urlHost ∨ ∃ e ∈ req.headers, s ∈ e.2) → (10 : UInt8) ∉ s := by
    intro s hs hm
    rcases fromLines s hs 10 hm with h | ⟨l, hl, hc⟩
    · exact absurd h (by decide)
    · exact splitOn_no_sep hl hc
  exact ⟨key _ (Or.inl rfl), key _ (Or.inr (Or.inl rfl)), key _ (Or.inr (Or.inr (Or.inl rfl))),
    fun e he v hv => key v (Or.inr (Or.inr (Or.inr ⟨e, he, hv⟩)))⟩

example : noLFb ⟨b "GET", b "/", [], [(b "X-A", [b "a b"])], b "a.com", [], [], false⟩ = true := by decide +kernel
example : noLFb ⟨b "GET", b "/", [], [(b "X-A", [[97, 10, 98]])], b "a.com", [], [], false⟩ = false := by decide +kernel

/-- for requests signed in header mode (`Authorization: … SignedHeaders=…`) the
LF-freeness of the signed-header list follows from the parser contract, so the only hypotheses left are the judge-checked
`noLFb` and the idealised injectivity of hash and MAC. (For presigned URLs the list is a URL-decoded query value; there
`tamper_rejected` keeps the explicit hypothesis `hsh`.) -/
theorem tamper_rejected_header_mode (cfg : Signer.Cfg) (cr : Crypto) (clock : Clock) (now : Int) (r1 r2 : Req) (b1 b2 : Option Bytes)
    (ctx : Ctx)
    (hH : Function.Injective cr.sha256hex) (hM : ∀ k, Function.Injective (cr.hmac k))
    (i1 : initFromSignedRequest cfg.lit clock r1 = .ok ctx) (i2 : initFromSignedRequest cfg.lit clock r2 = .ok ctx)
    (hmode : ctx.presign = false)
    (v1 : verify cfg cr clock now r1 b1 = .ok ()) (v2 : verify cfg cr clock now r2 b2 = .ok ())
    (n1 : noLFb r1 = true) (n2 : noLFb r2 = true) :
    covered cfg clock ctx r1 = covered cfg clock ctx r2 ∧ hashBodyVerify cfg cr b1 = hashBodyVerify cfg cr b2 := by
  have n1' := (nolf_contract_checked r1).mp n1
  have hsh : (10 : UInt8) ∉ ctx.signedHeaders := by
    have hl := (initFromSignedRequest_ok i1).2
    by_cases ha : hget r1.headers authHeader ≠ []
    · rw [if_pos ha] at hl
      exact signedHeaders_no_lf_header_mode hl n1'
    · rw [if_neg ha] at hl
      rw [initFromQuery_presign hl] at hmode
      cases hmode
  exact tamper_rejected cfg cr clock now r1 r2 b1 b2 ctx hH hM i1 i2 v1 v2 n1' ((nolf_contract_checked r2).mp n2) hsh

/-- … in particular the body: unless `excludeBody` is configured, the two accepted requests carry the same body
bytes — the body *as `Verify` read it*, which in the repaired `Handle` is the payload that is forwarded. -/
theorem tamper_rejected_body (cfg : Signer.Cfg) (cr : Crypto) (clock : Clock) (now : Int) (r1 r2 : Req) (b1 b2 : Bytes)
    (ctx : Ctx)
    (hH : Function.Injective cr.sha256hex) (hM : ∀ k, Function.Injective (cr.hmac k))
    (i1 : initFromSignedRequest cfg.lit clock r1 = .ok ctx) (i2 : initFromSignedRequest cfg.lit clock r2 = .ok ctx)
    (v1 : verify cfg cr clock now r1 (some b1) = .ok ()) (v2 : verify cfg cr clock now r2 (some b2) = .ok ())
    (n1 : NoLF r1) (n2 : NoLF r2) (hsh : (10 : UInt8) ∉ ctx.signedHeaders) (hex : cfg.excludeBody = false) :
    b1 = b2 := by
  have := (tamper_rejected cfg cr clock now r1 r2 _ _ ctx hH hM i1 i2 v1 v2 n1 n2 hsh).2
  simp only [hashBodyVerify, hex, Bool.false_eq_true, if_false] at this
  exact hH this

/-! ## 5b. Tamper theorems in collision-extraction form

No hypothesis about the hash: for **every** `Crypto` — the judge's executable SHA-256 / HMAC-SHA256 included — two accepted
requests agree on everything the signature covers, **or** an explicit collision (`ShaCollision`: two different byte strings
with the same `sha256hex`; `HmacCollision`: two different (key, message) pairs with the same `hmac`) exists. The
`Function.Injective` versions above are the special case "no collision exists". -/

theorem tamper_rejected_or_collision (cfg : Signer.Cfg) (cr : Crypto) (clock : Clock) (now : Int) (r1 r2 : Req) (b1 b2 : Option Bytes)
    (ctx : Ctx)
    (i1 : initFromSignedRequest cfg.lit clock r1 = .ok ctx) (i2 : initFromSignedRequest cfg.lit clock r2 = .ok ctx)
    (v1 : verify cfg cr clock now r1 b1 = .ok ()) (v2 : verify cfg cr clock now r2 b2 = .ok ())
    (n1 : noLFb r1 = true) (n2 : noLFb r2 = true) (hsh : (10 : UInt8) ∉ ctx.signedHeaders) :
    (covered cfg clock ctx r1 = covered cfg clock ctx r2 ∧ hashBodyVerify cfg cr b1 = hashBodyVerify cfg cr b2)
    ∨ ShaCollision cr ∨ HmacCollision cr := by
  obtain ⟨s1, k1, e1⟩ := verify_ok_signature i1 v1
  obtain ⟨s2, k2, e2⟩ := verify_ok_signature i2 v2
  rw [k1] at k2
  cases k2
  rcases expectedSignature_eq_or_collision cfg cr clock ctx s1 r1 r2 b1 b2 (e1.symm.trans e2) with h | h
  · exact Or.inl (canonical_injective cfg clock ctx r1 r2 _ _ ((nolf_contract_checked r1).mp n1) ((nolf_contract_checked r2).mp n2) hsh h)
  · exact Or.inr h

theorem tamper_rejected_body_or_collision (cfg : Signer.Cfg) (cr : Crypto) (clock : Clock) (now : Int) (r1 r2 : Req) (b1 b2 : Bytes)
    (ctx : Ctx)
    (i1 : initFromSignedRequest cfg.lit clock r1 = .ok ctx) (i2 : initFromSignedRequest cfg.lit clock r2 = .ok ctx)
    (v1 : verify cfg cr clock now r1 (some b1) = .ok ()) (v2 : verify cfg cr clock now r2 (some b2) = .ok ())
    (n1 : noLFb r1 = true) (n2 : noLFb r2 = true) (hsh : (10 : UInt8) ∉ ctx.signedHeaders) (hex : cfg.excludeBody = false) :
    b1 = b2 ∨ ShaCollision cr ∨ HmacCollision cr := by
  rcases tamper_rejected_or_collision cfg cr clock now r1 r2 _ _ ctx i1 i2 v1 v2 n1 n2 hsh with ⟨_, h⟩ | h
  · simp only [hashBodyVerify, hex, Bool.false_eq_true, if_false] at h
    rcases sha_eq_or_collision cr _ _ h with e | hc
    · exact Or.inl e
    · exact Or.inr (Or.inl hc)
  · exact Or.inr h

theorem tamper_rejected_header_mode_or_collision (cfg : Signer.Cfg) (cr : Crypto) (clock : Clock) (now : Int) (r1 r2 : Req)
    (b1 b2 : Option Bytes) (ctx : Ctx)
    (i1 : initFromSignedRequest cfg.lit clock r1 = .ok ctx) (i2 : initFromSignedRequest cfg.lit clock r2 = .ok ctx)
    (hmode : hget r1.headers authHeader ≠ [])
    (v1 : verify cfg cr clock now r1 b1 = .ok ()) (v2 : verify cfg cr clock now r2 b2 = .ok ())
    (n1 : noLFb r1 = true) (n2 : noLFb r2 = true) :
    (covered cfg clock ctx r1 = covered cfg clock ctx r2 ∧ hashBodyVerify cfg cr b1 = hashBodyVerify cfg cr b2)
    ∨ ShaCollision cr ∨ HmacCollision cr := by
  have hsh : (10 : UInt8) ∉ ctx.signedHeaders := by
    have hl := (initFromSignedRequest_ok i1).2
    rw [if_pos hmode] at hl
    exact signedHeaders_no_lf_header_mode hl ((nolf_contract_checked r1).mp n1)
  exact tamper_rejected_or_collision cfg cr clock now r1 r2 b1 b2 ctx i1 i2 v1 v2 n1 n2 hsh

/-- the two accepted requests may carry **different** signing contexts (another
`SignedHeaders=` list, another scope, another date — i.e. the Authorization / date header or the signature query parameters
were edited too). If they present the **same signature value**, then — or a collision exists — they have the same
signed-header list, the same time string, the same scope string, and agree on everything covered (method, canonical URI,
canonical query, every signed header line, body hash). So editing the signed-header list, the scope or the date of an accepted
request while keeping its signature is rejected as well. `hclk` / `hs*`: LF-free time and scope strings (`time.Format` layout;
scopes from a `NoLF` header value). -/
theorem tamper_rejected_cross_ctx (cfg : Signer.Cfg) (cr : Crypto) (clock : Clock) (now : Int) (r1 r2 : Req) (b1 b2 : Option Bytes)
    (ctx1 ctx2 : Ctx)
    (i1 : initFromSignedRequest cfg.lit clock r1 = .ok ctx1) (i2 : initFromSignedRequest cfg.lit clock r2 = .ok ctx2)
    (v1 : verify cfg cr clock now r1 b1 = .ok ()) (v2 : verify cfg cr clock now r2 b2 = .ok ())
    (hsig : ctx1.signature = ctx2.signature)
    (n1 : noLFb r1 = true) (n2 : noLFb r2 = true)
    (hsh1 : (10 : UInt8) ∉ ctx1.signedHeaders) (hsh2 : (10 : UInt8) ∉ ctx2.signedHeaders)
    (hclk : ∀ t, (10 : UInt8) ∉ clock.fmtTime t)
    (hs1 : (10 : UInt8) ∉ scopeString cfg.lit clock ctx1.time ctx1.scopes)
    (hs2 : (10 : UInt8) ∉ scopeString cfg.lit clock ctx2.time ctx2.scopes) :
    (ctx1.signedHeaders = ctx2.signedHeaders ∧ clock.fmtTime ctx1.time = clock.fmtTime ctx2.time ∧
     scopeString cfg.lit clock ctx1.time ctx1.scopes = scopeString cfg.lit clock ctx2.time ctx2.scopes ∧
     covered cfg clock ctx1 r1 = covered cfg clock ctx2 r2 ∧ hashBodyVerify cfg cr b1 = hashBodyVerify cfg cr b2)
    ∨ ShaCollision cr ∨ HmacCollision cr := by
  obtain ⟨s1, _, e1⟩ := verify_ok_signature i1 v1
  obtain ⟨s2, _, e2⟩ := verify_ok_signature i2 v2
  have hE : expectedSignature cfg cr clock ctx1 s1 r1 b1 = expectedSignature cfg cr clock ctx2 s2 r2 b2 := by
    rw [← e1, ← e2, hsig]
  rcases expectedSignature_cross_or_collision cfg cr clock ctx1 ctx2 s1 s2 r1 r2 b1 b2 hclk hs1 hs2 hE with ⟨et, es, _, hc⟩ | h
  · obtain ⟨m, u, q, sh, ls, bh⟩ := canonical_injective_cross r1 r2 _ _ _ _ _ _ ((nolf_contract_checked r1).mp n1) ((nolf_contract_checked r2).mp n2)
      (covered_query_no_lf cfg clock ctx1 r1) (covered_query_no_lf cfg clock ctx2 r2) hsh1 hsh2 hc
    refine Or.inl ⟨sh, et, es, ?_, bh⟩
    simp only [covered] at q ⊢
    rw [m, u, q, ← sh, ls]
  · exact Or.inr h

/-! ## 6. Non-vacuity and the two defects of the unrepaired code, on concrete data -/
section Concrete

def exClock : Clock := ⟨fun _ => b "20220101", fun _ => b "20220101T000000Z",
  fun s => if s = b "20220101T000000Z" then some 0 else none, fun _ => none⟩
/-- toy stand-ins for SHA-256 / HMAC (the theorems hold for every `Crypto`): identity except that the empty
string maps to the hard-wired constant; concatenation -/
def exCrypto : Crypto := ⟨fun x => if x = [] then sha256Empty else x, fun k x => k ++ x⟩
def exSigCfg : Signer.Cfg := ⟨defaultLiteral, [], 600, false, [(b "AKID", b "SECRET")]⟩
def exSReq : Req :=
  ⟨b "POST", b "/a b", [(b "x", [b "2", b "1"])], [(b "Content-Type", [b "a  b"]), (b "X-A", [b "1", b "2"])], b "a.com:80", [], [], false⟩
def exSigned (body : Option Bytes) : Req := sign exSigCfg exCrypto exClock (b "AKID") (b "SECRET") 0 [b "eu"] exSReq body
def exVEnv : Env := { exEnv true true with crypto := exCrypto, clock := exClock, now := 5 }
def exVCfg : Validator.Cfg := { headers := none, jwt := none, sig := some exSigCfg, basic := false }

/-- the hypotheses of `verify_sign_complete` are satisfiable (multi-valued query, header with repeated spaces, multi-valued
header, host with port), for every body: the signed example request verifies against the body it was signed for -/
theorem exSigned_accepted (body : Bytes) :
    verify exSigCfg exCrypto exClock 5 (exSigned (some body)) (some body) = .ok () :=
  verify_sign_complete exSigCfg exCrypto exClock 5 0 0 (b "AKID") (b "SECRET") [b "eu"] exSReq (some body)
    (by decide +kernel) ⟨by decide +kernel, by decide +kernel, by decide +kernel, by decide +kernel, by unfold Clean; decide +kernel⟩
    defaultLiteral_ok (by intro _; decide) (by unfold Clean; decide +kernel) (by unfold Clean; decide +kernel)
    (by unfold HeaderOK KeyOK Clean; decide +kernel) (by decide +kernel) (by simp only [exCrypto, if_true]) rfl

example : verify exSigCfg exCrypto exClock 5 (exSigned (some [1, 2])) (some [1, 2]) = .ok () := exSigned_accepted [1, 2]

/-- `Verify` with the `initFromSignedRequest` of the code before `fixes/C06-signature-query-unparsed.patch` -/
def verifyLax (cfg : Signer.Cfg) (cr : Crypto) (clock : Clock) (now : Int) (req : Req) (body : Option Bytes) : Bool :=
  match initFromSignedRequestLax cfg.lit clock req with
  | .error _ => false
  | .ok ctx =>
    let age := now - ctx.time
    if cfg.ttl > 0 ∧ (age < -cfg.ttl ∨ age > cfg.ttl) then false
    else if ctx.presign = true ∧ age > ctx.expire then false
    else match storeGet ctx.keyId cfg.store with
      | none => false
      | some secret => ctx.signature == expectedSignature cfg cr clock ctx secret req body

/-- The model is executable: the runs of `Verify` on the signed example request that end in a TTL / key / tamper failure, and the
run of `verifyLax` quoted by `unparsed_query_defect`, by evaluation. One kernel run for all of them: the dear part of a run is
turning the string constants of `Model/Signer.lean` into bytes, which the runs then share. -/
theorem exSigned_runs :
    verify exSigCfg exCrypto exClock 601000000000 (exSigned none) (some []) = .error .expired ∧
    verify { exSigCfg with store := [] } exCrypto exClock 5 (exSigned none) (some []) = .error .unknownKey ∧
    (verify exSigCfg exCrypto exClock 5 { exSigned (some [1, 2]) with method := b "PUT" } (some [1, 2])).toBool = false ∧
    verify exSigCfg exCrypto exClock 5 (exSigned (some [1, 2])) (some []) = .error .mismatch ∧
    verify exSigCfg exCrypto exClock 5 (exSigned (some [])) (some [9, 9, 9]) = .error .mismatch ∧
    verifyLax exSigCfg exCrypto exClock 5 { exSigned (some [1, 2]) with queryErr := true } (some [1, 2]) = true := by decide +kernel

set_option maxRecDepth 100000 in
example : (verify exSigCfg exCrypto exClock 5 (exSigned (some [1, 2])) (some [1, 2])).toBool = true :=
  congrArg Except.toBool (exSigned_accepted [1, 2])
set_option maxRecDepth 100000 in
example : verify exSigCfg exCrypto exClock 601000000000 (exSigned none) (some []) = .error .expired := exSigned_runs.1
set_option maxRecDepth 100000 in
example : verify { exSigCfg with store := [] } exCrypto exClock 5 (exSigned none) (some []) = .error .unknownKey := exSigned_runs.2.1
set_option maxRecDepth 100000 in
example : (verify exSigCfg exCrypto exClock 5 { exSigned (some [1, 2]) with method := b "PUT" } (some [1, 2])).toBool = false :=
  exSigned_runs.2.2.1

theorem handleWith_sig_only (seen : Request → Option Bytes) (parse : Bytes → Option (Bytes × Bytes)) (s : Signer.Cfg) (env : Env)
    (r : Request) :
    handleWith seen parse { headers := none, jwt := none, sig := some s, basic := false } env r =
      if verify s env.crypto env.clock env.now r.std (seen r) = .ok () then .pass else .invalid 401 := by
  simp only [handleWith, ← sigValidate_iff]
  cases sigValidate s env r (seen r) <;> simp

/-- **Defect (i) of the unrepaired code** (`handleDrained`: `Verify` reads the body that `FetchPayload` already
drained): an honestly signed request with a body is rejected, and a request signed for the empty body is accepted
with any payload; the repaired `handle` accepts the first and rejects the second. -/
theorem drained_body_defect :
    handleDrained exVCfg exVEnv ⟨exSigned (some [1, 2]), [1, 2]⟩ = .invalid 401 ∧
    handleDrained exVCfg exVEnv ⟨exSigned (some []), [9, 9, 9]⟩ = .pass ∧
    handle exVCfg exVEnv ⟨exSigned (some [1, 2]), [1, 2]⟩ = .pass ∧
    handle exVCfg exVEnv ⟨exSigned (some []), [9, 9, 9]⟩ = .invalid 401 := by
  have key (seen : Request → Option Bytes) (r : Request) : handleWith seen parseCreds exVCfg exVEnv r =
      if verify exSigCfg exCrypto exClock 5 r.std (seen r) = .ok () then .pass else .invalid 401 :=
    handleWith_sig_only seen parseCreds exSigCfg exVEnv r
  obtain ⟨_, _, _, hdrained, hforged, _⟩ := exSigned_runs
  refine ⟨?_, ?_, ?_, ?_⟩
  · rw [handleDrained, key, hdrained]
    rfl
  · rw [handleDrained, key, exSigned_accepted []]
    rfl
  · rw [handle, key, exSigned_accepted [1, 2]]
    rfl
  · rw [handle, key, hforged]
    rfl

/-- **Defect of the unrepaired code** (reproduced on the real code, `corpus/C06/validator.jsonl`): the accepted request stays
accepted when pairs that `url.Query()` cannot parse (`&admin=1;x=2`, `&z=%zz`) are appended to its raw query — the parsed
pairs, all the signature sees, are unchanged (`queryErr := true` is the only difference in the model) — although the query that
is forwarded changed. The repaired `verify` refuses it. -/
theorem unparsed_query_defect :
    verifyLax exSigCfg exCrypto exClock 5 { exSigned (some [1, 2]) with queryErr := true } (some [1, 2]) = true ∧
    verify exSigCfg exCrypto exClock 5 { exSigned (some [1, 2]) with queryErr := true } (some [1, 2]) = .error .badQuery ∧
    (verify exSigCfg exCrypto exClock 5 (exSigned (some [1, 2])) (some [1, 2])).toBool = true :=
  ⟨exSigned_runs.2.2.2.2.2, unparsed_query_rejected _ _ _ _ _ _ rfl, congrArg Except.toBool (exSigned_accepted [1, 2])⟩

/-- the same request with an additional header that is not in its signed-header list -/
def exExtra (r : Req) : Req := { r with headers := r.headers ++ [(b "X-New", [b "v"])] }

-- the hypotheses of `tamper_rejected` are satisfiable: an injective toy hash / MAC, an accepted request and the same
-- request with an additional unsigned header
def exCrypto2 : Crypto := ⟨fun x => x, fun k x => k ++ x⟩
def exSigned2 : Req := sign exSigCfg exCrypto2 exClock (b "AKID") (b "SECRET") 0 [] exSReq (some [7])
def exCtx2 : Ctx := match initFromSignedRequest defaultLiteral exClock exSigned2 with | .ok c => c | .error _ => ⟨false, [], [], [], [], 0, 0⟩
set_option maxRecDepth 100000 in
example : covered exSigCfg exClock exCtx2 exSigned2
      = covered exSigCfg exClock exCtx2 { exSigned2 with headers := exSigned2.headers ++ [(b "X-New", [b "v"])] } ∧
      hashBodyVerify exSigCfg exCrypto2 (some [7]) = hashBodyVerify exSigCfg exCrypto2 (some [7]) := by
  have h : (initFromSignedRequest exSigCfg.lit exClock exSigned2 = .ok exCtx2 ∧
      initFromSignedRequest exSigCfg.lit exClock (exExtra exSigned2) = .ok exCtx2) ∧
      (verify exSigCfg exCrypto2 exClock 5 exSigned2 (some [7]) = .ok () ∧
      verify exSigCfg exCrypto2 exClock 5 (exExtra exSigned2) (some [7]) = .ok ()) ∧
      (noLFb exSigned2 = true ∧ noLFb (exExtra exSigned2) = true) ∧ (10 : UInt8) ∉ exCtx2.signedHeaders := by decide +kernel
  exact tamper_rejected exSigCfg exCrypto2 exClock 5 exSigned2 (exExtra exSigned2) (some [7]) (some [7]) exCtx2
    (fun _ _ h => h) (fun _ _ _ h => List.append_cancel_left h)
    h.1.1 h.1.2 h.2.1.1 h.2.1.2 ((nolf_contract_checked _).mp h.2.2.1.1) ((nolf_contract_checked _).mp h.2.2.1.2) h.2.2.2

-- collision-extraction form at a NON-injective hash: `exCrypto` has a collision, the hypotheses of `tamper_rejected_or_collision` are
-- nevertheless met by the signed example request and the same request with an extra unsigned header
example : ShaCollision exCrypto := ⟨[], sha256Empty, by decide +kernel, by simp only [exCrypto, if_true, ite_self]⟩
def exCtx1 : Ctx := match initFromSignedRequest defaultLiteral exClock (exSigned (some [1, 2])) with
  | .ok c => c | .error _ => ⟨false, [], [], [], [], 0, 0⟩
set_option maxRecDepth 100000 in
example : (covered exSigCfg exClock exCtx1 (exSigned (some [1, 2]))
      = covered exSigCfg exClock exCtx1 { exSigned (some [1, 2]) with headers := (exSigned (some [1, 2])).headers ++ [(b "X-New", [b "v"])] } ∧
      hashBodyVerify exSigCfg exCrypto (some [1, 2]) = hashBodyVerify exSigCfg exCrypto (some [1, 2]))
    ∨ ShaCollision exCrypto ∨ HmacCollision exCrypto := by
  have h : (initFromSignedRequest exSigCfg.lit exClock (exSigned (some [1, 2])) = .ok exCtx1 ∧
      initFromSignedRequest exSigCfg.lit exClock (exExtra (exSigned (some [1, 2]))) = .ok exCtx1) ∧
      verify exSigCfg exCrypto exClock 5 (exExtra (exSigned (some [1, 2]))) (some [1, 2]) = .ok () ∧
      (noLFb (exSigned (some [1, 2])) = true ∧ noLFb (exExtra (exSigned (some [1, 2]))) = true) ∧
      (10 : UInt8) ∉ exCtx1.signedHeaders := by decide +kernel
  exact tamper_rejected_or_collision exSigCfg exCrypto exClock 5 (exSigned (some [1, 2])) (exExtra (exSigned (some [1, 2])))
    (some [1, 2]) (some [1, 2]) exCtx1 h.1.1 h.1.2 (exSigned_accepted [1, 2]) h.2.1 h.2.2.1.1 h.2.2.1.2 h.2.2.2

end Concrete

/-! ## 7. Regenerated tie by translation — validator package (`notes/IR.md`, `harness/factextract/facts_c06_ir.go`)

`Gen.FactsC06IR` (basicauth.go), `Gen.FactsC06JwtIR` (jwt.go), `Gen.FactsC06HandleIR` and `Gen.FactsC06ReloadIR` (validator.go),
`Gen.FactsC06HdrIR` (httpheader/validator.go), `Gen.FactsC06OAuthIR` (oauth2.go) are re-translated on every run from the current bodies of the Go functions (go/ast → Lean,
`harness/factextract/irlib.go`); each theorem says the generated definition is the hand-written model function on
every input and every oracle. Proofs: `Proofs/ValidatorIR.lean` (same theorem names). -/
section ValidatorIR
open EgVerif.Gen

/-- `parseCredentials` = `parseCreds` (split at the first colon only) -/
theorem parseCredentials_regenerated_from_source (creds : Bytes) :
    FactsC06IR.extractionFailed = false ∧ FactsC06IR.parseCredentialsIR creds = parseCreds creds :=
  ⟨by decide, Validator.parseCredentials_regenerated_from_source creds⟩

/-- `parseBasicAuthorizationHeader` = strip the `Basic ` prefix of the Authorization header, error if absent -/
theorem parseBasicAuthorizationHeader_regenerated_from_source (h : Header) :
    FactsC06IR.extractionFailed = false ∧
    FactsC06IR.parseBasicAuthorizationHeaderIR h = Validator.parseBasicAuthorizationHeader h :=
  ⟨by decide, Validator.parseBasicAuthorizationHeader_regenerated_from_source h⟩

/-- `BasicAuthValidator.Validate`: accepted iff the model accepts; the only header written is `X-AUTH-USER: <user id>` -/
theorem basicValidate_regenerated_from_source (users : Bytes → Bytes → Bool) (h : Header) :
    FactsC06IR.extractionFailed = false ∧
    FactsC06IR.basicValidateIR users h = (basicValidate users h).map (fun u => [(b "X-AUTH-USER", u)]) :=
  ⟨by decide, Validator.basicValidate_regenerated_from_source users h⟩

/-- the key function handed to `jwt.Parse` pins the configured algorithm and returns the configured secret -/
theorem jwtKeyFunc_regenerated_from_source (cfg : JwtCfg) (alg : Bytes) :
    FactsC06JwtIR.extractionFailed = false ∧ FactsC06JwtIR.jwtKeyFuncIR cfg alg = jwtKeyFunc cfg alg :=
  ⟨by decide, Validator.jwtKeyFunc_regenerated_from_source cfg alg⟩

/-- `JWTValidator.Validate` (token source: non-empty cookie, else `Authorization: Bearer …`) returns an error iff
`jwtValidate` rejects -/
theorem jwtValidate_regenerated_from_source (cfg : JwtCfg) (lib : JwtLib) (cookie : Bytes → Option Bytes) (h : Header) :
    FactsC06JwtIR.extractionFailed = false ∧ FactsC06JwtIR.jwtValidateIR cfg lib cookie h = !jwtValidate cfg lib cookie h :=
  ⟨by decide, Validator.jwtValidate_regenerated_from_source cfg lib cookie h⟩

/-- `httpheader.Validator.Validate` returns an error iff some configured header rule fails on the header's first value -/
theorem headerValidate_regenerated_from_source (re : Bytes → Bytes → Bool) (h : Header) (rules : List HeaderRule) :
    FactsC06HdrIR.extractionFailed = false ∧ FactsC06HdrIR.headerValidateIR re h rules = !headersOK re h rules :=
  ⟨by decide, Validator.headerValidate_regenerated_from_source re h rules⟩

/-- `Validator.Handle` for a buffered request (OAuth2 validator, if configured, in JWT mode): the returned string and the status
of the response it sets are those of `handle` (order headers → JWT → signature → OAuth2 → Basic, first failure wins, 400 for header
rules / 401 otherwise, `"invalid"` / `""`, `Verify` reads the payload); `prepareErrorResponse` sets exactly the status
it is given. -/
theorem handle_regenerated_from_source (cfg : Validator.Cfg) (env : Env) (r : Request) :
    FactsC06HandleIR.extractionFailed = false ∧ (∀ st, FactsC06HandleIR.prepareErrorResponseIR st = some st) ∧
    FactsC06HandleIR.handleIR cfg env r false = Validator.outcomeGo (handle cfg env r) :=
  ⟨by decide, Validator.prepareErrorResponse_regenerated_from_source, Validator.handle_regenerated_from_source cfg env r⟩

/-- `OAuth2Validator.Validate` in JWT mode (no introspection endpoint): bearer token, `jwt.Parse` with the key function literal
(= `jwtKeyFunc`: algorithm pinned, configured secret); on success exactly the headers `oauthHeaders sub scope` are set. It accepts
iff the model's `oauthValidate` (the `handle` branch) does. -/
theorem oauthValidate_regenerated_from_source (cfg : JwtCfg) (lib : JwtLib) (cs : Bytes → Bytes → Bytes) (h : Header) :
    FactsC06OAuthIR.extractionFailed = false ∧ (∀ alg, FactsC06OAuthIR.oauthKeyFuncIR cfg alg = jwtKeyFunc cfg alg) ∧
    FactsC06OAuthIR.oauthValidateIR cfg lib none cs h =
      (match stripPrefix (b "Bearer ") (hget h authHeader) with
       | none => none
       | some t => if jwtParse lib t (jwtKeyFunc cfg) then some (oauthHeaders (cs t (b "sub")) (cs t (b "scope"))) else none) ∧
    (FactsC06OAuthIR.oauthValidateIR cfg lib none cs h).isSome = oauthValidate cfg lib h :=
  ⟨by decide, Validator.oauthKeyFunc_regenerated_from_source cfg, Validator.oauthValidate_regenerated_from_source cfg lib cs h,
   Validator.oauthValidate_accepts_iff cfg lib cs h⟩

example : FactsC06OAuthIR.oauthValidateIR ⟨b "HS256", [1], []⟩ ⟨fun _ => some (b "HS256"), fun _ => true, fun _ _ _ => true⟩ none
    (fun _ k => if k = b "sub" then b "alice" else []) [(b "Authorization", [b "Bearer x.y.z"])]
    = some [(b "X-Authenticated-Userid", b "alice")] := by decide +kernel
example : FactsC06OAuthIR.oauthValidateIR ⟨b "HS256", [1], []⟩ ⟨fun _ => some (b "none"), fun _ => true, fun _ _ _ => true⟩ none
    (fun _ _ => []) [(b "Authorization", [b "Bearer x.y."])] = none := by decide +kernel

/-- `Validator.reload` constructs exactly the configured components, each **fresh** by its constructor (in particular
`NewBasicAuthValidator`: own user cache + watcher per generation — the premise of `basic_history_current_table`); `Init` and
`Inherit` only call `reload()`, `Inherit` never mentions the previous generation (a change like seeded C06-m5 cannot be translated
with this binding and breaks the obligation). -/
theorem validatorReload_regenerated_from_source (hd jw sg oa ba : Bool) :
    FactsC06ReloadIR.extractionFailed = false ∧ FactsC06ReloadIR.validatorReloadIR hd jw sg oa ba = (hd, jw, sg, oa, ba) ∧
    FactsC06ReloadIR.validatorInitIR () = true ∧ FactsC06ReloadIR.validatorInheritIR () = true :=
  ⟨by decide, Validator.validatorReload_regenerated_from_source hd jw sg oa ba, Validator.validatorInherit_regenerated_from_source⟩

-- non-vacuity: the generated definitions compute (accepted / rejected inputs)
example : FactsC06IR.parseCredentialsIR (b "user:pa:ss") = some (b "user", b "pa:ss") := by decide +kernel
example : FactsC06IR.parseCredentialsIR (b "nocolon") = none := by decide +kernel
example : FactsC06IR.basicValidateIR (fun u p => u = b "user" && p = b "pa:ss")
    [(b "Authorization", [b "Basic dXNlcjpwYTpzcw=="])] = some [(b "X-AUTH-USER", b "user")] := by decide +kernel
example : FactsC06JwtIR.jwtKeyFuncIR ⟨b "HS256", [1], []⟩ (b "none") = none := by decide +kernel
example : FactsC06HdrIR.headerValidateIR (fun _ _ => false) [(b "X-Env", [b "prod"])] [⟨b "x-env", [b "prod"], none⟩] = false := by decide +kernel
example : FactsC06HdrIR.headerValidateIR (fun _ _ => false) [(b "X-Env", [b "prod"])] [⟨b "x-env", [b "stage"], none⟩] = true := by decide +kernel
example : FactsC06HandleIR.handleIR exCfg (exEnv true true) exReq false = ([], none) := by decide +kernel
example : FactsC06HandleIR.handleIR { exCfg with basic := true } (exEnv true true) exReq false = (b "invalid", some 401) := by decide +kernel
example : FactsC06HandleIR.handleIR { exCfg with headers := some [⟨b "x-env", [b "stage"], none⟩] } (exEnv true true) exReq false
    = (b "invalid", some 400) := by decide +kernel

end ValidatorIR

/-! ## 8. Regenerated tie by translation — package `pkg/util/signer` (`harness/factextract/facts_c06_signer_ir.go`)

`Gen.FactsC06SignerIR` (parsing the signing context, `Verify`), `Gen.FactsC06CanonIR` (canonicalisation) and
`Gen.FactsC06SignIR` (what is hashed and MAC'ed) are re-translated on every run from the current bodies in `signer.go`. Proofs:
`Proofs/SignerIR.lean`, `Proofs/SignerCanonIR.lean` and `Proofs/SignerValueIR.lean`, `Proofs/SignerSignIR.lean`. -/
section SignerIR
open EgVerif.Gen

/-- `getCanonicalQuery` = `canonQuery`: `Signature` parameter deleted; presign mode sets the five signature parameters
(expires in whole seconds, `FormatInt(…, 10)`), header mode deletes them; every value list sorted; `Values.Encode` -/
theorem getCanonicalQuery_regenerated_from_source (lit : Literal) (clock : Clock) (t : Int) (scope : Bytes)
    (isPresign : Bool) (keyId : Bytes) (expire : Int) (signedHeaders : Bytes) (q : Header) :
    FactsC06SignerIR.extractionFailed = false ∧
    FactsC06SignerIR.getCanonicalQueryIR lit clock t scope isPresign keyId expire signedHeaders q =
      canonQuery lit clock t scope (if isPresign then some ⟨keyId, expire, signedHeaders⟩ else none) q :=
  ⟨by decide, Signer.getCanonicalQuery_regenerated_from_source lit clock t scope isPresign keyId expire signedHeaders q⟩

/-- `initFromQuery` = the model's (algorithm parameter, credential split at `/` with ≥ 3 parts, **the credential's date must
prefix the date parameter**, date and expires must parse) -/
theorem initFromQuery_regenerated_from_source (lit : Literal) (clock : Clock) (req : Req) :
    FactsC06SignerIR.extractionFailed = false ∧ FactsC06SignerIR.initFromQueryIR lit clock req = initFromQuery lit clock req :=
  ⟨by decide, Signer.initFromQuery_regenerated_from_source lit clock req⟩

/-- `initFromHeader` = the model's (`<alg> Credential=…, SignedHeaders=…, Signature=…`, index-based slicing ≡ the model's
structural splitting; **the credential's date must prefix the date header**, which must parse) -/
theorem initFromHeader_regenerated_from_source (lit : Literal) (clock : Clock) (req : Req) :
    FactsC06SignerIR.extractionFailed = false ∧ FactsC06SignerIR.initFromHeaderIR lit clock req = initFromHeader lit clock req :=
  ⟨by decide, Signer.initFromHeader_regenerated_from_source lit clock req⟩

/-- `initFromSignedRequest` (as repaired) = the model's: **a raw query that does not parse completely is refused first**, then
header / presign mode by the Authorization header; `ctx.CanonicalHeaders` is rebuilt from the signed-header list (`verifyLines`) -/
theorem initFromSignedRequest_regenerated_from_source (lit : Literal) (clock : Clock) (req : Req) :
    FactsC06SignerIR.extractionFailed = false ∧
    FactsC06SignerIR.initFromSignedRequestIR lit clock req =
      match initFromSignedRequest lit clock req with
      | .error e => (some e, exceptCtx (.error .badQuery), [])
      | .ok c => (none, c, (verifyLines req c.signedHeaders).flatten) :=
  ⟨by decide, Signer.initFromSignedRequest_regenerated_from_source lit clock req⟩

/-- `Signer.Verify` = `verify`: TTL window `-ttl ≤ now − t ≤ ttl` when a TTL is set, presign expiry, key lookup, body hash
recomputed (`hashBody(req, true)`), recomputed signature compared for (in)equality, errors in this order -/
theorem verify_regenerated_from_source (cfg : Signer.Cfg) (cr : Crypto) (clock : Clock) (now : Int) (req : Req) (body : Option Bytes) :
    FactsC06SignerIR.extractionFailed = false ∧ FactsC06SignerIR.verifyIR cfg cr clock now req body = verify cfg cr clock now req body :=
  ⟨by decide, Signer.verify_regenerated_from_source cfg cr clock now req body⟩

set_option maxRecDepth 100000 in
-- non-vacuity: the generated `Verify` accepts the signed example request and rejects it outside the TTL window
example : (FactsC06SignerIR.verifyIR exSigCfg exCrypto exClock 5 (exSigned (some [1, 2])) (some [1, 2])).toBool = true := by
  rw [(verify_regenerated_from_source _ _ _ _ _ _).2, exSigned_accepted [1, 2]]
  rfl
set_option maxRecDepth 100000 in
example : FactsC06SignerIR.verifyIR exSigCfg exCrypto exClock 601000000000 (exSigned none) (some []) = .error .expired := by
  rw [(verify_regenerated_from_source _ _ _ _ _ _).2, exSigned_runs.1]
example : (FactsC06SignerIR.getCanonicalQueryIR defaultLiteral exClock 0 (b "s") false [] 0 []
    [(b "x", [b "2", b "1"]), (b "X-Me-Signature", [b "zz"])]).1 = b "x=1&x=2" := by decide +kernel

/-- the `noEscapeChars` table that `init()` fills is `isUnreserved` (A–Z a–z 0–9 `-` `.` `_` `~`) -/
theorem noEscape_regenerated_from_source (c : UInt8) :
    FactsC06CanonIR.extractionFailed = false ∧ FactsC06CanonIR.noEscapeIR (Int.ofNat c.toNat) = isUnreserved c :=
  ⟨by decide, Signer.noEscape_regenerated_from_source c⟩

/-- `buildCanonicalURI` (byte loop: unreserved bytes and `/` copied, everything else `%XX` upper-case hex; empty path → `/`)
= `canonURI`, for `u.Opaque = ""` (true for every request that reaches a filter; the judge checks it on every case) -/
theorem buildCanonicalURI_regenerated_from_source (epath : Bytes) :
    FactsC06CanonIR.extractionFailed = false ∧ FactsC06CanonIR.buildCanonicalURIIR [] epath = canonURI epath :=
  ⟨by decide, Signer.buildCanonicalURI_regenerated_from_source epath⟩

/-- `buildCanonicalHeaders` (no header hoisting): host first, every non-ignored header as (lower-cased name, canonical value),
sorted by name (`sort.Slice` as an oracle with the stated contract), names joined by `;`, lines `name:value\n`; the query is
not touched -/
theorem buildCanonicalHeaders_regenerated_from_source (cfg : Signer.Cfg) (req : Req) (q : Header) :
    FactsC06CanonIR.extractionFailed = false ∧
    FactsC06CanonIR.buildCanonicalHeadersIR cfg (fun _ => false) req q =
      (signedHeadersOf (signPairs cfg req), canonHeadersOf (signPairs cfg req), q) :=
  ⟨by decide, Signer.buildCanonicalHeaders_regenerated_from_source cfg req q⟩

/-- `getHost` = the model's: `req.Host`, else `URL.Host`; an empty or default port (`:80` for http, `:443` for https) is cut off -/
theorem getHost_regenerated_from_source (req : Req) :
    FactsC06CanonIR.extractionFailed = false ∧ FactsC06CanonIR.getHostIR req = getHost req :=
  ⟨by decide, Signer.getHost_regenerated_from_source req⟩

/-- `buildCanonicalHeaderValue` = `canonValue`: per value leading / trailing spaces trimmed and every run of spaces collapsed to
one, values joined by `,`. Its three inner loops are general `for` loops, translated as recursion on the fuel `len(str) + 1`;
`some` = the fuel always suffices. -/
theorem buildCanonicalHeaderValue_regenerated_from_source (strs : List Bytes) :
    FactsC06CanonIR.extractionFailed = false ∧ FactsC06CanonIR.buildCanonicalHeaderValueIR strs = some (canonValue strs) :=
  ⟨by decide, Signer.buildCanonicalHeaderValue_regenerated_from_source strs⟩

example : FactsC06CanonIR.buildCanonicalHeaderValueIR [b "  a   b  c ", b "x", b "   "] = some (b "a b c,x,") := by decide +kernel
example : FactsC06CanonIR.getHostIR ⟨b "GET", b "/", [], [], b "a.com:80", [], b "HTTP", false⟩ = b "a.com" := by decide +kernel
example : FactsC06CanonIR.getHostIR ⟨b "GET", b "/", [], [], [], b "[::1]:8080", b "http", false⟩ = b "[::1]:8080" := by decide +kernel
example : FactsC06CanonIR.buildCanonicalURIIR [] (b "/a b/~u") = b "/a%20b/~u" := by decide +kernel
example : FactsC06CanonIR.buildCanonicalURIIR [] [] = b "/" := by decide +kernel
example : (FactsC06CanonIR.buildCanonicalHeadersIR exSigCfg (fun _ => false) exSReq []).1 = b "content-type;host;x-a" := by decide +kernel

/-- what is hashed and MAC'ed, and in which order (`Gen.FactsC06SignIR`): `buildScopeString` = `scopeString`, `deriveSigningKey` =
the model's HMAC chain, `hashCanonicalRequest` = SHA-256 of `canonicalRequest`, `sign` = hex ∘ HMAC of `stringToSign`; hence the
model's `signature` is exactly what the four Go functions compute together. -/
theorem signature_regenerated_from_source (lit : Literal) (cr : Crypto) (clock : Clock) (secret : Bytes) (now t : Int)
    (scopes : List Bytes) (m uri cq ch sh bh : Bytes) :
    FactsC06SignIR.extractionFailed = false ∧
    FactsC06SignIR.buildScopeStringIR lit clock false now t scopes = (scopeString lit clock t scopes, t) ∧
    FactsC06SignIR.deriveSigningKeyIR lit cr clock secret t scopes = deriveSigningKey lit cr clock secret t scopes ∧
    FactsC06SignIR.hashCanonicalRequestIR cr m uri cq ch sh bh = cr.sha256hex (canonicalRequest m uri cq ch sh bh) ∧
    (∀ scope hcr key, FactsC06SignIR.signIR lit cr clock t scope hcr key = Sha256.hex (cr.hmac key (stringToSign lit clock t scope hcr))) ∧
    FactsC06SignIR.signIR lit cr clock t (FactsC06SignIR.buildScopeStringIR lit clock false now t scopes).1
        (FactsC06SignIR.hashCanonicalRequestIR cr m uri cq ch sh bh) (FactsC06SignIR.deriveSigningKeyIR lit cr clock secret t scopes)
      = signature lit cr clock secret t scopes (canonicalRequest m uri cq ch sh bh) :=
  ⟨by decide, Signer.buildScopeString_regenerated_from_source lit clock now t scopes,
   Signer.deriveSigningKey_regenerated_from_source lit cr clock secret t scopes,
   Signer.hashCanonicalRequest_regenerated_from_source cr m uri cq ch sh bh,
   fun scope hcr key => Signer.sign_regenerated_from_source lit cr clock t scope hcr key,
   Signer.signature_regenerated_from_source lit cr clock secret now t scopes m uri cq ch sh bh⟩

example : (FactsC06SignIR.buildScopeStringIR defaultLiteral exClock false 0 0 [b "eu", b "s3"]).1 = b "20220101/eu/s3/megaease_request" := by
  decide +kernel

end SignerIR

end EgVerif.C06
