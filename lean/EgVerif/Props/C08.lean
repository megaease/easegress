import EgVerif.Proofs.CircuitBreakerTime
import EgVerif.Gen.FactsC08
import EgVerif.Proofs.CircuitBreakerIR
/-!
# C08 — the circuit breaker obeys the CLOSED / OPEN / HALF_OPEN contract on every call history

Property theorems about `Model.CircuitBreaker` (a function-by-function model of
`pkg/util/circuitbreaker/circuitbreaker.go`, of `circuitBreakerWrapper.Wrap` and of the error
mapping in `ServerPool.handle`). Part 1: what one `AcquirePermission` / `RecordResult` does in each
state, for **every** policy, breaker state and instant. Part 2: invariants over **every** history
of admissions, completions (also late and repeated ones) and clock advances (`Reach`).
Part 3: the ring buffers refine the abstract windows. Part 4: `Wrap`, proxy mapping, facts, the ties by
translation. Part 5: the model refines the judge's reference automaton. Part 6: the `wrap` and `proxy` judges.
-/
namespace EgVerif.C08
open EgVerif.CircuitBreaker

/-! ## Part 1 — single steps -/

/-- Floor division is exact for "rate at or above threshold": `uint8(f*100/t) ≥ T ↔ f/t ≥ T/100`. -/
theorem rate_ge_iff (f t T : Nat) (ht : 0 < t) : f * 100 / t ≥ T ↔ 100 * f ≥ T * t :=
  rate_ge_iff' f t T ht

/-- While CLOSED every call passes (and nothing changes). -/
theorem closed_permits (p : Policy) (cb : CB) (now : Int) (h : cb.st = St.closed) :
    acquire p cb now = (cb, ⟨true, cb.stateID⟩) := by
  simp [acquire, h]

/-- While OPEN every call is short-circuited until `waitDurationInOpenState` has elapsed
(and nothing changes). -/
theorem open_short_circuits_until_wait (p : Policy) (cb : CB) (now : Int) (h : cb.st = St.open)
    (hw : now - cb.transit < p.waitOpen) :
    acquire p cb now = (cb, ⟨false, cb.stateID⟩) := by
  simp [acquire, h, hw]

/-- Once the wait has elapsed the next call moves the breaker to HALF_OPEN (new state id, fresh
count window of `permitted` slots) and is the first trial — admitted iff `permitted > 0`. -/
theorem open_wait_elapsed_half_opens (p : Policy) (cb : CB) (now : Int) (h : cb.st = St.open)
    (hw : p.waitOpen ≤ now - cb.transit) :
    acquire p cb now =
      ({ st := St.halfOpen, transit := now, win := Win.count (newCountWin p.permitted),
         nHalf := if 0 < p.permitted then 1 else 0, stateID := cb.stateID + 1 },
       ⟨decide (0 < p.permitted), cb.stateID + 1⟩) := by
  have hw' : ¬ now - cb.transit < p.waitOpen := not_lt.mpr hw
  have hne : cb.st ≠ St.halfOpen := by simp [h]
  simp only [acquire, h, hw', transitTo_halfOpen p cb now hne]
  by_cases hp : 0 < p.permitted
  · simp [hp]
  · have h0 : p.permitted = 0 := by omega
    have hmw : ¬ (0 < p.maxWaitHalf ∧ p.maxWaitHalf < 0) := by omega
    simp [h0, hmw]

/-- In HALF_OPEN a call is admitted iff fewer than `permitted` trials were admitted so far. -/
theorem halfopen_admits_iff (p : Policy) (cb : CB) (now : Int) (h : cb.st = St.halfOpen) :
    (acquire p cb now).2.permitted = decide (cb.nHalf < p.permitted) ∧
    (cb.nHalf < p.permitted →
      acquire p cb now = ({ cb with nHalf := cb.nHalf + 1 }, ⟨true, cb.stateID⟩)) := by
  rw [acquire_half p cb now h]
  by_cases hp : cb.nHalf < p.permitted
  · simp [hp]
  · rw [if_neg hp]
    split_ifs <;> simp [hp]

/-- `maxWaitDurationInHalfOpenState`, when set and exceeded, reopens a half-open breaker whose
trials are all handed out; the call itself is short-circuited. -/
theorem maxwait_reopens (p : Policy) (cb : CB) (now : Int) (h : cb.st = St.halfOpen)
    (hfull : p.permitted ≤ cb.nHalf) (hm : 0 < p.maxWaitHalf) (hel : p.maxWaitHalf < now - cb.transit) :
    acquire p cb now =
      ({ cb with st := St.open, transit := now, stateID := cb.stateID + 1 }, ⟨false, cb.stateID + 1⟩) := by
  rw [acquire_half p cb now h, if_neg (by omega), if_pos ⟨hm, hel⟩, transitTo_open p cb now (by simp [h])]

/-- While `maxWaitDurationInHalfOpenState` is not set or not yet exceeded, a half-open breaker whose trials are
all handed out short-circuits the call and does not change. -/
theorem halfopen_full_short_circuits (p : Policy) (cb : CB) (now : Int) (h : cb.st = St.halfOpen)
    (hfull : p.permitted ≤ cb.nHalf) (hno : p.maxWaitHalf ≤ 0 ∨ now - cb.transit ≤ p.maxWaitHalf) :
    acquire p cb now = (cb, ⟨false, cb.stateID⟩) := by
  rw [acquire_half p cb now h, if_neg (by omega), if_neg (by omega)]

/-- A result whose state id is not the current one (the call was admitted in an earlier state)
is ignored. -/
theorem stale_result_ignored (p : Policy) (cb : CB) (id : Nat) (e : Bool) (d now : Int)
    (hid : id ≠ cb.stateID) : record p cb id e d now = cb :=
  record_stale p cb e d now hid

/-- After a current result is recorded in CLOSED the breaker is OPEN iff the window holds at least
`minimumNumberOfCalls` results and the failure rate or the slow-call rate is at or above its
threshold (exact rational comparison); otherwise it stays CLOSED; in both cases the result is in
the window. -/
theorem opens_iff_threshold (p : Policy) (cb : CB) (e : Bool) (d now : Int) (h : cb.st = St.closed) :
    let w' := cb.win.push now (classify p e d)
    let cb' := record p cb cb.stateID e d now
    let reached := p.minCalls ≤ w'.total ∧
      (p.failTh * w'.total ≤ 100 * w'.failure ∨ p.slowTh * w'.total ≤ 100 * w'.slow)
    (reached → cb' = { cb with win := w', st := St.open, transit := now, stateID := cb.stateID + 1 }) ∧
    (¬ reached → cb' = { cb with win := w' }) := by
  have hne : ({ cb with win := cb.win.push now (classify p e d) } : CB).st ≠ St.open := by simp [h]
  rw [record_current]
  dsimp only
  rw [transitTo_open p _ now hne]
  simp only [h, reduceCtorEq, if_false]
  constructor
  · intro hr
    rw [if_neg (by omega), if_pos hr.2]
  · intro hr
    by_cases hmin : (cb.win.push now (classify p e d)).total < p.minCalls
    · rw [if_pos hmin]
    · rw [if_neg hmin, if_neg (fun hb => hr ⟨by omega, hb⟩)]

/-- In HALF_OPEN the recorded results of the trials decide: until `min(minimumNumberOfCalls,
permitted)` results are in, nothing happens; then the breaker reopens if a rate is at or above its
threshold and closes (fresh window, new state id) otherwise. -/
theorem halfopen_verdict (p : Policy) (cb : CB) (e : Bool) (d now : Int) (h : cb.st = St.halfOpen) :
    let w' := cb.win.push now (classify p e d)
    let cb' := record p cb cb.stateID e d now
    let need := min p.minCalls p.permitted
    let bad := p.failTh * w'.total ≤ 100 * w'.failure ∨ p.slowTh * w'.total ≤ 100 * w'.slow
    (w'.total < need → cb' = { cb with win := w' }) ∧
    (need ≤ w'.total → bad →
      cb' = { cb with win := w', st := St.open, transit := now, stateID := cb.stateID + 1 }) ∧
    (need ≤ w'.total → ¬ bad →
      cb' = { cb with st := St.closed, transit := now, stateID := cb.stateID + 1,
                      win := if p.timeBased then Win.time (newTimeWin p.size now)
                             else Win.count (newCountWin p.size) }) := by
  have hno : ({ cb with win := cb.win.push now (classify p e d) } : CB).st ≠ St.open := by simp [h]
  have hnc : ({ cb with win := cb.win.push now (classify p e d) } : CB).st ≠ St.closed := by simp [h]
  rw [record_current]
  dsimp only
  rw [transitTo_open p _ now hno, transitTo_closed p _ now hnc]
  simp only [h, if_true]
  refine ⟨fun hlt => by rw [if_pos hlt], fun hge hbad => ?_, fun hge hgood => ?_⟩
  · rw [if_neg (by omega), if_pos hbad]
  · rw [if_neg (by omega), if_neg hgood]

/-- The state id changes exactly when the state changes, and then by exactly one — so a result
carrying an older id can never be mistaken for a current one. The id handed out by
`AcquirePermission` is the id of the state the breaker is in when the call returns. -/
theorem stateID_strictly_increases_on_transition (p : Policy) (cb : CB) (now : Int) :
    (let r := acquire p cb now
     ((r.1.st = cb.st ∧ r.1.stateID = cb.stateID) ∨ (r.1.st ≠ cb.st ∧ r.1.stateID = cb.stateID + 1))
       ∧ r.2.id = r.1.stateID) ∧
    (∀ id e d, let cb' := record p cb id e d now
      (cb'.st = cb.st ∧ cb'.stateID = cb.stateID) ∨ (cb'.st ≠ cb.st ∧ cb'.stateID = cb.stateID + 1)) := by
  constructor
  · -- state by state, from the single steps above
    dsimp only
    cases hst : cb.st with
    | disabled => simp [acquire, hst]
    | forceOpen => simp [acquire, hst]
    | closed =>
      rw [closed_permits p cb now hst]
      exact ⟨Or.inl ⟨hst, rfl⟩, rfl⟩
    | halfOpen =>
      obtain ⟨h1, h2, _⟩ := transitTo_ne p cb now (s := St.open) (by simp [hst])
      rw [acquire_half p cb now hst]
      split_ifs
      · exact ⟨Or.inl ⟨hst, rfl⟩, rfl⟩
      · exact ⟨Or.inr ⟨by simp [h1], h2⟩, h2.symm⟩
      · exact ⟨Or.inl ⟨hst, rfl⟩, rfl⟩
    | «open» =>
      by_cases hw : now - cb.transit < p.waitOpen
      · rw [open_short_circuits_until_wait p cb now hst hw]
        exact ⟨Or.inl ⟨hst, rfl⟩, rfl⟩
      · rw [open_wait_elapsed_half_opens p cb now hst (by omega)]
        exact ⟨Or.inr ⟨by simp, rfl⟩, rfl⟩
  · intro id e d
    by_cases hid : id = cb.stateID
    · subst hid
      rw [record_current]
      have key := transitTo_id p { cb with win := cb.win.push now (classify p e d) } now
      dsimp only at key ⊢
      generalize (if cb.st = St.halfOpen then min p.minCalls p.permitted else p.minCalls) = need
      split_ifs
      · exact Or.inl ⟨rfl, rfl⟩
      · exact key St.open
      · exact key St.closed
      · exact Or.inl ⟨rfl, rfl⟩
    · rw [record_stale p cb e d now hid]
      exact Or.inl ⟨rfl, rfl⟩

/-! ## Part 2 — every history

`Step` is one event of a call history: an admission request, the completion of a call that was
admitted at some earlier point (`id ∈ ids`: **any** earlier admission, however old, and possibly
completed before — a superset of what `Wrap` produces), or the clock moving forward.
`ids` collects the state ids handed to admitted calls. -/

inductive Step (p : Policy) : CB → Int → List Nat → CB → Int → List Nat → Prop
  | acquire (cb now ids) :
      Step p cb now ids (acquire p cb now).1 now
        (if (acquire p cb now).2.permitted then (acquire p cb now).2.id :: ids else ids)
  | record (cb now ids) (id : Nat) (e : Bool) (d : Int) : id ∈ ids →
      Step p cb now ids (record p cb id e d now) now ids
  | advance (cb now ids) (d : Int) : 0 ≤ d → Step p cb now ids cb (now + d) ids

/-- states reachable from `New(policy)` at any instant `t0` by any finite history -/
inductive Reach (p : Policy) : CB → Int → List Nat → Prop
  | init (t0 : Int) (hsize : 0 < p.size) : Reach p (new p t0) t0 []
  | step {cb now ids cb' now' ids'} : Reach p cb now ids → Step p cb now ids cb' now' ids' →
      Reach p cb' now' ids'

/-- `ids` are the state ids handed to admitted calls: none of them is the id of an OPEN state, and those that
are the id of a HALF_OPEN state are its `nHalf` trials. -/
structure Inv (p : Policy) (cb : CB) (now : Int) (ids : List Nat) : Prop where
  live : cb.st = St.closed ∨ cb.st = St.halfOpen ∨ cb.st = St.open
  ids_le : ∀ i ∈ ids, i ≤ cb.stateID
  open_none : cb.st = St.open → ids.count cb.stateID = 0
  half_cnt : cb.st = St.halfOpen → ids.count cb.stateID = cb.nHalf ∧ cb.nHalf ≤ p.permitted
  transit_le : cb.transit ≤ now

theorem inv_init (p : Policy) (t0 : Int) : Inv p (new p t0) t0 [] := by
  have : (new p t0).st = St.closed ∧ (new p t0).transit = t0 := by
    simp [new, transitTo, zero]
  exact ⟨Or.inl this.1, by simp, by simp, by simp [this.1], by rw [this.2]⟩

/-- entering a state leaves every admission so far with an older id -/
theorem inv_transit {p : Policy} {cb now ids} (inv : Inv p cb now ids) {s : St} (hne : s ≠ cb.st)
    (hs : s = St.closed ∨ s = St.halfOpen ∨ s = St.open) : Inv p (transitTo p cb now s) now ids := by
  obtain ⟨h1, h2, h3, h4⟩ := transitTo_ne p cb now hne
  have hz : ids.count (cb.stateID + 1) = 0 := List.count_eq_zero.mpr fun hm => by
    have := inv.ids_le _ hm
    omega
  refine ⟨by rw [h1]; exact hs, fun i hi => by have := inv.ids_le i hi; omega, fun _ => by rw [h2]; exact hz,
    fun h => ?_, by rw [h3]⟩
  rw [h1] at h
  rw [h2, hz, h4 h]
  exact ⟨rfl, Nat.zero_le _⟩

theorem inv_acquire_half {p : Policy} {cb now ids} (inv : Inv p cb now ids) (hh : cb.st = St.halfOpen) :
    Inv p (acquire p cb now).1 now
      (if (acquire p cb now).2.permitted then (acquire p cb now).2.id :: ids else ids) := by
  obtain ⟨hcnt, hle⟩ := inv.half_cnt hh
  rw [acquire_half p cb now hh]
  by_cases hp : cb.nHalf < p.permitted
  · rw [if_pos hp]
    refine ⟨inv.live, List.forall_mem_cons.mpr ⟨le_refl _, inv.ids_le⟩, fun h => by simp [hh] at h, fun _ => ?_,
      inv.transit_le⟩
    simp only [if_true, List.count_cons_self, hcnt]
    exact ⟨trivial, hp⟩
  · rw [if_neg hp]
    by_cases hmw : 0 < p.maxWaitHalf ∧ p.maxWaitHalf < now - cb.transit
    · rw [if_pos hmw]
      exact inv_transit inv (by simp [hh]) (Or.inr (Or.inr rfl))
    · rw [if_neg hmw]
      exact inv

theorem inv_step {p : Policy} {cb now ids cb' now' ids'} (inv : Inv p cb now ids)
    (st : Step p cb now ids cb' now' ids') : Inv p cb' now' ids' := by
  cases st with
  | advance d hd =>
    exact ⟨inv.live, inv.ids_le, inv.open_none, inv.half_cnt, by have := inv.transit_le; omega⟩
  | record id e d hid =>
    by_cases hcur : id = cb.stateID
    · subst hcur
      -- a current result: only possible in CLOSED / HALF_OPEN (in OPEN no admission carries the id)
      have hnotopen : St.open ≠ cb.st := fun ho =>
        List.count_eq_zero.mp (inv.open_none ho.symm) hid
      -- `Inv` does not look at the window
      have inv1 : Inv p { cb with win := cb.win.push now (classify p e d) } now ids :=
        ⟨inv.live, inv.ids_le, inv.open_none, inv.half_cnt, inv.transit_le⟩
      rw [record_current]
      dsimp only
      generalize (if cb.st = St.halfOpen then min p.minCalls p.permitted else p.minCalls) = need
      split_ifs with _ _ hh
      · exact inv1
      · exact inv_transit inv1 hnotopen (Or.inr (Or.inr rfl))
      · exact inv_transit inv1 (by simp [hh]) (Or.inl rfl)
      · exact inv1
    · rw [stale_result_ignored p cb id e d now hcur]
      exact inv
  | acquire =>
    rcases inv.live with hc | hh | ho
    · rw [closed_permits p cb now hc]
      exact ⟨inv.live, List.forall_mem_cons.mpr ⟨le_refl _, inv.ids_le⟩, by simp [hc], by simp [hc], inv.transit_le⟩
    · exact inv_acquire_half inv hh
    · by_cases hw : now - cb.transit < p.waitOpen
      · rw [open_short_circuits_until_wait p cb now ho hw]
        exact inv
      · rw [acquire_open_elapsed p cb now ho hw]
        have hne : St.halfOpen ≠ cb.st := by simp [ho]
        exact inv_acquire_half (inv_transit inv hne (Or.inr (Or.inl rfl))) (transitTo_ne p cb now hne).1

theorem reach_inv {p : Policy} {cb now ids} (r : Reach p cb now ids) : Inv p cb now ids := by
  induction r with
  | init t0 _ => exact inv_init p t0
  | step _ st ih => exact inv_step ih st

/-- **Over every history**: while HALF_OPEN, the calls admitted as trials (admissions carrying the
current state id) number exactly `numberOfCallsInHalfOpen`, which never exceeds
`permittedNumberOfCallsInHalfOpenState`. -/
theorem halfopen_admits_at_most {p : Policy} {cb now ids} (r : Reach p cb now ids)
    (h : cb.st = St.halfOpen) : ids.count cb.stateID ≤ p.permitted := by
  have := (reach_inv r).half_cnt h
  omega

/-- **Over every history**: the breaker is always CLOSED, HALF_OPEN or OPEN; and while OPEN no
admitted call carries the current state id, so the completion of *any* earlier admitted call —
whenever it arrives — leaves the OPEN breaker untouched. -/
theorem open_ignores_every_completion {p : Policy} {cb now ids} (r : Reach p cb now ids)
    (h : cb.st = St.open) (id : Nat) (hid : id ∈ ids) (e : Bool) (d : Int) (t : Int) :
    record p cb id e d t = cb := by
  apply stale_result_ignored
  intro heq
  have := (reach_inv r).open_none h
  rw [List.count_eq_zero] at this
  exact this (heq ▸ hid)

/-- **Over every history**: from a reachable OPEN state, whatever happens (admission requests,
completions of earlier calls, time passing) the breaker stays exactly as it is and admits nothing
as long as `waitDurationInOpenState` has not elapsed since it opened. -/
theorem open_short_circuits_history {p : Policy} {cb now ids cb' now' ids'}
    (r : Reach p cb now ids) (h : cb.st = St.open) (st : Step p cb now ids cb' now' ids')
    (hw : now' - cb.transit < p.waitOpen) : cb' = cb ∧ ids' = ids := by
  cases st with
  | advance d hd => exact ⟨rfl, rfl⟩
  | record id e d hid => exact ⟨open_ignores_every_completion r h id hid e d now, rfl⟩
  | acquire =>
    rw [open_short_circuits_until_wait p cb now h hw]
    simp

/-- **Over every history**: results of calls admitted in an earlier state are ignored — an admitted
call whose id is below the current state id changes nothing, and every admitted id is at most the
current one. -/
theorem earlier_state_result_ignored {p : Policy} {cb now ids} (r : Reach p cb now ids)
    (id : Nat) (hid : id ∈ ids) : id ≤ cb.stateID ∧
      (id < cb.stateID → ∀ e d t, record p cb id e d t = cb) := by
  refine ⟨(reach_inv r).ids_le id hid, fun hlt e d t => ?_⟩
  exact stale_result_ignored p cb id e d t (by omega)

/-! ## Part 3 — the ring buffers refine the abstract windows -/

/-- **Count-based window.** The ring (`bucket`, `bucketIdx`, three counters) refines "the last `N`
results since the state was entered": the relation `CountRel` holds for a new window, is preserved
by `Push` against the abstract push `lastN N (w ++ [r])` of the specification, and under it the
abstraction function returns exactly the abstract window and the counters are its counts (so
`Total`, `FailureRate`, `SlowRate` are the size and the rates of the last `N` results). -/
theorem countwin_refines (N : Nat) (hN : 0 < N) :
    CountRel N (newCountWin N) [] ∧
    (∀ c w r, CountRel N c w → r ≠ Res.unknown →
      CountRel N (c.push r) (lastN N (w ++ [r])) ∧ (c.push r).abs = lastN N (c.abs ++ [r])) ∧
    (∀ c w, CountRel N c w → c.abs = w ∧ c.total = w.length ∧ c.slow = w.count Res.slow ∧
      c.failure = w.count Res.failure ∧ w.length ≤ N) := by
  refine ⟨countRel_new N hN, ?_, ?_⟩
  · intro c w r h hr
    have h' := countRel_push h r hr
    exact ⟨h', by rw [countRel_abs h', countRel_abs h]⟩
  · intro c w h
    exact ⟨countRel_abs h, h.total, h.slow, h.failure, h.wlen⟩

/-- **Time-based window.** The ring of `N` one-second buckets (`beginAt`, `firstBucket`, three
counters) refines "the results recorded since the state was entered whose second index is greater
than `⌊now⌋ − N`": the relation `TimeRel` holds for a new window, is preserved by `evict(now)` against
dropping the results older than `N` seconds, and by `Push` against the abstract push of the
specification (`AWin.push`, `Spec/CircuitBreaker.lean`), for every non-decreasing sequence of instants (`hi ≤ ⌊now⌋`, where
`hi` bounds the seconds recorded so far); under it the three counters are the size and the
slow / failure counts of the abstract window. -/
theorem timewin_refines (N : Nat) (hN : 0 < N) :
    (∀ now, TimeRel N (newTimeWin N now) [] (secIdx now)) ∧
    (∀ t w hi now, TimeRel N t w hi → hi ≤ secIdx now →
      TimeRel N (t.evict now) (w.filter (fun e => decide (e.1 > secIdx now - N))) (secIdx now)) ∧
    (∀ t w hi now r, TimeRel N t w hi → hi ≤ secIdx now →
      TimeRel N (t.push now r) (w.filter (fun e => decide (e.1 > secIdx now - N)) ++ [(secIdx now, r)]) (secIdx now) ∧
      AWin.push (AWin.time N w) now r =
        AWin.time N (w.filter (fun e => decide (e.1 > secIdx now - N)) ++ [(secIdx now, r)])) ∧
    (∀ t w hi, TimeRel N t w hi →
      t.total = w.length ∧ t.slow = (w.map (·.2)).count Res.slow ∧ t.failure = (w.map (·.2)).count Res.failure ∧
      (∀ e ∈ w, t.beginAt / sec ≤ e.1 ∧ e.1 < t.beginAt / sec + N)) := by
  refine ⟨fun now => timeRel_new N hN now, fun t w hi now h hm => timeRel_evict h now hm,
    fun t w hi now r h hm => ⟨timeRel_push h now hm r, rfl⟩, ?_⟩
  intro t w hi h
  refine ⟨?_, h.ring.slow, h.ring.failure, fun e he => ⟨h.ring.lo e he, h.ring.hi e he⟩⟩
  rw [h.ring.total]
  exact List.length_map _

/-- The classification never produces `CallResultUnknown`, so every recorded result is a real one. -/
theorem classify_known (p : Policy) (e : Bool) (d : Int) : classify p e d ≠ Res.unknown := by
  unfold classify; split_ifs <;> simp

/-! ## Part 4 — `Wrap`, the proxy mapping, and the facts the model rests on -/

/-- One wrapped call makes exactly one `AcquirePermission`; if it is refused the handler is not
invoked, nothing is recorded and `ErrShortCircuited` is returned; if it is admitted the handler runs
once and exactly one result is recorded — a failure iff the handler returned an error or panicked. -/
theorem wrap_records_once (permitted : Bool) (o : Outcome) :
    let r := wrap permitted o
    r.1.count Ev.acquire = 1 ∧
    (permitted = false → r = ([Ev.acquire], WrapRet.shortCircuited)) ∧
    (permitted = true → r.1 = [Ev.acquire, Ev.handler, Ev.record (decide (o ≠ Outcome.ok))] ∧
      r.1.count (Ev.record true) + r.1.count (Ev.record false) = 1 ∧ r.2 ≠ WrapRet.shortCircuited) := by
  cases permitted <;> cases o <;> decide

/-- A short-circuited call is reported by the proxy as 503 / `shortCircuited`, and no server is
contacted (the wrapped handler — the only caller of `doHandle` — is not invoked). -/
theorem short_circuit_503_no_call (o : Outcome) (b : Bool) :
    (wrap false o).2 = WrapRet.shortCircuited ∧ Ev.handler ∉ (wrap false o).1 ∧
      poolOutcome b PoolErr.shortCircuited = ("shortCircuited", some 503) := by
  cases o <;> cases b <;> decide

/-- Facts obligation (regenerated from the source on every run): every `CircuitBreaker` method that
writes the breaker's state or calls `transitTo` takes `cb.lock` before it touches any field other
than the immutable `policy` (`transitTo` itself is only called by such methods and by `New`), and
every clock read goes through `nowFunc`. Concurrent callers are therefore a sequential history of
`acquire` / `record` steps in lock order, which is what Part 2 quantifies over. -/
theorem linearizable :
    Gen.FactsC08.extractionFailed = false ∧
    (∀ m ∈ Gen.FactsC08.stateWriters ++ Gen.FactsC08.transitCallers,
      m = "transitTo" ∨ Gen.FactsC08.lockedMethods.lookup m = some true) ∧
    Gen.FactsC08.lockedMethods.lookup "AcquirePermission" = some true ∧
    Gen.FactsC08.lockedMethods.lookup "RecordResult" = some true ∧
    Gen.FactsC08.timeNowMentions = 1 := by decide

/-- Facts obligation: the constants have the numeric values the model's `St.toNat` / `Res` assume, and
`ServerPool.handle` maps `ErrShortCircuited` as `poolOutcome` (`Wrap`'s shape: `wrap_regenerated_from_source`). -/
theorem source_shape :
    Gen.FactsC08.stateConsts = ["StateDisabled", "StateClosed", "StateHalfOpen", "StateOpen", "StateForceOpen"] ∧
    Gen.FactsC08.callResultConsts = ["CallResultUnknown", "CallResultSuccess", "CallResultSlow", "CallResultFailure"] ∧
    -- (the statement shape of `Wrap` that used to be pinned here by printed statements is now tied by
    -- `wrap_regenerated_from_source`, which survives renames and re-orderings)
    Gen.FactsC08.shortCircuitBlock = ["sp.buildFailureResponse(spCtx, http.StatusServiceUnavailable)",
      "return resultShortCircuited"] ∧
    Gen.FactsC08.resultShortCircuited = (poolOutcome false PoolErr.shortCircuited).1 :=
  ⟨rfl, rfl, rfl, rfl⟩

/-! ## Non-vacuity: concrete histories meeting the hypotheses -/

/-- failure threshold 50 %, count window of 2, minimum 2 calls, one trial, wait 1 s -/
private def pEx : Policy :=
  { failTh := 50, slowTh := 100, timeBased := false, size := 2, permitted := 1, minCalls := 2,
    slowDur := 1000000000, maxWaitHalf := 0, waitOpen := 1000000000 }

/-- exactly at the threshold: 1 failure of 2 at FT = 50 opens the breaker; it then short-circuits
until 1 s has passed, admits one trial, rejects the second, and the trial's success closes it. -/
example : run pEx (new pEx 0) 0 []
    [Op.acquire, Op.acquire, Op.record 0 false 0, Op.record 1 true 0, Op.acquire, Op.advance 999999999,
     Op.acquire, Op.advance 1, Op.acquire, Op.acquire, Op.record 8 false 0, Op.acquire] =
    [⟨true, 1, 1, 0⟩, ⟨true, 1, 1, 0⟩, ⟨false, 0, 1, 1⟩, ⟨false, 0, 3, 2⟩, ⟨false, 2, 3, 2⟩, ⟨false, 0, 3, 2⟩,
     ⟨false, 2, 3, 2⟩, ⟨false, 0, 3, 2⟩, ⟨true, 3, 2, 0⟩, ⟨false, 3, 2, 0⟩, ⟨false, 0, 1, 0⟩, ⟨true, 4, 1, 0⟩] := by
  decide

/-- the reference automaton yields the same trace -/
example : (Ref.run pEx (Ref.new pEx 0) 0 []
    [Op.acquire, Op.acquire, Op.record 0 false 0, Op.record 1 true 0, Op.acquire, Op.advance 999999999,
     Op.acquire, Op.advance 1, Op.acquire, Op.acquire, Op.record 8 false 0, Op.acquire]).map (·.st) =
    [1, 1, 1, 3, 3, 3, 3, 3, 2, 2, 1, 1] := by decide

/-- a reachable OPEN state with outstanding admitted calls (the hypotheses of
`open_short_circuits_history` / `open_ignores_every_completion` are satisfiable) -/
example : ∃ cb now ids, Reach pEx cb now ids ∧ cb.st = St.open ∧ ids ≠ [] := by
  refine ⟨_, _, _, Reach.step (Reach.step (Reach.step (Reach.step (Reach.init 0 (by decide)) (Step.acquire _ _ _))
    (Step.acquire _ _ _)) (Step.record _ _ _ 1 true 0 (by decide))) (Step.record _ _ _ 1 true 0 (by decide)),
    by decide, by decide⟩

/-! ### Regenerated tie by translation (`notes/IR.md`)

`Gen.FactsC08IR.*IR` are re-translated on every run from the current bodies of `CountBasedWindow.Push`,
`TimeBasedWindow.evict` / `Push`, `CircuitBreaker.transitTo`, `AcquirePermission`, `RecordResult` (go/ast → Lean,
`harness/factextract/irlib.go`; switch → if-chain, fall-through branches merged through tuples, mutex
and listener ignored); each is the model function on every input. Proofs: `Proofs/CircuitBreakerIR.lean`. -/

theorem countPush_regenerated_from_source (w : CountWin) (r : Res) :
    Gen.FactsC08IR.extractionFailed = false ∧ Gen.FactsC08IR.countPushIR w r = w.push r :=
  ⟨by decide, CircuitBreaker.countPush_regenerated_from_source w r⟩

theorem transitTo_regenerated_from_source (p : Policy) (cb : CB) (now : Int) (s : St) :
    Gen.FactsC08IR.extractionFailed = false ∧ Gen.FactsC08IR.transitToIR p cb now s = transitTo p cb now s :=
  ⟨by decide, CircuitBreaker.transitTo_regenerated_from_source p cb now s⟩

theorem acquire_regenerated_from_source (p : Policy) (cb : CB) (now : Int) :
    Gen.FactsC08IR.extractionFailed = false ∧ Gen.FactsC08IR.acquireIR p cb now = acquire p cb now :=
  ⟨by decide, CircuitBreaker.acquire_regenerated_from_source p cb now⟩

theorem record_regenerated_from_source (p : Policy) (cb : CB) (id : Nat) (hasErr : Bool) (d now : Int) :
    Gen.FactsC08IR.extractionFailed = false ∧
      Gen.FactsC08IR.recordIR p cb id hasErr d now = record p cb id hasErr d now :=
  ⟨by decide, CircuitBreaker.record_regenerated_from_source p cb id hasErr d now⟩

/-- `TimeBasedWindow.evict` (the `for i := 0; i < evicts; i++` loop as generated recursion on a fuel,
`b := &tbw.bucket[i]` as reads / writes through the list). -/
theorem timeEvict_regenerated_from_source (w : TimeWin) (now : Int) :
    Gen.FactsC08IR.extractionFailed = false ∧ Gen.FactsC08IR.timeEvictIR w now = w.evict now :=
  ⟨by decide, CircuitBreaker.timeEvict_regenerated_from_source w now⟩

/-- `TimeBasedWindow.Push`; Go's `int` index arithmetic is the model's `Nat` arithmetic as long as the
clock is not behind the window start after `evict`. -/
theorem timePush_regenerated_from_source (w : TimeWin) (now : Int) (r : Res)
    (h : (w.evict now).beginAt ≤ now) :
    Gen.FactsC08IR.extractionFailed = false ∧ Gen.FactsC08IR.timePushIR w now r = w.push now r :=
  ⟨by decide, CircuitBreaker.timePush_regenerated_from_source w now r h⟩

/-! ### `Wrap` tied by translation, and concurrent wrapped calls -/

/-- `circuitBreakerWrapper.Wrap`'s closure, regenerated from the source on every run (acquire; refused ⇒
`ErrShortCircuited`; handler; exactly one `RecordResult` on the normal path, and — through the inlined
deferred closure — exactly one `RecordResult(…, true, …)` when the handler panics). -/
theorem wrap_regenerated_from_source (permitted : Bool) (o : Outcome) :
    Gen.FactsC08IRw.extractionFailed = false ∧ Gen.FactsC08IRw.wrapIR permitted o = wrap permitted o :=
  ⟨by decide, CircuitBreaker.wrap_regenerated_from_source permitted o⟩

example : Gen.FactsC08IRw.wrapIR true Outcome.panic = ([Ev.acquire, Ev.handler, Ev.record true], WrapRet.panics) := by
  decide

/-- what concurrent callers of the wrapped handler do to the breaker: thread `t` enters `Wrap`
(`AcquirePermission` under the lock), later — if it was admitted — its handler is over and `Wrap` records
once with the id it was given (`wrap_records_once`); time passes -/
inductive WEv
  | start (t : Nat)
  | finish (t : Nat) (hasErr : Bool) (d : Int)
  | tick (d : Nat)

structure WSt where
  cb : CB
  now : Int
  /-- every id handed out so far (the history's `ids`) -/
  ids : List Nat
  /-- admitted calls still running: (thread, id it holds) -/
  held : List (Nat × Nat)
  /-- threads that were short-circuited -/
  refused : List Nat

def wstep (p : Policy) (s : WSt) : WEv → WSt
  | .start t =>
    let r := acquire p s.cb s.now
    if r.2.permitted then { s with cb := r.1, ids := r.2.id :: s.ids, held := (t, r.2.id) :: s.held }
    else { s with cb := r.1, refused := t :: s.refused }
  | .finish t e d =>
    match s.held.find? (fun h => h.1 == t) with
    | some h => { s with cb := record p s.cb h.2 e d s.now, held := s.held.filter (fun h => h.1 != t) }
    | none => s
  | .tick d => { s with now := s.now + d }

/-- what every interleaving keeps: the breaker is on a history, and the running calls hold ids it handed out -/
def WInv (p : Policy) (s : WSt) : Prop :=
  Reach p s.cb s.now s.ids ∧ (s.held.map (·.2)).Sublist s.ids

theorem wstep_inv (p : Policy) (s : WSt) (e : WEv) (h : WInv p s) : WInv p (wstep p s e) := by
  obtain ⟨hr, hs⟩ := h
  cases e with
  | start t =>
    have st := Step.acquire (p := p) s.cb s.now s.ids
    simp only [wstep]
    by_cases hp : (acquire p s.cb s.now).2.permitted = true
    · simp only [hp, if_true] at st ⊢
      refine ⟨Reach.step hr st, ?_⟩
      simp only [List.map_cons]
      exact hs.cons_cons _
    · simp only [hp, Bool.false_eq_true, if_false] at st ⊢
      exact ⟨Reach.step hr st, hs⟩
  | finish t e d =>
    simp only [wstep]
    cases hf : s.held.find? (fun h => h.1 == t) with
    | none => exact ⟨hr, hs⟩
    | some h =>
      have hm : h ∈ s.held := List.mem_of_find?_eq_some hf
      have hid : h.2 ∈ s.ids := hs.subset (List.mem_map_of_mem hm)
      refine ⟨Reach.step hr (Step.record s.cb s.now s.ids h.2 e d hid), ?_⟩
      exact ((List.filter_sublist (l := s.held)).map _).trans hs
  | tick d =>
    simp only [wstep]
    exact ⟨Reach.step hr (Step.advance s.cb s.now s.ids d (by omega)), hs⟩

/-- **Concurrent wrapped calls in HALF_OPEN** — for *every* interleaving of any number of callers' `Wrap`
entries, completions (in any order, however late) and clock advances, starting from `New`: the breaker's
state is a reachable history (so every theorem of Part 2 applies), and while HALF_OPEN the calls that are
running as trials of the current half-open period never exceed `permittedNumberOfCallsInHalfOpenState`;
all other callers were short-circuited (no handler call, no record). -/
theorem concurrent_wraps_halfopen (p : Policy) (hsz : 0 < p.size) (t0 : Int) (evs : List WEv) :
    let s := evs.foldl (wstep p) ⟨new p t0, t0, [], [], []⟩
    Reach p s.cb s.now s.ids ∧
    (s.cb.st = St.halfOpen →
      (s.held.filter (fun h => h.2 == s.cb.stateID)).length ≤ p.permitted) := by
  have key : ∀ (evs : List WEv) (s : WSt), WInv p s → WInv p (evs.foldl (wstep p) s) := by
    intro evs
    induction evs with
    | nil => exact fun _ h => h
    | cons e es ih => exact fun s h => ih _ (wstep_inv p s e h)
  obtain ⟨hr, hs⟩ := key evs ⟨new p t0, t0, [], [], []⟩ ⟨Reach.init t0 hsz, by simp⟩
  refine ⟨hr, fun hh => ?_⟩
  have h1 := halfopen_admits_at_most hr hh
  have h2 := hs.count_le (evs.foldl (wstep p) ⟨new p t0, t0, [], [], []⟩).cb.stateID
  rw [List.count_eq_countP, List.countP_map, List.countP_eq_length_filter] at h2
  exact le_trans h2 h1

/-- three callers racing into a HALF_OPEN breaker with one permitted trial: threads 0 and 1 open it (two
failures), after the wait thread 2 is admitted as the trial, threads 3 and 4 are short-circuited while it
runs — the hypothesis `st = halfOpen` of `concurrent_wraps_halfopen` is met with a running trial -/
example :
    let s := ([WEv.start 0, .start 1, .finish 1 true 0, .finish 0 true 0, .tick 1000000000, .start 2, .start 3,
      .start 4] : List WEv).foldl (wstep pEx) ⟨new pEx 0, 0, [], [], []⟩
    s.cb.st = St.halfOpen ∧ s.held = [(2, s.cb.stateID)] ∧ s.refused = [4, 3] := by
  decide

/-- `CircuitBreakerPolicy.CreateWrapper`, regenerated from the source on every run: which `libcb.Policy` the
wrapped breaker is created with -/
theorem createWrapper_regenerated_from_source (raw : RawPolicy) (parse : String → Int × Bool) :
    Gen.FactsC08IRc.extractionFailed = false ∧ Gen.FactsC08IRc.createWrapperIR raw parse = policyOf raw parse :=
  ⟨by decide, CircuitBreaker.createWrapper_regenerated_from_source raw parse⟩

/-- nothing configured: one minute slow threshold and open wait, no half-open maximum; configured
durations are taken as parsed -/
example :
    let p := policyOf ⟨"COUNT_BASED", 50, 100, 10, 2, 5, "", "", "30s"⟩ (fun _ => (30000000000, false))
    p.slowDur = 60000000000 ∧ p.maxWaitHalf = 0 ∧ p.waitOpen = 30000000000 ∧ p.failTh = 50 ∧ p.permitted = 2 := by
  simp [policyOf]

/-! ### Non-vacuity with `maxWaitHalf > 0` and with a time-based window -/

/-- `maxWaitDurationInHalfOpenState = 0.5 s` on a reachable history: two failures open the breaker, after
the open wait the trial (id 3) is admitted and the second caller refused; the trial stalls, and 0.5 s + 1 ns
later the next caller finds the half-open breaker re-opened (id 4) — `maxwait_reopens`' hypotheses are met -/
example : (run ⟨50, 100, false, 2, 1, 2, 1000000000, 500000000, 1000000000⟩
      (new ⟨50, 100, false, 2, 1, 2, 1000000000, 500000000, 1000000000⟩ 0) 0 []
      [Op.acquire, Op.acquire, Op.record 0 true 0, Op.record 1 true 0, Op.advance 1000000000, Op.acquire,
       Op.acquire, Op.advance 500000001, Op.acquire]).map (fun o => (o.permitted, o.id, o.st)) =
    [(true, 1, 1), (true, 1, 1), (false, 0, 1), (false, 0, 3), (false, 0, 3), (true, 3, 2), (false, 3, 2),
     (false, 0, 2), (false, 4, 3)] := by decide

/-- a time-based window of 2 s: the failure of second 0 is evicted when the next result arrives 2.5 s later
(the window total stays 1), two failures within the window then open the breaker — `timewin_refines` /
`opens_iff_threshold` on a reachable history -/
example : (run ⟨50, 100, true, 2, 1, 2, 1000000000, 0, 1000000000⟩
      (new ⟨50, 100, true, 2, 1, 2, 1000000000, 0, 1000000000⟩ 0) 0 []
      [Op.acquire, Op.record 0 true 0, Op.advance 2500000000, Op.acquire, Op.record 3 true 0, Op.acquire,
       Op.record 5 true 0, Op.acquire]).map (fun o => (o.permitted, o.st, o.total)) =
    [(true, 1, 0), (false, 1, 1), (false, 1, 1), (true, 1, 1), (false, 1, 1), (true, 1, 1), (false, 3, 2),
     (false, 3, 2)] := by decide

/-! ## Part 5 — the model refines the judge's reference automaton

`Sim` relates a breaker state of the model to a state of the reference automaton `Ref` (the judge's spec):
same state, entry time, epoch = state id, trial count, and the ring-buffer window refines the automaton's
abstract window (`CountRel` / `TimeRel`, with the recorded seconds not ahead of the clock). It holds on every
reachable state (`reach_sim`); it gives the window clause (`reach_window`), the premise of
`timePush_regenerated_from_source` on `Reach`, and `model_refines_ref`. -/

def WinAgree (win : Win) (aw : AWin) : Prop :=
  win.total = aw.len ∧ win.failure = aw.cnt Res.failure ∧ win.slow = aw.cnt Res.slow

def ClosedWin (p : Policy) (win : Win) (aw : AWin) (now : Int) : Prop :=
  if p.timeBased then
    ∃ t w hi, win = Win.time t ∧ aw = AWin.time p.size w ∧ TimeRel p.size t w hi ∧ hi ≤ secIdx now
  else ∃ c w, win = Win.count c ∧ aw = AWin.count p.size w ∧ CountRel p.size c w

/-- window relation while HALF_OPEN (`p.permitted` slots; with `permitted = 0` nothing is ever recorded) -/
def HalfWin (p : Policy) (win : Win) (aw : AWin) : Prop :=
  ∃ c w, win = Win.count c ∧ aw = AWin.count p.permitted w ∧ c.total = w.length ∧
    (0 < p.permitted → CountRel p.permitted c w)

structure Sim (p : Policy) (cb : CB) (r : Ref) (now : Int) : Prop where
  st : r.st = cb.st
  since : r.since = cb.transit
  epoch : r.epoch = cb.stateID
  trials : cb.st = St.halfOpen → r.trials = cb.nHalf
  closedWin : cb.st = St.closed → ClosedWin p cb.win r.win now
  halfWin : cb.st = St.halfOpen → HalfWin p cb.win r.win

theorem closedWin_agree {p : Policy} {win : Win} {aw : AWin} {now : Int} (h : ClosedWin p win aw now) :
    WinAgree win aw := by
  unfold ClosedWin at h
  split at h
  · obtain ⟨t, w, hi, rfl, rfl, hr, _⟩ := h
    exact ⟨hr.ring.total, hr.ring.failure, hr.ring.slow⟩
  · obtain ⟨c, w, rfl, rfl, hr⟩ := h
    exact ⟨hr.total, hr.failure, hr.slow⟩

theorem closedWin_fresh (p : Policy) (hsz : 0 < p.size) (now : Int) :
    ClosedWin p (if p.timeBased then Win.time (newTimeWin p.size now) else Win.count (newCountWin p.size))
      (freshWin p) now := by
  unfold ClosedWin freshWin
  cases p.timeBased
  · simp only [Bool.false_eq_true, if_false]
    exact ⟨_, _, rfl, rfl, countRel_new p.size hsz⟩
  · simp only [if_true]
    exact ⟨_, _, _, rfl, rfl, timeRel_new p.size hsz now, le_refl _⟩

theorem halfWin_fresh (p : Policy) : HalfWin p (Win.count (newCountWin p.permitted)) (AWin.count p.permitted []) :=
  ⟨_, _, rfl, rfl, rfl, fun h => countRel_new p.permitted h⟩

theorem sim_push {p : Policy} {cb : CB} {r : Ref} {now : Int} (s : Sim p cb r now)
    (hcur : cb.st = St.closed ∨ (cb.st = St.halfOpen ∧ 0 < p.permitted)) (res : Res) (hres : res ≠ Res.unknown) :
    Sim p { cb with win := cb.win.push now res } { r with win := r.win.push now res } now ∧
      WinAgree (cb.win.push now res) (r.win.push now res) := by
  rcases hcur with hc | ⟨hh, hp⟩
  · have hw : ClosedWin p (cb.win.push now res) (r.win.push now res) now := by
      have h := s.closedWin hc
      unfold ClosedWin at h ⊢
      split at h
      · obtain ⟨t, w, hi, h1, h2, hr, hle⟩ := h
        rw [if_pos ‹_›, h1, h2]
        exact ⟨_, _, _, rfl, rfl, timeRel_push hr now hle res, le_refl _⟩
      · obtain ⟨c, w, h1, h2, hr⟩ := h
        rw [if_neg ‹_›, h1, h2]
        exact ⟨_, _, rfl, rfl, countRel_push hr res hres⟩
    exact ⟨⟨s.st, s.since, s.epoch, s.trials, fun _ => hw, fun h => by simp [hc] at h⟩, closedWin_agree hw⟩
  · obtain ⟨c, w, h1, h2, _, hr⟩ := s.halfWin hh
    have h' := countRel_push (hr hp) res hres
    refine ⟨⟨s.st, s.since, s.epoch, s.trials, fun h => by simp [hh] at h, fun _ => ?_⟩, ?_⟩
    · rw [h1, h2]
      exact ⟨_, _, rfl, rfl, h'.total, fun _ => h'⟩
    · rw [h1, h2]
      exact ⟨h'.total, h'.failure, h'.slow⟩

theorem sim_new (p : Policy) (hsz : 0 < p.size) (t0 : Int) : Sim p (new p t0) (Ref.new p t0) t0 := by
  have hne : zero.st ≠ St.closed := by simp [zero]
  have hn := transitTo_closed p zero t0 hne
  unfold new
  rw [hn]
  refine ⟨rfl, rfl, rfl, fun h => by simp at h, fun _ => closedWin_fresh p hsz t0, fun h => by simp at h⟩

theorem sim_advance {p : Policy} {cb : CB} {r : Ref} {now : Int} (s : Sim p cb r now) (d : Int) (hd : 0 ≤ d) :
    Sim p cb r (now + d) := by
  refine ⟨s.st, s.since, s.epoch, s.trials, fun hc => ?_, s.halfWin⟩
  -- the recorded seconds stay behind the clock
  have h := s.closedWin hc
  unfold ClosedWin at h ⊢
  split at h
  · obtain ⟨t, w, hi, h1, h2, hr, hh⟩ := h
    rw [if_pos ‹_›]
    exact ⟨t, w, hi, h1, h2, hr, le_trans hh (Int.ediv_le_ediv (by decide) (by omega))⟩
  · rw [if_neg ‹_›]
    exact h

/-- entering a state on both sides: the windows are fresh, only the epoch has to agree beforehand -/
theorem sim_transit {p : Policy} {cb : CB} {r : Ref} (now : Int) (hep : r.epoch = cb.stateID) (hsz : 0 < p.size)
    {s : St} (hne : s ≠ cb.st) : Sim p (transitTo p cb now s) (r.enter p now s) now := by
  obtain ⟨h1, h2, h3, h4⟩ := transitTo_ne p cb now hne
  refine ⟨h1.symm, h3.symm, by rw [h2, ← hep]; rfl, fun h => ?_, fun h => ?_, fun h => ?_⟩
  · rw [h1] at h
    rw [h4 h]
    simp [Ref.enter, h]
  · rw [h1] at h
    subst h
    rw [transitTo_closed p cb now (Ne.symm hne)]
    simpa [Ref.enter] using closedWin_fresh p hsz now
  · rw [h1] at h
    subst h
    rw [transitTo_halfOpen p cb now (Ne.symm hne)]
    simpa [Ref.enter] using halfWin_fresh p

theorem sim_acquire_half {p : Policy} {cb : CB} {r : Ref} {now : Int} (s : Sim p cb r now) (hsz : 0 < p.size)
    (hh : cb.st = St.halfOpen) :
    Sim p (acquire p cb now).1 (Ref.acquire p r now).1 now ∧
      (acquire p cb now).2.permitted = (Ref.acquire p r now).2 := by
  -- the automaton's admission, in the model's terms
  have hr : Ref.acquire p r now =
      if cb.nHalf < p.permitted then ({ r with trials := r.trials + 1 }, true)
      else if 0 < p.maxWaitHalf ∧ p.maxWaitHalf < now - cb.transit then (r.enter p now St.open, false)
      else (r, false) := by
    simp only [Ref.acquire, s.st, hh, s.trials hh, s.since, gt_iff_lt]
  rw [hr, acquire_half p cb now hh]
  by_cases hp : cb.nHalf < p.permitted
  · rw [if_pos hp, if_pos hp]
    exact ⟨⟨s.st, s.since, s.epoch, fun _ => by simp [s.trials hh], s.closedWin, s.halfWin⟩, rfl⟩
  · rw [if_neg hp, if_neg hp]
    by_cases hmw : 0 < p.maxWaitHalf ∧ p.maxWaitHalf < now - cb.transit
    · rw [if_pos hmw, if_pos hmw]
      exact ⟨sim_transit now s.epoch hsz (by simp [hh]), rfl⟩
    · rw [if_neg hmw, if_neg hmw]
      exact ⟨s, rfl⟩

theorem sim_acquire {p : Policy} {cb : CB} {r : Ref} {now : Int} (s : Sim p cb r now) (hsz : 0 < p.size)
    (live : cb.st = St.closed ∨ cb.st = St.halfOpen ∨ cb.st = St.open) :
    Sim p (acquire p cb now).1 (Ref.acquire p r now).1 now ∧
      (acquire p cb now).2.permitted = (Ref.acquire p r now).2 := by
  rcases live with hc | hh | ho
  · rw [closed_permits p cb now hc]
    have : Ref.acquire p r now = (r, true) := by simp [Ref.acquire, s.st, hc]
    rw [this]
    exact ⟨s, rfl⟩
  · exact sim_acquire_half s hsz hh
  · have hro : r.st = St.open := by rw [s.st, ho]
    by_cases hw : now - cb.transit < p.waitOpen
    · rw [open_short_circuits_until_wait p cb now ho hw]
      have : Ref.acquire p r now = (r, false) := by
        have : now - r.since < p.waitOpen := by rw [s.since]; exact hw
        simp [Ref.acquire, hro, this]
      rw [this]
      exact ⟨s, rfl⟩
    · have hne : St.halfOpen ≠ cb.st := by simp [ho]
      rw [acquire_open_elapsed p cb now ho hw, Ref.acquire_open_elapsed p r now hro (by rw [s.since]; exact hw)]
      exact sim_acquire_half (sim_transit now s.epoch hsz hne) hsz (transitTo_ne p cb now hne).1

theorem thresholdReached_iff {p : Policy} {win : Win} {aw : AWin} (h : WinAgree win aw) :
    thresholdReached p aw = true ↔
      (p.failTh * win.total ≤ 100 * win.failure ∨ p.slowTh * win.total ≤ 100 * win.slow) := by
  obtain ⟨h1, h2, h3⟩ := h
  simp only [thresholdReached, Bool.or_eq_true, decide_eq_true_eq, ge_iff_le, h1, h2, h3]

/-- `hcur`: a result carrying the current id arrives only while CLOSED or HALF_OPEN with `permitted > 0` (on a
history: `current_id_live`); in HALF_OPEN with `permitted = 0` the two windows are not related by `CountRel`. -/
theorem sim_record {p : Policy} {cb : CB} {r : Ref} {now : Int} (s : Sim p cb r now) (hsz : 0 < p.size)
    (id : Nat) (e : Bool) (d : Int)
    (hcur : id = cb.stateID → cb.st = St.closed ∨ (cb.st = St.halfOpen ∧ 0 < p.permitted)) :
    Sim p (record p cb id e d now) (Ref.record p r id (classify p e d) now) now := by
  by_cases hid : id = cb.stateID
  · subst hid
    have hnotopen : St.open ≠ cb.st := by
      rcases hcur rfl with hc | ⟨hh, _⟩
      · simp [hc]
      · simp [hh]
    obtain ⟨rst, rsince, rwin, rtrials, repoch⟩ := r
    obtain rfl : rst = cb.st := s.st
    obtain rfl : repoch = cb.stateID := s.epoch
    obtain ⟨s1, hag⟩ := sim_push s (hcur rfl) (classify p e d) (classify_known p e d)
    -- both sides take the same branch of the same decision
    rw [record_current]
    simp only [Ref.record, ne_eq, not_true_eq_false, if_false, thresholdReached_iff (p := p) hag, ← hag.1]
    generalize (if cb.st = St.halfOpen then min p.minCalls p.permitted else p.minCalls) = need
    split_ifs with _ _ hh
    · exact s1
    · exact sim_transit now rfl hsz hnotopen
    · exact sim_transit now rfl hsz (s := St.closed) (by simp [hh])
    · exact s1
  · rw [stale_result_ignored p cb id e d now hid]
    have : Ref.record p r id (classify p e d) now = r := by
      have : id ≠ r.epoch := by rw [s.epoch]; exact hid
      simp [Ref.record, this]
    rw [this]
    exact s

theorem current_id_live {p : Policy} {cb : CB} {now : Int} {ids : List Nat} (inv : Inv p cb now ids)
    {id : Nat} (hid : id ∈ ids) (hcur : id = cb.stateID) :
    cb.st = St.closed ∨ (cb.st = St.halfOpen ∧ 0 < p.permitted) := by
  subst hcur
  have hpos : 0 < ids.count cb.stateID := List.count_pos_iff.mpr hid
  rcases inv.live with hc | hh | ho
  · exact Or.inl hc
  · have := inv.half_cnt hh
    exact Or.inr ⟨hh, by omega⟩
  · have := inv.open_none ho
    omega

/-- Every reachable state is `Sim`-related to some state of the reference automaton (`Sim` is preserved by
every step of a history); `0 < p.size` is what `Reach.init` asks for. -/
theorem reach_sim {p : Policy} {cb now ids} (h : Reach p cb now ids) : ∃ r, Sim p cb r now ∧ 0 < p.size := by
  induction h with
  | init t0 hsz => exact ⟨_, sim_new p hsz t0, hsz⟩
  | step hr st ih =>
    obtain ⟨r, s, hsz⟩ := ih
    have inv := reach_inv hr
    cases st with
    | acquire => exact ⟨_, (sim_acquire s hsz inv.live).1, hsz⟩
    | record id e d hid => exact ⟨_, sim_record s hsz id e d (current_id_live inv hid), hsz⟩
    | advance d hd => exact ⟨r, sim_advance s d hd, hsz⟩

/-- **The window clause on every reachable state.** While CLOSED the ring buffer *is* "the last `size`
results" (count based: `CountRel`) resp. "the results of the last `size` seconds" (time based: `TimeRel`,
the recorded seconds not ahead of the clock) recorded since the state was entered — so `opens_iff_threshold`
speaks about that abstract window; while HALF_OPEN it is the trials' results (`permitted` slots). -/
theorem reach_window {p : Policy} {cb now ids} (h : Reach p cb now ids) :
    (cb.st = St.closed → p.timeBased = false → ∃ c w, cb.win = Win.count c ∧ CountRel p.size c w) ∧
    (cb.st = St.closed → p.timeBased = true →
      ∃ t w hi, cb.win = Win.time t ∧ TimeRel p.size t w hi ∧ hi ≤ secIdx now ∧ t.beginAt ≤ now ∧
        (t.evict now).beginAt ≤ now) ∧
    (cb.st = St.halfOpen → 0 < p.permitted → ∃ c w, cb.win = Win.count c ∧ CountRel p.permitted c w) := by
  obtain ⟨r, s, _⟩ := reach_sim h
  refine ⟨fun hc htb => ?_, fun hc htb => ?_, fun hh hp => ?_⟩
  · have := s.closedWin hc
    simp only [ClosedWin, htb, Bool.false_eq_true, if_false] at this
    obtain ⟨c, w, h1, _, h3⟩ := this
    exact ⟨c, w, h1, h3⟩
  · have := s.closedWin hc
    simp only [ClosedWin, htb, if_true] at this
    obtain ⟨t, w, hi, h1, _, h3, h4⟩ := this
    exact ⟨t, w, hi, h1, h3, h4, h3.beginAt_le h4, (timeRel_evict h3 now h4).beginAt_le (le_refl _)⟩
  · obtain ⟨c, w, h1, _, _, h4⟩ := s.halfWin hh
    exact ⟨c, w, h1, h4 hp⟩

/-- the premise of `timePush_regenerated_from_source` is discharged on every reachable state: the
regenerated `TimeBasedWindow.Push` is the model's `push` there -/
theorem timePush_regenerated_on_reach {p : Policy} {cb now ids} (h : Reach p cb now ids)
    (hc : cb.st = St.closed) (htb : p.timeBased = true) (res : Res) :
    ∃ t, cb.win = Win.time t ∧ Gen.FactsC08IR.timePushIR t now res = t.push now res := by
  obtain ⟨t, _, _, h1, _, _, _, h5⟩ := (reach_window h).2.1 hc htb
  exact ⟨t, h1, CircuitBreaker.timePush_regenerated_from_source t now res h5⟩

/-- what the harness observes of a `Sim`-related pair is what the automaton exposes -/
theorem sim_obs {p : Policy} {cb : CB} {r : Ref} {now : Int} (s : Sim p cb r now)
    (live : cb.st = St.closed ∨ cb.st = St.halfOpen ∨ cb.st = St.open) (b : Bool) (id : Nat) :
    obsMatches ⟨b, id, cb.st.toNat, cb.win.total⟩ ⟨b, r.st.toNat, r.win.len⟩ = true := by
  rcases live with hc | hh | ho
  · simp [obsMatches, s.st, (closedWin_agree (s.closedWin hc)).1]
  · obtain ⟨c, w, h1, h2, h3, _⟩ := s.halfWin hh
    simp [obsMatches, s.st, h1, h2, Win.total, AWin.len, AWin.results, h3]
  · simp [obsMatches, s.st, ho]

theorem mem_of_getD_some {α : Type} (l : List (Option α)) (i : Nat) (a : α) (h : l.getD i none = some a) :
    some a ∈ l := by
  rw [List.getD_eq_getElem?_getD] at h
  cases hg : l[i]? with
  | none => simp [hg] at h
  | some x =>
    simp only [hg, Option.getD_some] at h
    subst h
    exact List.mem_of_getElem? hg

theorem firstDivergence_cons {o : Obs} {a : RObs} (h : obsMatches o a = true) (os : List Obs) (as : List RObs)
    (i : Nat) : firstDivergence (o :: os) (a :: as) i = firstDivergence os as (i + 1) := by
  simp only [obsMatches, Bool.and_eq_true, beq_iff_eq] at h
  obtain ⟨⟨h1, h2⟩, h3⟩ := h
  simp only [firstDivergence, h1, h2, h3, bne_self_eq_false, Bool.not_true, Bool.false_eq_true, if_false]

/-- **One step of the judge's run, on both machines**: from a reachable state of the model related to a state of
the automaton, with the same admission log, both reach the same instant and log, expose matching observations,
and are related again. -/
theorem step_refines {p : Policy} (hsz : 0 < p.size) {cb : CB} {r : Ref} {now : Int} {log : Log} {ids : List Nat}
    (hr : Reach p cb now ids) (s : Sim p cb r now) (hlog : ∀ id, some id ∈ log ↔ id ∈ ids) (op : Op)
    (hop : ∀ d, op = Op.advance d → 0 ≤ d) {cb' : CB} {now' : Int} {log' : Log} {o : Obs}
    (h : step p cb now log op = (cb', now', log', o)) :
    ∃ r' a ids', Ref.step p r now log op = (r', now', log', a) ∧ obsMatches o a = true ∧
      Reach p cb' now' ids' ∧ Sim p cb' r' now' ∧ ∀ id, some id ∈ log' ↔ id ∈ ids' := by
  have inv := reach_inv hr
  have hnone : ∀ id, some id ∈ log ++ [none] ↔ id ∈ ids := fun id => by simp [hlog id]
  cases op with
  | acquire =>
    cases h
    obtain ⟨s', hperm⟩ := sim_acquire (now := now) s hsz inv.live
    have hr' := Reach.step hr (Step.acquire cb now ids)
    have hid : (Ref.acquire p r now).1.epoch = (acquire p cb now).2.id := by
      rw [s'.epoch, (stateID_strictly_increases_on_transition p cb now).1.2]
    refine ⟨_, _, _, ?_, sim_obs s' (reach_inv hr').live _ _, hr', s', fun id => ?_⟩
    · simp only [Ref.step, ← hperm, hid]
    · cases (acquire p cb now).2.permitted
      · exact hnone id
      · simp [hlog id, or_comm]
  | record ref e d =>
    simp only [step, Ref.step] at h ⊢
    cases hg : log.getD ref none with
    | none =>
      rw [hg] at h
      cases h
      exact ⟨_, _, ids, rfl, sim_obs s inv.live _ _, hr, s, hnone⟩
    | some id =>
      rw [hg] at h
      cases h
      have hid : id ∈ ids := (hlog id).mp (mem_of_getD_some log ref id hg)
      have s' := sim_record s hsz id e d (current_id_live inv hid)
      have hr' := Reach.step hr (Step.record cb now ids id e d hid)
      exact ⟨_, _, ids, rfl, sim_obs s' (reach_inv hr').live _ _, hr', s', hnone⟩
  | advance d =>
    cases h
    have hd := hop d rfl
    exact ⟨_, _, ids, rfl, sim_obs s inv.live _ _, Reach.step hr (Step.advance cb now ids d hd),
      sim_advance s d hd, hnone⟩

/-- the model's trace never diverges from the automaton's, from any related pair of states -/
theorem run_refines (p : Policy) (hsz : 0 < p.size) : ∀ (ops : List Op) (cb : CB) (r : Ref) (now : Int)
    (log : Log) (ids : List Nat) (i : Nat), Reach p cb now ids → Sim p cb r now →
    (∀ id, some id ∈ log ↔ id ∈ ids) → (∀ d, Op.advance d ∈ ops → 0 ≤ d) →
    firstDivergence (run p cb now log ops) (Ref.run p r now log ops) i = none
  | [], _, _, _, _, _, _, _, _, _, _ => rfl
  | op :: rest, cb, r, now, log, ids, i, hr, s, hlog, hadv => by
    rcases hst : step p cb now log op with ⟨cb', now', log', o⟩
    obtain ⟨r', a, ids', e, om, hr', s', hlog'⟩ :=
      step_refines hsz hr s hlog op (fun d h => hadv d (h ▸ List.mem_cons_self)) hst
    simp only [run, Ref.run, hst, e, firstDivergence_cons om]
    exact run_refines p hsz rest _ _ _ _ ids' (i + 1) hr' s' hlog' (fun d hd => hadv d (List.mem_cons_of_mem _ hd))

/-- **The judge's specification accepts the model**: for every policy with a
non-empty window, every start instant and every history of admissions, completions (of any earlier admitted
call, however late, also repeated) and non-negative clock advances, the trace of the model is the trace of
the reference automaton `Ref` — `specTrace` holds. The property text (as formalised by `Ref`: last-N /
last-N-seconds windows, exact rate comparison, epochs) is thereby connected to the model that is tied to
the code. -/
theorem model_refines_ref (p : Policy) (hsz : 0 < p.size) (t0 : Int) (ops : List Op)
    (hadv : ∀ d, Op.advance d ∈ ops → 0 ≤ d) :
    specTrace p t0 ops (run p (new p t0) t0 [] ops) = true := by
  unfold specTrace
  rw [run_refines p hsz ops (new p t0) (Ref.new p t0) t0 [] [] 0 (Reach.init t0 hsz) (sim_new p hsz t0)
    (by intro id; simp) hadv]
  rfl

/-- the hypotheses are met by the example history of Part 4 (threshold hit exactly, wait, trial, close) -/
example : specTrace pEx 0
    [Op.acquire, Op.acquire, Op.record 0 false 0, Op.record 1 true 0, Op.acquire, Op.advance 999999999,
     Op.acquire, Op.advance 1, Op.acquire, Op.acquire, Op.record 8 false 0, Op.acquire]
    (run pEx (new pEx 0) 0 []
      [Op.acquire, Op.acquire, Op.record 0 false 0, Op.record 1 true 0, Op.acquire, Op.advance 999999999,
       Op.acquire, Op.advance 1, Op.acquire, Op.acquire, Op.record 8 false 0, Op.acquire]) = true :=
  model_refines_ref pEx (by decide) 0 _ (by
    intro d hd
    simp only [List.mem_cons, Op.advance.injEq, reduceCtorEq, false_or, List.mem_nil_iff, or_false] at hd
    omega)

/-! ## Part 6 — the `wrap` and `proxy` judges accept the model -/

/-- one call through the wrapper on the model, spelled out (from `wrap_records_once`) -/
theorem wrapCall_eq (p : Policy) (cb : CB) (now : Int) (o : Outcome) :
    ((acquire p cb now).2.permitted = false →
      wrapCall p cb now o = ((acquire p cb now).1, [Ev.acquire], WrapRet.shortCircuited)) ∧
    ((acquire p cb now).2.permitted = true →
      wrapCall p cb now o =
        (record p (acquire p cb now).1 (acquire p cb now).2.id (decide (o ≠ Outcome.ok)) 0 now,
          [Ev.acquire, Ev.handler, Ev.record (decide (o ≠ Outcome.ok))], (wrap true o).2)) := by
  refine ⟨fun h => ?_, fun h => ?_⟩
  · have hw := (wrap_records_once false o).2.1 rfl
    simp only [wrapCall, h, hw, List.foldl_cons, List.foldl_nil]
  · have hw := ((wrap_records_once true o).2.2 rfl).1
    simp only [wrapCall, h, hw, List.foldl_cons, List.foldl_nil]

/-- **one wrapped call keeps the model and the reference automaton related**, on every reachable state: they
agree on the admission, and the model's state after the call (acquire + the one record of an admitted call) is
`Sim`-related to the automaton's and again reachable -/
theorem wrapCall_sim {p : Policy} (hsz : 0 < p.size) {cb : CB} {now : Int} {ids : List Nat} {r : Ref}
    (hr : Reach p cb now ids) (s : Sim p cb r now) (o : Outcome) :
    (∃ ids', Reach p (wrapCall p cb now o).1 now ids') ∧
    Sim p (wrapCall p cb now o).1 (Ref.wrapCall p r now o).1 now ∧
    (acquire p cb now).2.permitted = (Ref.wrapCall p r now o).2 := by
  have inv := reach_inv hr
  obtain ⟨s', hperm⟩ := sim_acquire (now := now) s hsz inv.live
  have hr' := Reach.step hr (Step.acquire cb now ids)
  cases hp : (acquire p cb now).2.permitted with
  | false =>
    rw [(wrapCall_eq p cb now o).1 hp]
    refine ⟨⟨_, hr'⟩, ?_, hp ▸ hperm⟩
    simpa [Ref.wrapCall, ← hperm, hp] using s'
  | true =>
    rw [(wrapCall_eq p cb now o).2 hp]
    simp only [hp, if_true] at hr'
    have hid : (acquire p cb now).2.id ∈ (acquire p cb now).2.id :: ids := List.mem_cons_self ..
    have hrec := Reach.step hr' (Step.record _ now _ (acquire p cb now).2.id (decide (o ≠ Outcome.ok)) 0 hid)
    have hsim := sim_record s' hsz (acquire p cb now).2.id (decide (o ≠ Outcome.ok)) 0
      (current_id_live (reach_inv hr') hid)
    have hep : (Ref.acquire p r now).1.epoch = (acquire p cb now).2.id := by
      rw [s'.epoch, (stateID_strictly_increases_on_transition p cb now).1.2]
    refine ⟨⟨_, hrec⟩, ?_, hp ▸ hperm⟩
    simpa [Ref.wrapCall, ← hperm, hp, hep, bne, beq_eq_decide] using hsim

/-- **the `wrap` judge's specification accepts the model**: for every policy with a non-empty window and every
sequence of wrapped calls (handler returns nil / an error / panics), what the model predicts per call — returned
class, whether the handler ran, `State()` afterwards — is what the reference automaton prescribes
(`spec := got = wantR`, `agree := got = want` in the judge: the two sides are equal). -/
theorem wrap_spec_accepts_model (p : Policy) (hsz : 0 < p.size) : ∀ (cs : List Int) (cb : CB) (r : Ref)
    (ids : List Nat), Reach p cb 0 ids → Sim p cb r 0 → wrapRunModel p cb cs = wrapRunRef p r cs
  | [], _, _, _, _, _ => rfl
  | c :: rest, cb, r, ids, hr, s => by
    obtain ⟨⟨ids', hr'⟩, s', hperm⟩ := wrapCall_sim hsz hr s (wrapOutcome c)
    simp only [wrapRunModel, wrapRunRef]
    rw [wrap_spec_accepts_model p hsz rest _ _ ids' hr' s']
    congr 1
    have hst : (wrapCall p cb 0 (wrapOutcome c)).1.st.toNat = (Ref.wrapCall p r 0 (wrapOutcome c)).1.st.toNat := by
      rw [s'.st]
    cases hp : (acquire p cb 0).2.permitted with
    | false =>
      rw [← hst, ← hperm, hp, (wrapCall_eq p cb 0 (wrapOutcome c)).1 hp]
      rfl
    | true =>
      rw [← hst, ← hperm, hp, (wrapCall_eq p cb 0 (wrapOutcome c)).2 hp]
      cases wrapOutcome c <;> rfl

/-- … from `New(policy)` at the harness' instant 0 -/
theorem wrap_judge_accepts_model (p : Policy) (hsz : 0 < p.size) (cs : List Int) :
    wrapRunModel p (new p 0) cs = wrapRunRef p (Ref.new p 0) cs :=
  wrap_spec_accepts_model p hsz cs _ _ [] (Reach.init 0 hsz) (sim_new p hsz 0)

/-- one entry of the `proxy` judge's model: the request is reported `shortCircuited` exactly when the breaker
refuses it, and then with status 503 and without a backend call -/
theorem proxy_entry (p : Policy) (cb : CB) (c : Int) (rest : List Int) :
    ∃ e, proxyRun p cb (c :: rest) = e :: proxyRun p (wrapCall p cb 0 (if c == 1 || c == 2 then .err else .ok)).1 rest ∧
      (e.1 = "shortCircuited" ↔ (acquire p cb 0).2.permitted = false) ∧
      (e.1 = "shortCircuited" → e.2.1 = 503 ∧ e.2.2 = 0) ∧
      ((acquire p cb 0).2.permitted = true → e.2.2 = 1) := by
  refine ⟨_, rfl, ?_⟩
  cases hp : (acquire p cb 0).2.permitted with
  | false =>
    simp only [((wrapCall_eq p cb 0 _).1 hp)]
    simp [poolOutcome]
  | true =>
    simp only [((wrapCall_eq p cb 0 _).2 hp)]
    by_cases h2 : c = 2
    · subst h2; simp [wrap, poolOutcome]
    · by_cases h1 : c = 1
      · subst h1; simp [wrap, poolOutcome]
      · simp [h1, h2, wrap, poolOutcome]

/-- **the `proxy` judge's property accepts the model**: on every breaker state and every request sequence the
model's own prediction satisfies `proxyShortOK` (a short-circuited request is a 503 without a backend call) -/
theorem proxy_spec_accepts_model (p : Policy) : ∀ (cs : List Int) (cb : CB), proxyShortOK (proxyRun p cb cs) = true
  | [], _ => rfl
  | c :: rest, cb => by
    obtain ⟨e, he, _, h503, _⟩ := proxy_entry p cb c rest
    have ih := proxy_spec_accepts_model p rest (wrapCall p cb 0 (if c == 1 || c == 2 then .err else .ok)).1
    rw [he]
    unfold proxyShortOK at ih ⊢
    rw [List.all_cons, ih, Bool.and_true]
    by_cases hs : e.1 = "shortCircuited"
    · obtain ⟨h1, h2⟩ := h503 hs
      simp [h1, h2]
    · simp [hs]

/-- the property is not vacuous: a 503 `shortCircuited` entry with a backend call is refused; and with `pEx`
(threshold reached after two failures) the third request is short-circuited -/
example : proxyShortOK [("shortCircuited", 503, 1)] = false ∧
    (proxyRun pEx (new pEx 0) [1, 1, 0, 0, 0]).map (·.1) =
      ["serverError", "serverError", "shortCircuited", "shortCircuited", "shortCircuited"] := by
  refine ⟨by decide, by decide⟩

end EgVerif.C08
