import EgVerif.Proofs.HotUpdate
import EgVerif.Proofs.HotUpdateIR
import EgVerif.Gen.FactsC11
import EgVerif.Gen.FactsC11IR
/-!
# C11 — hot update: one consistent generation per request; none fails on update

Property theorems about `Model/HotUpdate.lean`.

* Part 1 (`mux.inst` Load/Store): for **every** schedule of any number of requests and updaters.
* Part 2 (traffic controller registry): for **every** history of create/update/apply/delete.
* Part 3 (filter kinds): for **every** pair of specs / limiter heap.

What is *not* shown here (trusted, see `props/C11.json`): that Go's `atomic.Value`, `sync.Map`
and `sync.Mutex` give the sequentially consistent micro-steps the model uses. That `Close()` leaves
`Handle` working is shown for RateLimiter and the Kafka kinds (explicit models of the repaired code);
for the 15 `independentKinds` under the `FieldKind.WellFormed` assumptions (the regenerated field
sets are all `Handle` depends on and all `Close` changes); for Proxy and Validator
(`closeInterferingKinds`) it is sampled by the `filters` harness only.
-/
namespace EgVerif.C11
open EgVerif.HotUpdate

variable {R O M : Type}

/-! ## Part 1 — each request sees exactly one generation -/

/-- **Main statement.** Take any schedule `s1`, then the `Load` of a request `r` that has not
loaded yet, then any schedule `s2` (any number of builds, stores, other requests' steps and
`r`'s own reads). Whatever `r` has read at the end was read from **the generation that was
current at the instant of its load** — which was published no later than that instant
(`∈ hist`) — no matter how many newer generations have been stored meanwhile. -/
theorem request_sees_one_generation (g0 : Gen R O M) (s1 s2 : List (Step R O M)) (r : Nat)
    (hfresh : ((run (init g0) s1).reqs r).loaded = none) :
    let sA := run (init g0) s1
    let sB := run (init g0) (s1 ++ Step.load r :: s2)
    (sB.reqs r).loaded = some sA.cur ∧ sA.cur ∈ sA.hist ∧
      ∀ p ∈ (sB.reqs r).obs, p.2 = sA.cur.read p.1 := by
  intro sA sB
  have hB : sB = run (step sA (.load r)) s2 := run_append_cons _ s1 _ s2
  have hl : ((step sA (.load r)).reqs r).loaded = some sA.cur := by
    rw [step_load_none sA r hfresh, setReq_reqs]; simp
  have hst : (sB.reqs r).loaded = some sA.cur := by
    rw [hB]; exact loaded_stable_run _ s2 r _ hl
  refine ⟨hst, (inv_run (inv_init g0) s1).cur_mem, ?_⟩
  rcases (inv_run (inv_init g0) (s1 ++ Step.load r :: s2)).req r with ⟨hn, _⟩ | ⟨g, _, hg, hobs⟩
  · rw [hst] at hn; cases hn
  · rw [hst] at hg; cases hg; exact hobs

/-- The same fact without naming the load step: at the end of **every** schedule, every request
either has read nothing, or there is one published generation that explains all its reads. -/
theorem request_obs_consistent (g0 : Gen R O M) (sched : List (Step R O M)) (r : Nat) :
    let s := run (init g0) sched
    ((s.reqs r).loaded = none ∧ (s.reqs r).obs = []) ∨
      ∃ g ∈ s.hist, (s.reqs r).loaded = some g ∧ ∀ p ∈ (s.reqs r).obs, p.2 = g.read p.1 :=
  (inv_run (inv_init g0) sched).req r

theorem serveFrom_of_obs (g : HGen) (obs : List (Field × Val Rules Options Mapper))
    (hobs : ∀ p ∈ obs, p.2 = g.read p.1) {vr : Rules} {vm : Mapper} {vo : Options}
    (hr : (Field.rules, Val.rules vr) ∈ obs) (hm : (Field.mapper, Val.mapper vm) ∈ obs)
    (ho : (Field.options, Val.options vo) ∈ obs) (q : HReq) : serveFrom vr vm vo q = serve g q := by
  cases hobs _ hr; cases hobs _ hm; cases hobs _ ho
  rfl

/-- Corollary for the HTTP server: the response a request produces from its three reads
(rules → route, mapper → handler, options → X-Forwarded-For) is `serve g` for **one** generation
`g`, the one current at its load — never a mixture of two specs. -/
theorem response_is_serve_of_one_generation (g0 : HGen) (s1 s2 : List (Step Rules Options Mapper))
    (r : Nat) (hfresh : ((run (init g0) s1).reqs r).loaded = none)
    (vr : Rules) (vm : Mapper) (vo : Options)
    (hr : (Field.rules, Val.rules vr) ∈ ((run (init g0) (s1 ++ Step.load r :: s2)).reqs r).obs)
    (hm : (Field.mapper, Val.mapper vm) ∈ ((run (init g0) (s1 ++ Step.load r :: s2)).reqs r).obs)
    (ho : (Field.options, Val.options vo) ∈ ((run (init g0) (s1 ++ Step.load r :: s2)).reqs r).obs)
    (q : HReq) :
    serveFrom vr vm vo q = serve (run (init g0) s1).cur q :=
  serveFrom_of_obs _ _ (request_sees_one_generation g0 s1 s2 r hfresh).2.2 hr hm ho q

/-- The reload storm of the harness, as a theorem: if the server starts with generation `a` and
every reload in the schedule builds `a` or `b`, then the response of **every** request that has
performed its three reads is `serve a` or `serve b` — the executable specification the judge
evaluates on the real responses. -/
theorem storm_response_in_two (a b : HGen) (sched : List (Step Rules Options Mapper))
    (hb : BuildsIn (fun g => g = a ∨ g = b) sched) (r : Nat)
    (vr : Rules) (vm : Mapper) (vo : Options)
    (hr : (Field.rules, Val.rules vr) ∈ ((run (init a) sched).reqs r).obs)
    (hm : (Field.mapper, Val.mapper vm) ∈ ((run (init a) sched).reqs r).obs)
    (ho : (Field.options, Val.options vo) ∈ ((run (init a) sched).reqs r).obs)
    (q : HReq) :
    serveFrom vr vm vo q = serve a q ∨ serveFrom vr vm vo q = serve b q := by
  rcases request_obs_consistent a sched r with ⟨_, hnil⟩ | ⟨g, hg, _, hobs⟩
  · rw [hnil] at hr; cases hr
  · have hS := published_in (fun g => g = a ∨ g = b) (init a) sched
      (fun g hg => .inl (List.mem_singleton.1 hg)) (fun _ _ h => nomatch h) hb g hg
    have h := serveFrom_of_obs g _ hobs hr hm ho q
    rcases hS with rfl | rfl
    · exact .inl h
    · exact .inr h

/-- **Once the update has been applied every new request sees the new generation**: if updater
`u` has built `g` and stores it, a request that has not loaded before the store completes and
loads at any later time gets `g` or a generation published after `g` — never an older one. -/
theorem after_store_new (g0 : Gen R O M) (s1 s2 : List (Step R O M)) (u r : Nat) (g g' : Gen R O M)
    (hb : (run (init g0) s1).built u = some g)
    (hfresh : ((run (init g0) (s1 ++ [Step.store u])).reqs r).loaded = none)
    (hl : ((run (init g0) (s1 ++ Step.store u :: s2)).reqs r).loaded = some g') :
    ∃ pre, (run (init g0) (s1 ++ Step.store u :: s2)).hist = pre ++ g :: (run (init g0) s1).hist ∧
      g' ∈ pre ++ [g] := by
  rw [run_append_cons] at hfresh hl ⊢
  obtain ⟨pre, hp, hm⟩ := loaded_run (step (run (init g0) s1) (.store u)) s2 r
  rw [step_store_some _ u g hb] at hp hm hfresh hl ⊢
  exact ⟨pre, hp, (hm g' hl).resolve_left fun h => nomatch hfresh.symm.trans h⟩

/-- **Sequential histories** (the `muxhist` harness): reloads and requests that each run to
completion, in any order and number. The `j`-th request reads exactly the three fields of the
generation installed by the last reload completed before it (the initial one if there was
none) — in particular a cache, a filter chain or any other state of an earlier generation can
play no role. Its response therefore is `serve` of that generation (`histServe`). -/
theorem sequential_history_sees_latest (g0 : Gen R O M) (ops : List (HOp R O M)) (j : Nat) (g : Gen R O M)
    (h : (expectedGens g0 ops)[j]? = some g) :
    ((seqRun (init g0) 0 ops).reqs j).obs = triple g :=
  (seqRun_spec ops (init g0) 0 fun _ _ => ⟨rfl, rfl⟩).2 j g h

/-- The outcome a request assembles from what it has read (`none` until it has performed its three reads). -/
def respOfObs (obs : List (Field × Val Rules Options Mapper)) (q : HReq) : Option Outcome :=
  match obs with
  | [(_, Val.rules vr), (_, Val.mapper vm), (_, Val.options vo)] => some (serveFrom vr vm vo q)
  | _ => none

/-- … and the response the `j`-th request of any sequential history produces is `serve g` of the
generation installed by the last reload completed before it. -/
theorem sequential_history_response (g0 : HGen) (ops : List (HOp Rules Options Mapper)) (j : Nat) (g : HGen)
    (h : (expectedGens g0 ops)[j]? = some g) (q : HReq) :
    respOfObs ((seqRun (init g0) 0 ops).reqs j).obs q = some (serve g q) := by
  rw [sequential_history_sees_latest g0 ops j g h]
  rfl

/-- The `muxhist` judge's expectation (`histServe`, run on the parsed history) is exactly that: the
list of `serve g q` with `g` ranging over `expectedGens` — so a response the judge accepts is the
response `sequential_history_response` proves. -/
theorem histServe_eq_expected (cur : HGen) (ops : List (Sum HGen HReq)) :
    histServe cur ops =
      List.zipWith serve
        (expectedGens cur (ops.map fun o => match o with | .inl g => HOp.reload g | .inr _ => HOp.req))
        (ops.filterMap fun o => match o with | .inl _ => none | .inr q => some q) := by
  induction ops generalizing cur with
  | nil => rfl
  | cons o rest ih =>
    cases o <;> simp [histServe, expectedGens, ih]

/-! ### Non-vacuity and contrast -/

private abbrev G3 := Gen Nat Nat Nat
private def gA : G3 := ⟨1, 1, 1⟩
private def gB : G3 := ⟨2, 2, 2⟩
/-- request 0 loads, an updater publishes `gB` between its reads, request 1 loads afterwards. -/
private def sched : List (Step Nat Nat Nat) :=
  [.load 0, .use 0 .rules, .build 7 gB, .store 7, .use 0 .mapper, .use 0 .options, .load 1, .use 1 .rules]

example : ((run (init gA) sched).reqs 0).obs = [(.rules, .rules 1), (.mapper, .mapper 1), (.options, .options 1)] := by
  decide +kernel
example : ((run (init gA) sched).reqs 1).obs = [(.rules, .rules 2)] := by decide +kernel
example : (run (init gA) sched).hist = [gB, gA] := by decide +kernel

/-- Contrast: if every read went back to `m.inst` (a second `Load` per request), the same
schedule yields a response mixed from two generations — the theorem above is not a tautology, it
rests on the single load (regenerated fact `muxLoadsPerRequest = 1`). -/
theorem reload_per_use_mixes :
    ¬ ∃ g ∈ (runReload (init gA) sched).hist,
        ∀ p ∈ ((runReload (init gA) sched).reqs 0).obs, p.2 = g.read p.1 := by decide +kernel

/-! ### Non-vacuity at the HTTP instantiation (`HGen` = rules × options × mapper of an HTTPServer) -/

private def hA : HGen :=
  { rules := { cfg := { rules := [{ host := "a.com", paths := [{ path := "/x", backend := "p1" }] }] }, filters := [] },
    options := { xForwardedFor := false }, mapper := { tag := "A", backends := ["p1"] } }
/-- B differs from A *jointly* in rules (blocked client), options (X-Forwarded-For) and mapper (backend names). -/
private def hB : HGen :=
  { rules := { cfg := { ipFilter := some 0,
                        rules := [{ host := "a.com", paths := [{ path := "/x", backend := "q1", rewriteTarget := "/y" }] }] },
               filters := [{ blockByDefault := false, allowIPs := [], blockIPs := ["10.0.0.2"] }] },
    options := { xForwardedFor := true }, mapper := { tag := "B", backends := ["q1"] } }
private def hq (ip : String) : HReq :=
  { q := { host := "a.com", hostNoPort := "a.com", method := "GET", path := "/x", hdr := [], ip := ip }, xffIn := "", xffContains := false }

/-- request 0 loads under A, a reload to B is published between its reads, request 1 loads afterwards:
request 0's response is entirely A's, request 1's entirely B's (other backend, rewritten path, XFF,
and the blocked client is refused) — and a mixture (A's route with B's mapper) would have been a 503. -/
example :
    let s := run (init hA) [.load 0, .use 0 .rules, .build 7 hB, .store 7, .use 0 .mapper, .use 0 .options,
                            .load 1, .use 1 .rules, .use 1 .mapper, .use 1 .options]
    respOfObs (s.reqs 0).obs (hq "10.0.0.1") = some (serve hA (hq "10.0.0.1")) ∧
      respOfObs (s.reqs 1).obs (hq "10.0.0.1") = some (serve hB (hq "10.0.0.1")) ∧
      serve hA (hq "10.0.0.1") = ⟨200, "A:p1", "/x", ""⟩ ∧
      serve hB (hq "10.0.0.1") = ⟨200, "B:q1", "/y", "10.0.0.1"⟩ ∧
      (serve hB (hq "10.0.0.2")).status = 403 ∧
      (serveFrom hA.rules hB.mapper hA.options (hq "10.0.0.1")).status = 503 := by
  decide +kernel

/-! ## Part 2 — registry: unchanged spec is a no-op; operating on one object never disturbs another -/

/-- **Applying an unchanged spec is a no-op**: same entity, same instance, nothing closed, no new
instance created. -/
theorem noop_on_equal (r : Reg) (n : String) (e : Entity) (h : r.ents n = some e) :
    r.step (.apply n e.spec) = (r, Res.unchanged) := by
  simp [Reg.step, h]

/-- **Frame**: an operation on name `op.name` leaves every other name's entity in place, and does
not close its instance. -/
theorem frame_other_objects (r : Reg) (wf : r.WF) (op : Op) (m : String) (hm : m ≠ op.name) :
    (r.step op).1.ents m = r.ents m ∧
      ∀ e, r.ents m = some e → e.inst ∉ (r.step op).1.closed := by
  have hents := Reg.step_ents_other r op m hm
  exact ⟨hents, fun e he => (Reg.wf_step wf op).live m e (hents.trans he)⟩

/-- Frame for whole histories: any number of creates, updates, applies and deletes of *other*
objects never makes object `m` unavailable nor replaces or closes its instance. -/
theorem frame_history (r : Reg) (wf : r.WF) (ops : List Op) (m : String)
    (hm : ∀ o ∈ ops, m ≠ o.name) :
    (r.run ops).ents m = r.ents m ∧ ∀ e, r.ents m = some e → e.inst ∉ (r.run ops).closed := by
  induction ops generalizing r with
  | nil => exact ⟨rfl, wf.live m⟩
  | cons o rest ih =>
    have h := ih (r.step o).1 (Reg.wf_step wf o) fun o' ho' => hm o' (List.mem_cons_of_mem o ho')
    rw [Reg.step_ents_other r o m (hm o List.mem_cons_self)] at h
    exact h

/-- Every registry reachable from the empty one is well formed (so the frame theorems apply to
every history). -/
theorem reachable_wf (ops : List Op) : (Reg.empty.run ops).WF := Reg.wf_run Reg.wf_empty ops

/-- **None fails on update**: after an update (or a changing apply) of an existing object the
name is still available, with the new spec and an instance that is not closed. -/
theorem available_after_update (r : Reg) (wf : r.WF) (n : String) (s : Nat) (prev : Entity)
    (h : r.ents n = some prev) :
    ∃ e, (r.step (.update n s)).1.ents n = some e ∧ e.spec = s ∧
      e.inst ∉ (r.step (.update n s)).1.closed ∧ (r.step (.update n s)).1.getHandler n = some e.inst := by
  have wf' := Reg.wf_step wf (.update n s)
  simp only [Reg.step, h] at wf' ⊢
  have he : (r.doInherit n s prev).ents n = some ⟨s, 1, r.next⟩ := if_pos rfl
  refine ⟨_, he, rfl, wf'.live n _ he, ?_⟩
  rw [Reg.getHandler, he]
  rfl

/-- Only `delete` makes a name unavailable. -/
theorem stays_available (r : Reg) (op : Op) (m : String) (hd : op ≠ .delete m)
    (h : (r.ents m).isSome) : ((r.step op).1.ents m).isSome := by
  rcases r.step_cases op with eq | ⟨e, _, _, eq, _, _, _, hnone⟩ <;> rw [eq]
  · exact h
  · show (r.set op.name e m).isSome
    rw [Reg.set_eq]
    split
    · cases e with
      | some x => rfl
      | none => exact absurd (‹m = op.name› ▸ hnone rfl) hd
    · exact h

/-- Non-vacuity: three objects, updates and deletes of two of them, the third is untouched. -/
example :
    let r := Reg.empty.run [.create "a" 1, .create "b" 2, .create "c" 3, .update "a" 4, .delete "b",
      .apply "a" 4, .apply "a" 5]
    r.getHandler "c" = some 2 ∧ r.getHandler "b" = none ∧ r.getHandler "a" = some 4 ∧
      r.closed = [3, 1, 0] := by decide +kernel

/-! ## Part 3 — the old generation stays usable -/

/-- Kinds whose `Inherit` never touches the previous generation (regenerated list, see
`inherit_touching_kinds_are_modelled`) and whose `Close` keeps `Handle` working. -/
theorem old_generation_usable_of_independent {S : Type} (K : KindModel S) (hK : K.Independent)
    (new old : S) (h : K.usable old) : K.usable (K.close (K.inherit new old).2) := by
  rw [hK.inherit_snd]; exact hK.close_usable old h

/-- **RateLimiter (repaired `reload`)**: after `new.Inherit(old)` and `old.Close()`, for every
pair of specs and every heap, the old generation still holds a live limiter for every URL … -/
theorem old_generation_usable_ratelimiter (heap : Heap) (new old : RLSpec)
    (h : rlUsable heap old = true) :
    rlUsable (rlInherit false heap new old).1 (rlClose (rlInherit false heap new old).2.2) = true := by
  rw [rlUsable_iff] at h ⊢
  simp only [rlInherit, rlClose]
  rw [reloadUrls_false_prev]
  exact h.mono (reloadUrls_heap_le false new old heap old.urls new.urls)

/-- … it is literally unchanged … -/
theorem ratelimiter_inherit_leaves_old (heap : Heap) (new old : RLSpec) :
    (rlInherit false heap new old).2.2 = old := by
  simp only [rlInherit]
  rw [reloadUrls_false_prev]

/-- … and the new generation is usable as well. -/
theorem new_generation_usable_ratelimiter (heap : Heap) (new old : RLSpec)
    (h : rlUsable heap old = true) :
    rlUsable (rlInherit false heap new old).1 (rlInherit false heap new old).2.1 = true := by
  rw [rlUsable_iff] at h ⊢
  exact reloadUrls_false_new_ok new old heap old.urls new.urls h

theorem init_usable_ratelimiter (heap : Heap) (spec : RLSpec) :
    rlUsable (rlInit heap spec).1 (rlInit heap spec).2 = true := by
  rw [rlUsable_iff]
  exact reloadUrls_false_new_ok spec _ heap [] spec.urls (fun _ hu => nomatch hu)

/-- `Handle` on a usable generation never panics and keeps every generation usable: a request
that holds the old generation completes, whatever it asks for. -/
theorem usable_handle_no_panic (heap : Heap) (f : RLSpec) (q : FReq) (h : rlUsable heap f = true) :
    (rlHandle heap q f.urls).2 ≠ HOut.panic ∧
      ∀ f', rlUsable heap f' = true → rlUsable (rlHandle heap q f.urls).1 f' = true := by
  rw [rlUsable_iff] at h
  obtain ⟨h1, h2⟩ := rlHandle_ok heap q f.urls h
  refine ⟨h1, fun f' hf' => ?_⟩
  rw [rlUsable_iff] at hf' ⊢
  exact hf'.mono (Nat.le_of_eq h2.symm)

/-! ### The code as found (`prev.rl = nil`) violates the property -/

private def specX : RLSpec :=
  { defaultRef := "p", policies := [⟨"p", 1⟩],
    urls := [{ methods := [], exact := "/a", pfx := "", policyRef := "" }] }

/-- Witness (replayed on the real code by the harness, `corpus/C11/filters.jsonl`): inheriting
the unchanged spec with the original `reload` leaves the old generation with a nil limiter;
the old generation's next `Handle` of `/a` panics. -/
theorem original_reload_breaks_old_generation :
    rlUsable (rlInit [] specX).1 (rlInit [] specX).2 = true ∧
      rlUsable (rlInherit true (rlInit [] specX).1 specX (rlInit [] specX).2).1
        (rlInherit true (rlInit [] specX).1 specX (rlInit [] specX).2).2.2 = false ∧
      (rlScenario true specX specX [] [(false, ⟨"GET", "/a"⟩)]).2 = [HOut.panic] ∧
      (rlScenario false specX specX [] [(false, ⟨"GET", "/a"⟩)]).2 = [HOut.pass] := by
  decide +kernel

/-- The limiter is *shared*, not duplicated: old and new generation together still admit only
`limit` requests (here 1). -/
example : (rlScenario false specX specX [] [(false, ⟨"GET", "/a"⟩), (true, ⟨"GET", "/a"⟩)]).2 =
    [HOut.pass, HOut.limited] := by decide +kernel

/-! ### Kafka / KafkaMQTT (repaired `Close` / `Handle`, `fixes/C11-kafka-handle-after-close.patch`) -/

/-- The Kafka kinds are a `KindModel` whose `Inherit` leaves the previous generation alone and whose
(repaired) `Close` keeps `Handle` panic-free — for every timing of the asynchronous producer shutdown. -/
theorem kafkaKind_independent (shutdownDone : Bool) : (kafkaKind shutdownDone).Independent :=
  ⟨fun _ _ => rfl, fun s _ h => nomatch (kafkaHandle_close_guarded shutdownDone s).symm.trans h⟩

/-- **Kafka / KafkaMQTT**: after `new.Inherit(old)` and `old.Close()` a request that still holds the old
generation completes without panic — whether or not the producer's shutdown has already finished,
and whatever state the old generation was in. It gets the kind's failure result, never a send on
the closed input channel. -/
theorem old_generation_usable_kafka (shutdownDone : Bool) (new old : KafkaSt) :
    kafkaHandle ((kafkaKind shutdownDone).close ((kafkaKind shutdownDone).inherit new old).2) = KOut.failed ∧
      (kafkaKind shutdownDone).usable ((kafkaKind shutdownDone).close ((kafkaKind shutdownDone).inherit new old).2) ∧
      kafkaHandle ((kafkaKind shutdownDone).inherit new old).1 = KOut.sent := by
  have h : kafkaHandle (kafkaClose true shutdownDone old) = KOut.failed := kafkaHandle_close_guarded _ _
  refine ⟨h, ?_, rfl⟩
  show kafkaHandle (kafkaClose true shutdownDone old) ≠ KOut.panic
  rw [h]; decide

/-- … which is an instance of the generic statement. -/
theorem old_generation_usable_kafka_generic (shutdownDone : Bool) (new old : KafkaSt)
    (h : (kafkaKind shutdownDone).usable old) :
    (kafkaKind shutdownDone).usable ((kafkaKind shutdownDone).close ((kafkaKind shutdownDone).inherit new old).2) :=
  old_generation_usable_of_independent _ (kafkaKind_independent shutdownDone) new old h

/-- The harness scenario under the repaired code, for every list of operations and both timings:
no outcome is a panic; old-generation operations fail cleanly, new-generation ones send. -/
theorem kafka_scenario_never_panics (shutdownDone : Bool) (ops : List Bool) :
    ∀ o ∈ (kafkaScenario true shutdownDone ops).zip ops,
      o.1 = (if o.2 then KOut.sent else KOut.failed) := by
  induction ops with
  | nil => simp [kafkaScenario]
  | cons b rest ih =>
    intro o ho
    simp only [kafkaScenario, List.map_cons, List.zip_cons_cons, List.mem_cons] at ho ih
    rcases ho with rfl | ho
    · cases b
      · exact kafkaHandle_close_guarded shutdownDone kafkaInit
      · rfl
    · exact ih o ho

/-- Witness against the code as found (replayed on the real code by the `kafka` / `kafkamqtt`
harnesses, `corpus/C11/kafka.jsonl`): without the `closed` flag, once the producer's shutdown has
finished the old generation's `Handle` is a send on a closed channel; before that it still sends
(which is why a fixed short sleep does not show the defect); the repaired code fails cleanly in both cases. -/
theorem original_kafka_close_breaks_old_generation :
    kafkaScenario false true [false, true] = [KOut.panic, KOut.sent] ∧
      kafkaScenario false false [false] = [KOut.sent] ∧
      kafkaScenario true true [false, true] = [KOut.failed, KOut.sent] ∧
      kafkaScenario true false [false] = [KOut.failed] := by decide +kernel

/-! ### Kinds whose `Close` cannot influence `Handle`: instances of `old_generation_usable_of_independent` -/

/-- A `FieldKind` whose `Handle` reads no field its `Close` touches is `Independent`: `Inherit`
leaves the previous generation alone and `Close` cannot change what `Handle` does. -/
theorem fieldKind_independent (K : FieldKind) (wf : K.WellFormed)
    (hd : ∀ x ∈ K.reads, x ∉ K.closeTouches) : K.toKindModel.Independent :=
  ⟨fun _ _ => rfl, fun s hs => by
    show K.handlePanics (K.closeFn s) = false
    rw [wf.handle_dep (K.closeFn s) s (fun x hx => wf.close_frame s x (hd x hx))]
    exact hs⟩

open EgVerif.Gen in
/-- **Regenerated obligation**: for every kind in `independentKinds` the source says (go/ast, per
run) that `Inherit` does not mention the previous generation and that no receiver field `Close`
(or a goroutine it wakes) assigns / closes / calls is mentioned by `Handle` or its callees. -/
theorem close_disjoint_from_handle :
    ∀ k ∈ independentKinds,
      FactsC11.closeWritesHandleReads.lookup k = some [] ∧ FactsC11.filterKindTouchesPrev.lookup k = some false ∧
        ∀ x ∈ (FactsC11.handleReads.lookup k).getD [], x ∉ (FactsC11.closeTouches.lookup k).getD [] := by
  decide +kernel

open EgVerif.Gen in
/-- Every exercised kind is in exactly one class: independent (above), explicitly modelled
(RateLimiter, Kafka, KafkaMQTT) or `closeInterferingKinds` (Proxy, Validator: sampled only); and a
kind with a non-empty intersection is never claimed independent. -/
theorem close_interference_classified :
    (∀ k ∈ exercisedFilterKinds,
        k ∈ independentKinds ∨ k ∈ explicitlyModelledKinds ∨ k ∈ closeInterferingKinds.map (·.1)) ∧
      (∀ k ∈ independentKinds ++ explicitlyModelledKinds ++ closeInterferingKinds.map (·.1), k ∈ exercisedFilterKinds) ∧
      (∀ p ∈ FactsC11.closeWritesHandleReads, p.2 ≠ [] → p.1 ∉ independentKinds) ∧
      (∀ k ∈ closeInterferingKinds.map (·.1), FactsC11.closeWritesHandleReads.lookup k ≠ some []) := by
  decide +kernel

open EgVerif.Gen in
/-- **Old generation usable, for the 15 independent kinds**: take any of them and *any* filter
behaviour whose `Handle` depends on the receiver only through the regenerated `handleReads` and
whose `Close` changes it only inside the regenerated `closeTouches`; then after `new.Inherit(old)`
and `old.Close()` the old generation's `Handle` panics exactly if it did before — a usable old
generation stays usable. (Instance of `old_generation_usable_of_independent`.) -/
theorem old_generation_usable_independent_kinds (k : String) (hk : k ∈ independentKinds) (K : FieldKind)
    (hr : K.reads = (FactsC11.handleReads.lookup k).getD [])
    (hc : K.closeTouches = (FactsC11.closeTouches.lookup k).getD []) (wf : K.WellFormed)
    (new old : Fields) (h : K.toKindModel.usable old) :
    K.toKindModel.usable (K.toKindModel.close (K.toKindModel.inherit new old).2) := by
  refine old_generation_usable_of_independent _ (fieldKind_independent K wf ?_) new old h
  rw [hr, hc]
  exact (close_disjoint_from_handle k hk).2.2

/-- Non-vacuity: HeaderLookup with its regenerated field sets — `Handle` dereferences `cache`
(nil ⇒ panic), `Close` calls `cancel` (modelled: clears `cancel` and `stopCtx`); the instance is
well formed, an initialised old generation is usable, and stays so. -/
private def hlKind : FieldKind :=
  { reads := ["cache", "cluster", "etcdPrefix", "headerKey", "pathRegExp", "spec"],
    closeTouches := ["cancel", "stopCtx"],
    handlePanics := fun f => f "cache" == 0,
    closeFn := fun f x => if x = "cancel" ∨ x = "stopCtx" then 0 else f x,
    initFn := fun f => f }

theorem headerLookup_instance_wellFormed : hlKind.WellFormed :=
  ⟨fun f g h => by simp [hlKind, h "cache" (by simp [hlKind])],
   fun f x hx => by simp [hlKind] at hx ⊢; intro h; rcases h with h | h <;> simp [h] at hx⟩

/-- The instance, through the generic theorem (literal field sets; the regenerated ones enter through
`old_generation_usable_independent_kinds`). -/
example : hlKind.toKindModel.usable (hlKind.toKindModel.close (hlKind.toKindModel.inherit (fun _ => 1) (fun _ => 7)).2) :=
  old_generation_usable_of_independent _
    (fieldKind_independent hlKind headerLookup_instance_wellFormed (by decide +kernel)) _ _ rfl

/-- Non-vacuity of `old_generation_usable_independent_kinds`: for *every* independent kind the
hypotheses are satisfiable with the regenerated field sets (whatever they currently are). -/
example (k : String) (hk : k ∈ independentKinds) :
    ∃ K : FieldKind, K.reads = (EgVerif.Gen.FactsC11.handleReads.lookup k).getD [] ∧
      K.closeTouches = (EgVerif.Gen.FactsC11.closeTouches.lookup k).getD [] ∧ K.WellFormed ∧
      K.toKindModel.usable (K.toKindModel.close (K.toKindModel.inherit (fun _ => 0) (fun _ => 1)).2) := by
  -- the simplest behaviour with these field sets: `Handle` never panics, `Close` changes nothing
  let K : FieldKind := ⟨(EgVerif.Gen.FactsC11.handleReads.lookup k).getD [],
    (EgVerif.Gen.FactsC11.closeTouches.lookup k).getD [], fun _ => false, id, id⟩
  have wf : K.WellFormed := ⟨fun _ _ _ => rfl, fun _ _ _ => rfl⟩
  exact ⟨K, rfl, rfl, wf, old_generation_usable_independent_kinds k hk K rfl rfl wf _ _ rfl⟩

/-- Contrast: a `Close` that clears a field `Handle` reads (`HeaderLookup.Close` sets `cache = nil`:
the second mutant M12 of `notes/C11.md`) is not covered — the disjointness hypothesis fails, and
indeed the old generation becomes unusable. -/
example :
    let K : FieldKind := { hlKind with closeTouches := ["cache", "cancel", "stopCtx"],
                                       closeFn := fun f x => if x = "cache" ∨ x = "cancel" ∨ x = "stopCtx" then 0 else f x }
    ¬ (∀ x ∈ K.reads, x ∉ K.closeTouches) ∧
      K.toKindModel.usable (fun _ => 7) ∧ ¬ K.toKindModel.usable (K.toKindModel.close (fun _ => 7)) :=
  ⟨by decide +kernel, rfl, fun h => nomatch h⟩

open EgVerif.Gen in
/-- The Kafka kinds' repaired shape, regenerated: every send on the producer's input in `Handle` is
preceded by the read lock and the `closed` test; `Close` sets the flag under the write lock before
`close(done)`. (Fails on the unrepaired tree.) -/
theorem kafka_send_guarded :
    FactsC11.kafkaSendGuarded.map (·.1) = kafkaHarnessKinds ∧ ∀ p ∈ FactsC11.kafkaSendGuarded, p.2 = true :=
  ⟨rfl, by decide⟩

/-! ### The RateLimiter harness scenario, for all inputs -/

/-- Traffic before the update on a usable generation: no panic, and it stays usable. -/
theorem rlScenario_pre_never_panics (i : Heap × RLSpec) (qs : List FReq) :
    ∀ heap, rlUsable heap i.2 = true →
      HOut.panic ∉ (rlScenario.goPre i heap qs).2 ∧ rlUsable (rlScenario.goPre i heap qs).1 i.2 = true := by
  induction qs with
  | nil => exact fun heap h => ⟨List.not_mem_nil, h⟩
  | cons q qs ih =>
    intro heap hU
    obtain ⟨hnp, hkeep⟩ := usable_handle_no_panic heap i.2 q hU
    obtain ⟨h1, h2⟩ := ih _ (hkeep i.2 hU)
    exact ⟨fun h => (List.mem_cons.1 h).elim (fun e => hnp e.symm) h1, h2⟩

/-- Interleaved traffic on two usable generations sharing the heap: no panic. -/
theorem rlScenario_ops_never_panic (inh : Heap × RLSpec × RLSpec) (ops : List (Bool × FReq)) :
    ∀ heap, rlUsable heap inh.2.1 = true → rlUsable heap (rlClose inh.2.2) = true →
      HOut.panic ∉ rlScenario.goOps inh heap ops := by
  induction ops with
  | nil => exact fun _ _ _ => List.not_mem_nil
  | cons o ops ih =>
    intro heap hN hO
    -- whichever generation handles the request, it is usable, and both stay so
    have step : ∀ f, rlUsable heap f = true → HOut.panic ∉
        (rlHandle heap o.2 f.urls).2 :: rlScenario.goOps inh (rlHandle heap o.2 f.urls).1 ops := fun f hf h =>
      have ⟨hnp, hkeep⟩ := usable_handle_no_panic heap f o.2 hf
      (List.mem_cons.1 h).elim (fun e => hnp e.symm) (ih _ (hkeep _ hN) (hkeep _ hO))
    obtain ⟨isNew, q⟩ := o
    cases isNew
    · exact step _ hO
    · exact step _ hN

/-- **The whole RateLimiter scenario never panics (repaired `reload`)** — for every old spec, new
spec, traffic before the update and interleaved traffic on the old and the new generation after
`new.Inherit(old); old.Close()`: no `Handle` outcome is `panic`. (This is the executable expectation
the `filters` judge compares the real RateLimiter with.) -/
theorem rlScenario_never_panics (old new : RLSpec) (pre : List FReq) (ops : List (Bool × FReq)) :
    HOut.panic ∉ (rlScenario false old new pre ops).1 ∧ HOut.panic ∉ (rlScenario false old new pre ops).2 := by
  simp only [rlScenario]
  have hi := init_usable_ratelimiter [] old
  obtain ⟨hp1, hU⟩ := rlScenario_pre_never_panics (rlInit [] old) pre (rlInit [] old).1 hi
  refine ⟨hp1, rlScenario_ops_never_panic _ ops _ ?_ ?_⟩
  · exact new_generation_usable_ratelimiter _ new _ hU
  · exact old_generation_usable_ratelimiter _ new _ hU

/-- Non-vacuity: limiter shared, second request limited. -/
example : (rlScenario false specX specX [⟨"GET", "/a"⟩] [(false, ⟨"GET", "/a"⟩), (true, ⟨"GET", "/b"⟩)]) =
    ([HOut.pass], [HOut.limited, HOut.pass]) := by decide +kernel

/-! ### Validator: closing generation g-1 cannot reach generation g's user cache -/

/-- Invariant of `vRun false`: the current cache is the newest object, every closed one is older. -/
def VInv (s : VSt) : Prop := s.cur < s.next ∧ ∀ c ∈ s.closed, c < s.cur

theorem vinv_alive {s : VSt} (h : VInv s) : vAlive s = true := by
  simp only [vAlive, Bool.not_eq_true', List.contains_eq_mem, decide_eq_false_iff_not]
  exact fun hm => Nat.lt_irrefl _ (h.2 _ hm)

theorem vinv_step {s : VSt} (h : VInv s) (a : Bool) : VInv (vStep false s a) :=
  ⟨Nat.lt_succ_self _, fun c hc => by
    rcases List.mem_cons.1 hc with rfl | hc
    · exact h.1
    · exact Nat.lt_trans (h.2 c hc) h.1⟩

/-- **Every history of pipeline updates** (any number of `new.Inherit(old); old.Close()` steps, with
or without a change of the basicAuth section): the current generation's user cache has never been
closed — its file watcher / etcd syncer is alive — and every observation the `validatorgen`
harness makes along the way is `alive` (the judge's expectation `vTrace false`). -/
theorem validator_current_cache_alive (steps : List Bool) :
    vAlive (vRun false vInit steps) = true ∧ ∀ b ∈ vTrace false vInit steps, b = true := by
  have key : ∀ (steps : List Bool) (s : VSt), VInv s →
      vAlive (vRun false s steps) = true ∧ ∀ b ∈ vTrace false s steps, b = true := by
    intro steps
    induction steps with
    | nil => exact fun s h => ⟨vinv_alive h, fun b hb => List.mem_singleton.1 hb ▸ vinv_alive h⟩
    | cons a rest ih =>
      intro s h
      obtain ⟨i1, i2⟩ := ih (vStep false s a) (vinv_step h a)
      refine ⟨i1, fun b hb => ?_⟩
      rcases List.mem_cons.1 hb with rfl | hb
      · exact vinv_alive h
      · exact i2 b hb
  exact key steps vInit ⟨Nat.zero_lt_one, fun _ hc => nomatch hc⟩

/-- Contrast (seeded change C06-m5, replayed on the real code by the `validatorgen` harness): if the
new generation takes over the previous generation's cache when the basicAuth section is unchanged,
the very first such update leaves the current generation with a closed cache; an update that
changes the section is still fine. -/
theorem shared_cache_closed_by_previous_generation :
    vAlive (vRun true vInit [true]) = false ∧ vTrace true vInit [true, false, true] = [true, false, true, false] ∧
      vAlive (vRun true vInit [false]) = true ∧ vTrace false vInit [true, false, true] = [true, true, true, true] := by
  decide +kernel

open EgVerif.Gen in
/-- Regenerated: every assignment to the Validator's `basicAuth` is a fresh `NewBasicAuthValidator(…)`
built without any parameter of the enclosing method (and, by `filterKindTouchesPrev`, `Inherit` does
not mention the previous generation) — the `share = false` of the model. -/
theorem validator_inherit_fresh_cache :
    FactsC11.validatorInheritFreshCache = true ∧ FactsC11.validatorBasicAuthNotFresh = [] ∧
      FactsC11.filterKindTouchesPrev.lookup "Validator" = some false := ⟨rfl, rfl, by decide +kernel⟩

/-! ### Pipeline-level resilience policies: requests after an update run under the NEW policy -/

/-- **For every history of pipeline updates** the policy injected into the running filter instance is
the policy of the last applied spec (the initial one if there was no update) — whether or not the
filter's own spec changed. -/
theorem policy_is_last_applied (g0 : PGen) (gs : List PGen) :
    (pRun false (pInit g0) gs).injected = ((g0 :: gs).getLast (by simp)).policy ∧
      (pRun false (pInit g0) gs).filterSpec = ((g0 :: gs).getLast (by simp)).filterSpec := by
  induction gs generalizing g0 with
  | nil => simp [pRun, pInit]
  | cons g rest ih =>
    simp only [pRun, pStep_false]
    simpa [List.getLast_cons] using ih g

/-- … and so is every entry of the trace the `resilience` judge compares the observed call counts with:
after step `i` the policy in force is the `i`-th spec's. -/
theorem policy_trace_is_spec_trace (g0 : PGen) (gs : List PGen) :
    pTrace false (pInit g0) gs = (g0 :: gs).map (·.policy) := by
  induction gs generalizing g0 with
  | nil => simp [pTrace, pInit]
  | cons g rest ih =>
    show (pInit g0).injected :: pTrace false (pStep false (pInit g0) g) rest = _
    rw [pStep_false, ih g]
    simp [pInit]

/-- Contrast (seeded change C11-m5, replayed on the real code by the `resilience` harness): if a filter
whose own spec is unchanged keeps its running instance, an update that changes only the policy's
parameter (Retry maxAttempts 1 → 3) is stored but never takes effect; an update that also touches the
filter spec does. -/
theorem reused_instance_keeps_old_policy :
    (pRun true (pInit ⟨0, 1⟩) [⟨0, 3⟩]).injected = 1 ∧ (pRun false (pInit ⟨0, 1⟩) [⟨0, 3⟩]).injected = 3 ∧
      (pRun true (pInit ⟨0, 1⟩) [⟨1, 3⟩]).injected = 3 ∧
      pTrace true (pInit ⟨0, 1⟩) [⟨0, 3⟩, ⟨0, 2⟩] = [1, 1, 1] ∧ pTrace false (pInit ⟨0, 1⟩) [⟨0, 3⟩, ⟨0, 2⟩] = [1, 3, 2] ∧
      policyCalls false 3 0 = 3 ∧ (List.range 4).map (policyCalls true 2) = [1, 1, 0, 0] := by decide +kernel

open EgVerif.Gen in
/-- Regenerated shape of `Pipeline.reload`: every filter stored into the new generation is a fresh
`filters.Create(spec)` instance, `InjectResiliencePolicy(p.resilience)` is called on it in the same
loop, and nothing of the previous generation is used except through nil tests, `getFilter` and the
argument of the new filter's `Inherit` (the `reuse = false` of the model). -/
theorem pipeline_reload_injects_every_filter :
    FactsC11.pipelineReloadInjectsEveryFilter = true ∧ FactsC11.pipelineReloadPrevLeaks = [] := by decide +kernel

/-! ### The handler behind a (possibly cached) route is resolved per request -/

/-- **For every history** of reloads, requests and changes of what the mux mapper answers (pipeline
created / updated / deleted *without* a reload of the HTTPServer), whatever was requested before: the
implementation-shaped semantics (`pin = false`: nothing about the handler is remembered with a
route) serves every request exactly as the specification `mapServe` says — by the handler mapped
at that time, 503 if there is none. -/
theorem handler_resolved_per_request (ops : List MOp) :
    ∀ (cur : HGen) (h : HMap) (pins : List (Mux.Req × String)),
      mapServeImpl false cur h pins ops = mapServe cur h ops := by
  induction ops with
  | nil => intro _ _ _; rfl
  | cons o rest ih =>
    intro cur h pins
    cases o <;> simp [mapServeImpl, mapServe, ih]

theorem lookup_hmapOf (tag : String) (bs : List String) (x : String) :
    (bs.map fun b => (b, tag ++ ":" ++ b)).lookup x = if bs.contains x then some (tag ++ ":" ++ x) else none := by
  induction bs with
  | nil => simp
  | cons b rest ih =>
    by_cases hx : x = b
    · subst hx; simp
    · have : (x == b) = false := by simpa using hx
      simp [List.lookup, this, ih, hx]

theorem serveMap_hmapOf (g : HGen) (q : HReq) : serveMap g.rules (hmapOf g.mapper) g.options q = serve g q := by
  unfold serveMap serve serveFrom hmapOf
  cases Mux.search g.rules.oracle g.rules.cfg q.q with
  | code c => rfl
  | path ri pi e =>
    simp only [lookup_hmapOf]
    by_cases hc : e.backend ∈ g.mapper.backends <;> simp [hc]

/-- On histories without `set` / `del` the specification is the `histServe` of the reload histories. -/
theorem mapServe_without_changes (cur : HGen) (ops : List (Sum HGen HReq)) :
    mapServe cur (hmapOf cur.mapper) (ops.map fun o => match o with | .inl g => MOp.reload g | .inr q => MOp.req q) =
      histServe cur ops := by
  induction ops generalizing cur with
  | nil => rfl
  | cons o rest ih =>
    cases o with
    | inl g => simp only [List.map_cons, mapServe, histServe]; exact ih g
    | inr q => simp only [List.map_cons, mapServe, histServe, serveMap_hmapOf]; rw [ih cur]

private def mA : HGen :=
  { rules := { cfg := { rules := [{ host := "a.com", paths := [{ path := "/x", backend := "p1" }] }] }, filters := [] },
    options := { xForwardedFor := false }, mapper := { tag := "S0", backends := ["p1"] } }
private def mq : HReq :=
  { q := { host := "a.com", hostNoPort := "a.com", method := "GET", path := "/x", hdr := [], ip := "10.0.0.1" }, xffIn := "", xffContains := false }

/-- Contrast (seeded change C11-m6, replayed on the real code by the `muxhist` harness): with the
handler remembered next to the cached route (`pin = true`), a request repeated after the pipeline was updated still runs the
old generation, after a delete it is still answered instead of 503, after re-creation it still uses
the first generation; the per-request lookup gives the new handler / 503 / the re-created one. -/
theorem pinned_handler_goes_stale :
    (mapServeImpl true (emptyGen "") [] [] [.reload mA, .req mq, .set "p1" "G1:p1", .req mq, .del "p1", .req mq,
        .set "p1" "G2:p1", .req mq]).map (fun o => (o.status, o.handler)) =
      [(200, "S0:p1"), (200, "S0:p1"), (200, "S0:p1"), (200, "S0:p1")] ∧
    (mapServe (emptyGen "") [] [.reload mA, .req mq, .set "p1" "G1:p1", .req mq, .del "p1", .req mq,
        .set "p1" "G2:p1", .req mq]).map (fun o => (o.status, o.handler)) =
      [(200, "S0:p1"), (200, "G1:p1"), (503, ""), (200, "G2:p1")] := by decide +kernel

open EgVerif.Gen in
/-- Regenerated: `serveHTTP` asks the mux mapper directly, in a top-level statement (on every request
that has a route, cache hit or miss), and the cached `route` struct has no field that could hold a
handler. -/
theorem serveHTTP_resolves_handler_per_request :
    FactsC11.serveHTTPGetHandlerTopLevel = 1 ∧ FactsC11.serveHTTPGetHandlerCalls = 1 ∧
      FactsC11.routeHandlerHolderFields = [] ∧ FactsC11.routeFields ≠ [] := by decide +kernel

/-! ## Regenerated facts (the tie for the atomicity assumptions of Part 1 and the kind list of Part 3) -/

open EgVerif.Gen in
/-- One `m.inst.Load()` per request, no write to a published instance, one `GetHandler` per
request and none inside a loop. -/
theorem mux_atomicity_facts :
    FactsC11.extractionFailed = false ∧ FactsC11.muxLoadsPerRequest = 1 ∧
      FactsC11.muxPostPublishWrites = [] ∧ FactsC11.getHandlerCallsPerRequest = 1 ∧
      FactsC11.reloadStoresLast = true := by decide +kernel

open EgVerif.Gen in
/-- `mux.reload` builds the new instance from the new spec only: it loads the old instance once,
uses nothing of it except the tracer (`oldInst.tracer`, `oldInst.spec.Tracing`), and the route
cache of the new instance is always a fresh `lru.NewARC` — no cached route of an earlier
generation can survive an update (the modelling assumption behind `build` taking only `g`). -/
theorem reload_builds_fresh_instance :
    FactsC11.reloadOldInstUses = [] ∧ FactsC11.reloadCacheFresh = true ∧
      FactsC11.reloadInstLoads = 1 := by decide +kernel

open EgVerif.Gen in
/-- Every filter kind whose `Inherit` mentions the previous generation is modelled explicitly
(the only one is RateLimiter); all others are `Independent` on the inherit side by construction. -/
theorem inherit_touching_kinds_are_modelled :
    ∀ k ∈ FactsC11.inheritTouchesPrev, k.2 = true → k.1 ∈ ["ratelimiter"] := by decide +kernel

open EgVerif.Gen in
/-- The repaired `RateLimiter.reload` does not write to the previous generation; `Pipeline.Inherit`
closes the previous generation only after the new one is completely built; the registry
operations lock first and `GetHandler` performs a single map load. -/
theorem update_structure_facts :
    FactsC11.rateLimiterWritesPrev = [] ∧ FactsC11.pipelineClosesPrevAfterReload = true ∧
      (∀ k ∈ FactsC11.tcOpsLockFirst, k.2 = true) ∧ FactsC11.tcOpsLockFirst.length = 4 ∧
      FactsC11.tcGetHandlerLoads = 1 := by decide +kernel

/-! ## Every registered kind is classified; `mux.reload` / `runtime.reload` tied by translation -/

/-- The regenerated list of registered kinds, in its (sorted) order, is the exercised kinds followed by
the one that cannot be instantiated. -/
theorem filterKinds_eq :
    Gen.FactsC11.filterKinds = exercisedFilterKinds ++ notInstantiableFilterKinds.map (·.1) := rfl

open EgVerif.Gen in
/-- **Coverage obligation.** Every filter kind registered with `filters.Register` anywhere under
`pkg/filters` (list regenerated from the source on every run) is either driven by the `filters`
harness or listed, with the reason, as not instantiable in-process offline. A kind added to the
source breaks this obligation until it is classified. -/
theorem filter_kinds_classified :
    FactsC11.extractionFailed = false ∧
      ∀ k ∈ FactsC11.filterKinds,
        k ∈ exercisedFilterKinds ∨ k ∈ notInstantiableFilterKinds.map (·.1) :=
  ⟨rfl, fun _ hk => List.mem_append.1 (filterKinds_eq ▸ hk)⟩

open EgVerif.Gen in
/-- The classification is not stale: every classified kind is a registered kind, no kind is in both
lists, and a kind excluded from the default build by a `//go:build` constraint is not claimed as
exercised. -/
theorem filter_kind_classification_exact :
    (∀ k ∈ exercisedFilterKinds ++ notInstantiableFilterKinds.map (·.1), k ∈ FactsC11.filterKinds) ∧
      (∀ k ∈ exercisedFilterKinds, k ∉ notInstantiableFilterKinds.map (·.1)) ∧
      (∀ k ∈ FactsC11.filterKindBuildTag, k.1 ∉ exercisedFilterKinds) :=
  ⟨fun _ hk => filterKinds_eq ▸ hk, by decide +kernel, by decide +kernel⟩

open EgVerif.Gen in
/-- Per *kind* (not per package): every kind whose `Inherit` mentions the previous generation has an
explicit model (`rlInherit`), and every explicitly modelled kind is exercised by the harness. All
other kinds are `Independent` on the inherit side (`old_generation_usable_of_independent`). -/
theorem inherit_touching_kinds_are_modelled_per_kind :
    (∀ k ∈ FactsC11.filterKindTouchesPrev, k.2 = true → k.1 ∈ explicitlyModelledKinds) ∧
      FactsC11.filterKindTouchesPrev.map (·.1) = FactsC11.filterKinds ∧
      (∀ k ∈ explicitlyModelledKinds, k ∈ exercisedFilterKinds) :=
  ⟨by decide +kernel, rfl, by decide +kernel⟩

open EgVerif.Gen in
/-- Every type registered with `supervisor.Register` under `pkg/object` is classified: driven by a
C11 harness, or listed with the reason why not. -/
theorem object_kinds_classified :
    (∀ k ∈ FactsC11.objectKinds,
        k ∈ exercisedObjectKinds.map (·.1) ∨ k ∈ notExercisedObjectKinds.map (·.1)) ∧
      (∀ k ∈ exercisedObjectKinds.map (·.1) ++ notExercisedObjectKinds.map (·.1), k ∈ FactsC11.objectKinds) := by
  decide +kernel

/-- Non-vacuity: the regenerated lists are not empty and contain the kinds the property names. -/
example : "RateLimiter" ∈ EgVerif.Gen.FactsC11.filterKinds ∧ "KafkaMQTT" ∈ EgVerif.Gen.FactsC11.filterKinds ∧
    EgVerif.Gen.FactsC11.filterKinds.length ≥ 21 ∧ "HTTPServer" ∈ EgVerif.Gen.FactsC11.objectKinds := by
  decide +kernel

open EgVerif.Gen in
/-- **`mux.reload` regenerated from the source** (`pkg/object/httpserver/mux.go`): the definition
translated from the current body equals the model `muxReload` for every old instance, spec, mapper
and every behaviour of `tracing.New` / `lru.NewARC`. -/
theorem muxReload_regenerated_from_source :
    FactsC11IR.extractionFailed = false ∧
      ∀ (newTracer : Option Nat → Option Nat × Bool) (newARC : Nat → Option Nat × Bool) (m : MuxShared)
        (old : MuxInst) (superSpec : Nat) (spec : SrvSpec) (muxMapper : Nat),
        FactsC11IR.muxReloadIR newTracer newARC m old superSpec spec muxMapper =
          muxReload newTracer newARC m old superSpec spec muxMapper :=
  ⟨by decide, HotUpdate.muxReload_regenerated_from_source⟩

open EgVerif.Gen in
/-- **`runtime.reload` regenerated from the source** (`pkg/object/httpserver/runtime.go`). -/
theorem runtimeReload_regenerated_from_source :
    FactsC11IR.extractionFailed = false ∧
      ∀ (r : Runtime) (nextSuperSpec : Nat) (nextSpec : Option SrvSpec) (muxMapper : Nat),
        FactsC11IR.runtimeReloadIR r nextSuperSpec nextSpec muxMapper =
          runtimeReload r nextSuperSpec nextSpec muxMapper :=
  ⟨by decide, HotUpdate.runtimeReload_regenerated_from_source⟩

/-- `mux.reload` is *build, then one Store*: its only effect on shared state is a single
`m.inst.Store` of an instance that carries the new spec, the new mapper, one rule object per spec
rule, and a cache that is either absent or fresh from `lru.NewARC` — never the old instance's. -/
theorem reload_is_build_then_single_store (newTracer : Option Nat → Option Nat × Bool)
    (newARC : Nat → Option Nat × Bool) (m : MuxShared) (old : MuxInst) (superSpec : Nat) (spec : SrvSpec)
    (muxMapper : Nat) :
    ∃ inst, muxReload newTracer newARC m old superSpec spec muxMapper = [MuxEffect.store inst] ∧
      inst.spec = spec ∧ inst.muxMapper = muxMapper ∧ inst.superSpec = superSpec ∧
      inst.rules.length = spec.rules.length ∧
      (inst.cache = none ∨ inst.cache = (newARC spec.cacheSize).1) := by
  refine ⟨buildInstance newTracer newARC m old superSpec spec muxMapper, rfl, rfl, rfl, rfl, ?_, ?_⟩
  · simp [buildInstance]
  · by_cases h : spec.cacheSize > 0 <;> simp [buildInstance, h]

/-- **Nothing of the old instance is reused except the tracer**: two old instances with the same
tracer and tracing spec — whatever their rules, caches, filters, mappers — lead to the same new
instance. (The modelling assumption behind Part 1's `build u g`, where `g` does not depend on the
state, derived from the translated body.) -/
theorem reload_uses_old_only_for_tracer (newTracer : Option Nat → Option Nat × Bool)
    (newARC : Nat → Option Nat × Bool) (m : MuxShared) (old old' : MuxInst) (superSpec : Nat) (spec : SrvSpec)
    (muxMapper : Nat) (ht : old.tracer = old'.tracer) (hs : old.spec.tracing = old'.spec.tracing) :
    muxReload newTracer newARC m old superSpec spec muxMapper =
      muxReload newTracer newARC m old' superSpec spec muxMapper := by
  simp [muxReload, buildInstance, reloadTracer, ht, hs]

/-- The generation a request may read out of an instance. -/
def instGen (i : MuxInst) : Gen (List (Option BuiltRule) × Option Nat × List Nat × Option Nat) SrvSpec Nat :=
  ⟨(i.rules, i.ipFilter, i.ipFilterChan, i.cache), i.spec, i.muxMapper⟩

/-- `mux.reload`'s effect list, read as micro-steps of Part 1: each `Store inst` is `build u g; store u`. -/
def effectSteps (u : Nat) : List MuxEffect →
    List (Step (List (Option BuiltRule) × Option Nat × List Nat × Option Nat) SrvSpec Nat)
  | [] => []
  | .store i :: rest => .build u (instGen i) :: .store u :: effectSteps u rest

/-- **Refinement to Part 1**: executing the (translated) `mux.reload` in any state publishes exactly
one new generation — the one built from the new spec and mapper — on top of the history, and
touches no request's state; so the schedule theorems (`request_sees_one_generation`,
`after_store_new` …) apply to the real `reload`. -/
theorem reload_refines_build_store (newTracer : Option Nat → Option Nat × Bool)
    (newARC : Nat → Option Nat × Bool) (m : MuxShared) (old : MuxInst) (superSpec : Nat) (spec : SrvSpec)
    (muxMapper : Nat) (u : Nat)
    (s : St (List (Option BuiltRule) × Option Nat × List Nat × Option Nat) SrvSpec Nat) :
    let g := instGen (buildInstance newTracer newARC m old superSpec spec muxMapper)
    let s' := run s (effectSteps u (muxReload newTracer newARC m old superSpec spec muxMapper))
    s'.cur = g ∧ s'.hist = g :: s.hist ∧ s'.reqs = s.reqs ∧ g.options = spec ∧ g.mapper = muxMapper := by
  simp [muxReload, effectSteps, run, step, instGen, buildInstance]

open EgVerif.Gen in
/-- The `Spec` fields `needRestartServer` blanks before comparing are exactly the model's
`hotFields` (so `needRestart` = "differs outside the hot fields"). -/
theorem needRestart_ignores_hot_fields : FactsC11IR.needRestartIgnoredFields = hotFields := rfl

/-- **An update confined to rules / IP filters / cache size / X-Forwarded-For / tracing /
maxConnections never closes the listener**: `runtime.reload` then performs the mux reload (one
atomic Store, see above), at most a `SetMaxConnection`, and nothing else — no request fails because
of a listener restart. -/
theorem hot_update_never_restarts (r : Runtime) (cur next : SrvSpec) (ss mm : Nat)
    (hr : r.spec = some cur) (hk : cur.restartKey = next.restartKey) :
    runtimeReloadDecision r.spec (some next) = ServerAction.nothing ∧
      RtEffect.closeServer ∉ (runtimeReload r ss (some next) mm).2 ∧
      RtEffect.startServer ∉ (runtimeReload r ss (some next) mm).2 ∧
      (runtimeReload r ss (some next) mm).1.spec = some next := by
  cases r.hasLimitListener <;>
    simp [runtimeReload, runtimeReloadDecision, needRestart, hr, hk, ServerAction.effects]

/-- Every `runtime.reload` reloads the mux first and exactly once, whatever it then decides about the
listener; the listener is restarted (close before start) only if the specs differ outside the hot
fields, started only if there was no spec before. -/
theorem runtime_reload_shape (r : Runtime) (ss mm : Nat) (next : Option SrvSpec) :
    (runtimeReload r ss next mm).2.head? = some (RtEffect.muxReload ss mm) ∧
      ((runtimeReload r ss next mm).2.filter (fun e => e == RtEffect.muxReload ss mm)).length = 1 ∧
      (runtimeReloadDecision r.spec next = ServerAction.restart ↔
        ∃ c n, r.spec = some c ∧ next = some n ∧ c.restartKey ≠ n.restartKey) := by
  refine ⟨rfl, ?_, ?_⟩
  · simp only [runtimeReload, List.filter_append, List.length_append, ServerAction.effects_no_muxReload]
    cases next with
    | none => simp
    | some n => cases r.hasLimitListener <;> simp
  · cases r.spec <;> cases next <;> simp [runtimeReloadDecision, needRestart]

/-- Non-vacuity: a rules-only update (same `restartKey`) and a port change (different one). -/
example :
    let cur : SrvSpec := ⟨none, none, 0, false, 10, [⟨none, [1], 7⟩], 80⟩
    let nxt : SrvSpec := ⟨none, some 3, 16, true, 20, [⟨some 4, [1, 2], 7⟩, ⟨none, [], 8⟩], 80⟩
    let r : Runtime := ⟨1, some cur, true⟩
    (runtimeReload r 2 (some nxt) 5).2 = [.muxReload 2 5, .setMaxConnection 20] ∧
      (runtimeReload r 2 (some { nxt with restartKey := 81 }) 5).2 =
        [.muxReload 2 5, .setMaxConnection 20, .closeServer, .startServer] ∧
      (runtimeReload ⟨0, none, false⟩ 2 (some nxt) 5).2 = [.muxReload 2 5, .startServer] := by decide +kernel

/-- Non-vacuity for `mux.reload`: two rules with paths and IP filters, cache on, tracing unchanged;
the old instance's cache and rules do not show up in the new one. -/
example :
    let spec : SrvSpec := ⟨none, some 3, 16, true, 20, [⟨some 4, [1, 2], 7⟩, ⟨none, [], 8⟩], 80⟩
    let old : MuxInst := ⟨0, { spec with cacheSize := 4, rules := [] }, 9, 1, 2, none, [], [], some 5, some 4⟩
    muxReload (fun _ => (some 6, false)) (fun n => (some n, false)) ⟨1, 2⟩ old 11 spec 12 =
      [.store ⟨11, spec, 12, 1, 2, some 3, [3],
        [some ⟨[3], ⟨some 4, [1, 2], 7⟩, [some ⟨[3, 4], 1⟩, some ⟨[3, 4], 2⟩]⟩, some ⟨[3], ⟨none, [], 8⟩, []⟩],
        some 5, some 16⟩] := by decide +kernel

end EgVerif.C11
