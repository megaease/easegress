import EgVerif.Proofs.ConnCap
import EgVerif.Proofs.ConnCapIR
import EgVerif.Proofs.ConnCapLive
import EgVerif.Gen.FactsC17
import EgVerif.Gen.FactsC17IR
/-!
# C17 — connection caps hold at every instant (HTTP servers and the MQTT proxy)

HTTP: theorems about `Model/ConnCap.lean` (`sem.Semaphore` + `LimitListener` over the
contract of x/sync's weighted semaphore) for **every** interleaving of `Accept` calls
acquiring, inner accepts returning, connections closing (any number of times),
`SetMaxConnection` calls and their asynchronous adjustments (`Reach`). MQTT: theorems about
`Mq` for every interleaving of early checks, locked sections and removals (`MReach`).

Partial (see notes/C17.md): the x/sync FIFO contract, the kernel accept queue and goroutine
scheduling are trusted/sampled; a `Release` that would drive the weighted semaphore negative
(only possible with capacities near 20 000 000) is excluded by the model's guards.
-/
namespace EgVerif.C17
open EgVerif.ConnCap

/-- states of a LimitListener created with capacity `n₀ ≥ 0`, after any history -/
inductive Reach (n₀ : Int) : Cap → Prop
  | init : Reach n₀ (newCap n₀)
  | step {c c' : Cap} (a : Act) : Reach n₀ c → step c a = some c' → Reach n₀ c'

theorem reach_inv {n₀ : Int} (h0 : 0 ≤ n₀) {c : Cap} (r : Reach n₀ c) : CapInv c := by
  induction r with
  | init => exact capInv_new n₀ h0
  | step a _ hs ih => exact capInv_step ih (step_sound hs)

/-- In every reachable state the weighted semaphore holds exactly the
pre-acquired part `M - effCap` plus one unit per connection that is open or acquired-and-not-
yet-accepted, and never more than its size; hence these connections never outnumber the
capacity carved out of the semaphore. -/
theorem http_inv {n₀ : Int} (h0 : 0 ≤ n₀) {c : Cap} (r : Reach n₀ c) :
    c.cur = M - c.effCap + (c.inAccept.length + c.opened.length : Nat) ∧ c.cur ≤ M ∧
    ((c.inAccept.length + c.opened.length : Nat) : Int) ≤ c.effCap := by
  have h := reach_inv h0 r
  exact ⟨h.count, h.le, held_le_effCap h⟩

/-- Whatever the order in which the adjustment goroutines of any number
of `SetMaxCount` calls ran (every order is a `Reach` history): once none is pending or parked,
the capacity carved out of the semaphore is the value of the *last* call. -/
theorem setmax_commutes {n₀ : Int} (h0 : 0 ≤ n₀) {c : Cap} (r : Reach n₀ c) (hq : quiet c = true) :
    c.effCap = c.realCap := by
  obtain ⟨hp, hw⟩ := (quiet_iff c).mp hq
  exact (realCap_eq_effCap (reach_inv h0 r) hp hw).symm

/-- **Main statement (HTTP).** While no capacity change is pending or parked, at no instant are
there more accepted open connections (even counting the one `Accept` that already holds a unit)
than `maxConnections`. -/
theorem cap_holds {n₀ : Int} (h0 : 0 ≤ n₀) {c : Cap} (r : Reach n₀ c) (hq : quiet c = true) :
    ((c.inAccept.length + c.opened.length : Nat) : Int) ≤ c.realCap := by
  rw [← setmax_commutes h0 r hq]; exact (http_inv h0 r).2.2

/-- Once every run-time change has been applied (`quiet`), an inner accept
can only return a connection (`acceptDone`) while the number of open connections is strictly
below the current cap … -/
theorem setmax_applied {n₀ : Int} (h0 : 0 ≤ n₀) {c c' : Cap} {id : Nat} (r : Reach n₀ c)
    (hq : quiet c = true) (hs : step c (Act.acceptDone id) = some c') :
    (c.opened.length : Int) < c.realCap := by
  have hc := cap_holds h0 r hq
  cases step_sound hs with
  | acceptDone _ hm =>
    have := List.length_pos_of_mem hm
    omega

/-- … and no step other than its own `Close` ever removes an established connection. -/
theorem established_kept {c c' : Cap} {a : Act} {id : Nat} (hs : step c a = some c')
    (ho : id ∈ c.opened) (hn : id ∉ c'.opened) : a = Act.connClose id := by
  cases step_sound hs with
  | close k =>
    rw [semRelease_frame frame_opened] at hn
    by_cases e : id = k
    · rw [e]
    · exact absurd ((List.mem_erase_of_ne e).mpr ho) hn
  | acquire | shrink => exact absurd ((semAcquire_frame frame_opened ..).symm ▸ ho) hn
  | acceptFail | grow => exact absurd ((semRelease_frame frame_opened ..).symm ▸ ho) hn
  | acceptDone => exact absurd (List.mem_cons_of_mem _ ho) hn
  | reclose | halfClose | setMax | skip => exact absurd ho hn

/-- Closing an accepted connection a second time releases nothing and changes
nothing. -/
theorem release_once {n₀ : Int} (h0 : 0 ≤ n₀) {c c1 : Cap} {id : Nat} (r : Reach n₀ c)
    (hs : step c (Act.connClose id) = some c1) : step c1 (Act.connClose id) = some c1 := by
  cases step_sound hs with
  | reclose _ hno hcl => exact step_connClose_closed hno hcl
  | close =>
    apply step_connClose_closed
    · rw [semRelease_frame frame_opened]
      exact fun hh => ((List.Nodup.mem_erase_iff (reach_inv h0 r).nodup).mp hh).1 rfl
    · rw [semRelease_frame frame_closed]
      exact List.mem_cons_self ..

/-- Capacity released by a closing connection is usable again: an `Accept`
waiting at the head of the queue is granted its unit by that very `Close` … -/
theorem release_reusable {n₀ : Int} (h0 : 0 ≤ n₀) {c c' : Cap} {id w : Nat} {rest : List Waiter}
    (r : Reach n₀ c) (hw : c.waiters = ⟨w, 1, WKind.unit⟩ :: rest)
    (hs : step c (Act.connClose id) = some c') (ho : id ∈ c.opened) : w ∈ c'.inAccept := by
  have h := reach_inv h0 r
  cases step_sound hs with
  | reclose _ hno => exact absurd ho hno
  | close =>
    have hle := h.le
    have hsz := h.size
    rw [semRelease, hw, notify, if_neg (by show ¬ c.size - (c.cur - 1) < 1; omega)]
    exact notify_inAccept_sub _ _ (by rw [grant_unit rfl]; exact List.mem_cons_self ..)

/-- … and with an empty queue and spare capacity an `Accept` gets its unit at once. -/
theorem acquire_immediate {n₀ : Int} (h0 : 0 ≤ n₀) {c c' : Cap} {id : Nat} (r : Reach n₀ c)
    (hw : c.waiters = []) (hspare : ((c.inAccept.length + c.opened.length : Nat) : Int) < c.effCap)
    (hs : step c (Act.acquire id) = some c') : id ∈ c'.inAccept := by
  have hroom : (1 : Int) ≤ c.size - c.cur := room_eq (reach_inv h0 r) ▸ Int.sub_pos.mpr hspare
  cases step_sound hs with
  | acquire =>
    rw [semAcquire, if_pos ⟨hroom, hw⟩, grant_unit rfl]
    exact List.mem_cons_self ..

/-- Conversely an `Accept` is held back while the cap is reached: with no spare capacity it
does not get a unit (it queues), so no connection beyond the cap is accepted. -/
theorem acquire_held_back {n₀ : Int} (h0 : 0 ≤ n₀) {c c' : Cap} {id : Nat} (r : Reach n₀ c)
    (hfull : c.effCap ≤ ((c.inAccept.length + c.opened.length : Nat) : Int))
    (hs : step c (Act.acquire id) = some c') : c'.inAccept = c.inAccept ∧ c'.opened = c.opened := by
  have hroom : c.size - c.cur ≤ 0 := room_eq (reach_inv h0 r) ▸ Int.sub_nonpos_of_le hfull
  cases step_sound hs with
  | acquire =>
    rw [semAcquire, if_neg fun hfit => absurd (Int.le_trans hfit.1 hroom) (show ¬ (1 : Int) ≤ 0 by decide)]
    exact ⟨rfl, rfl⟩

inductive MReach (cap : Nat) : Mq → Prop
  | init : MReach cap ⟨cap, [], []⟩
  | step {m m' : Mq} {o : MOut} (a : MAct) : MReach cap m → mstep m a = some (m', o) → MReach cap m'

theorem mreach_inv {cap : Nat} {m : Mq} (r : MReach cap m) :
    m.cap = cap ∧ (0 < m.cap → m.clients.length ≤ m.cap) := by
  induction r with
  | init => exact ⟨rfl, fun _ => Nat.zero_le _⟩
  | step a _ hs ih =>
    have h := mstep_clients hs ih.2
    exact ⟨h.1.trans ih.1, h.2⟩

/-- With `maxAllowedConnection = cap > 0` the broker never has more than `cap`
registered clients, for any interleaving of early checks, locked sections (incl. takeovers) and
removals. -/
theorem mqtt_inv {cap : Nat} (hcap : 0 < cap) {m : Mq} (r : MReach cap m) : m.clients.length ≤ cap := by
  obtain ⟨rfl, h⟩ := mreach_inv r
  exact h hcap

/-- The locked section of a connection whose client id is already
registered is accepted and replaces the entry: the set of registered ids does not change, even
at the cap. -/
theorem mqtt_takeover_at_cap {m m' : Mq} {o : MOut} {conn cid : Nat}
    (hp : m.passed.find? (·.1 == conn) = some (conn, cid)) (hreg : m.clients.contains cid = true)
    (hs : mstep m (MAct.locked conn) = some (m', o)) : o = MOut.accepted ∧ m'.clients = m.clients := by
  simp only [mstep, hp, hreg, if_true] at hs
  cases hs; exact ⟨rfl, rfl⟩

/-- At the cap a connection with a new client id is refused
(server-unavailable) by the locked section, and every CONNECT is refused by the early check;
neither changes the registered clients. -/
theorem mqtt_refuse_at_cap {m m' : Mq} {o : MOut} {conn cid : Nat} (hat : atCap m = true) :
    (m.passed.find? (·.1 == conn) = some (conn, cid) → m.clients.contains cid = false →
      mstep m (MAct.locked conn) = some (m', o) → o = MOut.refused ∧ m'.clients = m.clients) ∧
    (mstep m (MAct.early conn cid) = some (m', o) → o = MOut.refused ∧ m' = m) := by
  constructor
  · intro hp hnew hs
    simp only [mstep, hp, hnew, hat, if_true, Bool.false_eq_true, if_false] at hs
    cases hs; exact ⟨rfl, rfl⟩
  · intro hs
    simp only [mstep, hat, if_true] at hs
    split at hs <;> cases hs
    exact ⟨rfl, rfl⟩

/-- Below the cap (or with no cap) a new client id is let in by both checks. -/
theorem mqtt_accept_below_cap {m m' : Mq} {o : MOut} {conn cid : Nat} (hbelow : atCap m = false)
    (hp : m.passed.find? (·.1 == conn) = some (conn, cid)) (hnew : m.clients.contains cid = false)
    (hs : mstep m (MAct.locked conn) = some (m', o)) : o = MOut.accepted ∧ m'.clients = cid :: m.clients := by
  simp only [mstep, hp, hnew, hbelow, Bool.false_eq_true, if_false] at hs
  cases hs; exact ⟨rfl, rfl⟩

/-! ### Several `SetMaxCount` calls in flight

`cap_holds` / `setmax_applied` speak about quiet states. The theorems below hold in **every**
reachable state, i.e. for any sequence of `SetMaxCount` calls, accepts and closes with any number of
adjustment goroutines not yet run (`pending`) or parked in the weighted semaphore's queue. -/

/-- In every reachable state — whatever `SetMaxCount` calls are in flight —
the capacity carved out of the semaphore differs from the configured one by exactly the adjustments
not yet executed minus the shrinks parked in the queue: no adjustment is ever lost, duplicated or
cancelled. (seeded/C17-m3 breaks exactly this: a later call cancels a parked shrink.) -/
theorem inflight_bookkeeping {n₀ : Int} (h0 : 0 ≤ n₀) {c : Cap} (r : Reach n₀ c) :
    c.effCap = c.realCap - pendSum c.pending + adjSum c.waiters := by
  have := (reach_inv h0 r).book
  omega

/-- At every instant the connections holding a unit exceed the
configured `maxConnections` by at most the total of the shrinks that are still outstanding (spawned
and not yet run, or parked behind open connections). -/
theorem inflight_overshoot_bounded {n₀ : Int} (h0 : 0 ≤ n₀) {c : Cap} (r : Reach n₀ c) :
    ((c.inAccept.length + c.opened.length : Nat) : Int) ≤ c.realCap + pendingShrink c.pending + adjSum c.waiters := by
  have h1 := (http_inv h0 r).2.2
  have h2 := inflight_bookkeeping h0 r
  have h3 := pendSum_ge_neg_shrink c.pending
  omega

/-- While only *grow* adjustments are in flight (any number, in any
order) and no shrink is parked, the cap holds at every instant — `cap_holds` without waiting for
the goroutines. -/
theorem cap_holds_while_growing {n₀ : Int} (h0 : 0 ≤ n₀) {c : Cap} (r : Reach n₀ c)
    (hgrow : ∀ p ∈ c.pending, 0 ≤ p.2) (hpark : c.waiters.all (·.kind != WKind.adj) = true) :
    ((c.inAccept.length + c.opened.length : Nat) : Int) ≤ c.realCap := by
  have h1 := (http_inv h0 r).2.2
  have h2 := inflight_bookkeeping h0 r
  have h3 := pendSum_nonneg_of_all_grow _ hgrow
  have h4 := adjSum_eq_zero fun w hw => bne_iff_ne.mp (List.all_eq_true.mp hpark w hw)
  omega

theorem reach_queue {n₀ : Int} {c : Cap} (r : Reach n₀ c) : AdjPos c ∧ HeadBlocked c := by
  induction r with
  | init => exact ⟨fun _ hw => (nomatch hw), fun _ _ h => (nomatch h)⟩
  | step a _ hs ih => exact queue_step ih (step_sound hs)

/-- A shrink parked at the head of the weighted semaphore's queue
(more connections open than the new cap) is applied by the `Close` that frees enough room for it: the
capacity carved out of the semaphore drops by at least its weight — no further `SetMaxCount`, accept
or write is needed, only connections closing. -/
theorem parked_shrink_applied_by_close {n₀ : Int} (h0 : 0 ≤ n₀) {c c' : Cap} {id i : Nat} {k : Int}
    {rest : List Waiter} (r : Reach n₀ c) (hw : c.waiters = ⟨i, k, WKind.adj⟩ :: rest)
    (ho : id ∈ c.opened) (hfit : k ≤ M - c.cur + 1) (hs : step c (Act.connClose id) = some c') :
    c'.effCap ≤ c.effCap - k := by
  cases step_sound hs with
  | reclose _ hno => exact absurd ho hno
  | close =>
    have hsz := (reach_inv h0 r).size
    rw [semRelease, hw, notify, if_neg (by show ¬ c.size - (c.cur - 1) < k; omega)]
    -- the shrink is granted; the rest of the queue is served from there
    exact notify_effCap_le rest _ fun w hw' => (reach_queue r).1 w (hw ▸ List.mem_cons_of_mem _ hw')

/-- Non-vacuity: cap 2, two connections open, shrink to 1 parks at the head; one `Close` applies it. -/
example :
    let c := run (newCap 2) [.acquire 0, .acceptDone 0, .acquire 1, .acceptDone 1, .setMax 1, .adjust 0]
    c.waiters = [⟨0, 1, WKind.adj⟩] ∧ 0 ∈ c.opened ∧ (1 : Int) ≤ M - c.cur + 1 ∧ c.effCap = 2 ∧
    (step c (.connClose 0)).map (·.effCap) = some 1 := by decide +kernel

/-- Once every spawned adjustment goroutine has run, a shrink can be
parked only while more units are in use than the configured cap. Contrapositive (what the judges check
on every settled snapshot, sig `setmax:parked-shrink-not-applied`): as soon as the connections fit
into the new cap, the change **has been applied** — an adjustment that can never be applied (e.g. an
`Acquire` of more than the semaphore's size, seeded/C17-m4) contradicts it. -/
theorem parked_shrink_means_over_cap {n₀ : Int} (h0 : 0 ≤ n₀) {c : Cap} (r : Reach n₀ c)
    (hp : c.pending = []) (hex : ∃ w ∈ c.waiters, w.kind = WKind.adj) :
    c.realCap < ((c.inAccept.length + c.opened.length : Nat) : Int) :=
  parked_means_over_cap (reach_inv h0 r) (reach_queue r).1 (reach_queue r).2 hp hex

/-- `realCapacity ≤ maxCapacity` in every reachable state, and whatever is asked for,
`SetMaxCount` stores at most `maxCapacity` (translated clamp), so the weight of a later shrink never
exceeds the size of the weighted semaphore. -/
theorem realCap_le_max {n₀ : Int} (hM : n₀ ≤ M) {c : Cap} (r : Reach n₀ c) : c.realCap ≤ M := by
  induction r with
  | init => exact hM
  | step a _ hs ih =>
    rcases step_realCap (step_sound hs) with e | ⟨n, _, e⟩
    · exact e ▸ ih
    · exact e ▸ setMaxCount_le_max _ n

/-- Non-vacuity / the scenario of seeded/C17-m4: cap 2 with three connections… `SetMaxCount(25000000)` is
`SetMaxCount(M)`; the later shrink to 2 acquires `M − 2 ≤ size`, parks while 3 connections are open
(over the cap, as the theorem says) and is applied by the next `Close`. -/
example :
    setMaxCount 2 25000000 = (M, [AdjOp.release (M - 2), AdjOp.done]) ∧
    setMaxCount M 2 = (2, [AdjOp.acquire (M - 2), AdjOp.done]) ∧
    (let c := run (newCap 2) [.setMax M, .adjust 0, .acquire 0, .acceptDone 0, .acquire 1, .acceptDone 1,
                              .acquire 2, .acceptDone 2, .acquire 3, .setMax 2, .adjust 1]
     c.pending = [] ∧ c.waiters.map (·.n) = [M - 2] ∧ c.realCap = 2 ∧ c.effCap = M ∧
     c.inAccept.length + c.opened.length = 4 ∧
     (run c [.connClose 0, .connClose 1]).effCap = 2 ∧ quiet (run c [.connClose 0, .connClose 1]) = true) := by
  decide +kernel

/-- the slip of seeded/C17-m3 in the model: a new `SetMaxCount` drops the shrinks parked in the queue -/
private def supersede (c : Cap) : Cap := { c with waiters := c.waiters.filter (·.kind != WKind.adj) }

/-- Non-vacuity / sharpness: cap 3 with 3 connections open, `SetMaxCount(1)` parks a shrink of 2,
`SetMaxCount(2)` grows by 1. Unchanged code: in-flight identity holds (effCap 4 = 2 − 0 + 2), the
overshoot bound is 2 + 0 + 2, and after two closes the cap is 2. With the parked shrink dropped the
state is quiet with effCap = 4 ≠ realCap = 2 — `setmax_commutes` and the identity fail. -/
example :
    let pre := run (newCap 3) [.acquire 0, .acceptDone 0, .acquire 1, .acceptDone 1, .acquire 2, .acceptDone 2,
                               .acquire 3, .setMax 1, .adjust 0]
    let ok := run pre [.setMax 2, .adjust 1]
    let bad := run (supersede pre) [.setMax 2, .adjust 1]
    (ok.effCap = 4 ∧ ok.realCap = 2 ∧ pendSum ok.pending = 0 ∧ adjSum ok.waiters = 2 ∧ quiet ok = false) ∧
    (run ok [.connClose 0, .connClose 1]).effCap = 2 ∧
    (bad.effCap = 4 ∧ bad.realCap = 2 ∧ quiet bad = true) := by decide +kernel

/-- A step that is not a `SetMaxCount` keeps "every change applied" true and the cap
unchanged. -/
theorem quiet_stable {c c' : Cap} {a : Act} (hq : quiet c = true) (hs : step c a = some c')
    (hn : ∀ n, a ≠ Act.setMax n) : quiet c' = true ∧ c'.realCap = c.realCap :=
  ConnCap.quiet_stable hq hs hn

theorem reach_run {n₀ : Int} {c : Cap} (r : Reach n₀ c) (acts : List Act) : Reach n₀ (run c acts) :=
  run_ind (fun _ a _ _ r hs => Reach.step a r hs) r

/-- The statement's "while its cap is unchanged, at no instant …": from a
state in which every change has been applied, after ANY further sequence of accepts, failed accepts, closes
(no `SetMaxCount`) the state is still quiet, the cap is the same and the open connections (even counting the
acceptor's unit) do not exceed it. Every intermediate state is such a `run c acts` (of a prefix). -/
theorem cap_holds_until_next_setmax {n₀ : Int} (h0 : 0 ≤ n₀) {c : Cap} (r : Reach n₀ c) (hq : quiet c = true)
    (acts : List Act) (hno : ∀ a ∈ acts, ∀ n, a ≠ Act.setMax n) :
    quiet (run c acts) = true ∧ (run c acts).realCap = c.realCap ∧
    (((run c acts).inAccept.length + (run c acts).opened.length : Nat) : Int) ≤ c.realCap := by
  have key : quiet (run c acts) = true ∧ (run c acts).realCap = c.realCap :=
    run_ind (P := fun x => quiet x = true ∧ x.realCap = c.realCap)
      (fun _ a _ ha hx hs =>
        have h := ConnCap.quiet_stable hx.1 hs (hno a ha)
        ⟨h.1, h.2.trans hx.2⟩)
      ⟨hq, rfl⟩
  exact ⟨key.1, key.2, key.2 ▸ cap_holds h0 (reach_run r acts) key.1⟩

/-- The executable snapshot specification the judges evaluate on the implementation's observations
(`obsViolation` in `Spec/ConnCap.lean`: cur ≤ size; nothing parked ⇒ units in use ≤ cap ∧ cur = M − cap + units; a
parked shrink ⇒ over the cap; nothing parked ∧ somebody waits ⇒ cap fully used) accepts the observation of
every reachable model state in which all spawned adjustment goroutines have run — so a spec violation
reported by a judge is a behaviour outside the model the theorems are about. -/
theorem spec_accepts_model {n₀ : Int} (h0 : 0 ≤ n₀) {c : Cap} (r : Reach n₀ c) (hp : c.pending = []) :
    obsViolation (obsOf c) = none ∧ obsOK (obsOf c) = true := by
  have h := obsViolation_none_of_inv (reach_inv h0 r) (reach_queue r).1 (reach_queue r).2 hp
  exact ⟨h, by simp [obsOK, h]⟩

/-- … and the listener judges' interval check (`intervalOK`: the largest open count seen at an accept
while the cap was unchanged and applied) accepts every model run. -/
theorem interval_spec_accepts_model {n₀ : Int} (h0 : 0 ≤ n₀) {c : Cap} (r : Reach n₀ c) (hq : quiet c = true)
    (acts : List Act) (hno : ∀ a ∈ acts, ∀ n, a ≠ Act.setMax n) :
    intervalOK (run c acts).opened.length c.realCap = true := by
  have := (cap_holds_until_next_setmax h0 r hq acts hno).2.2
  simp only [intervalOK, decide_eq_true_eq]
  omega

/-- The model's `step` is partial where Go's `Weighted.Release` would panic ("released
more than held"): a grow with `d > cur`, a `Close` / failed accept with `cur = 0`. While the *budget* — the
configured capacity plus all outstanding shrinks — fits into the semaphore (`≤ maxCapacity`), these guards
hold: every spawned adjustment, every `Close` of an open connection, every failed accept and every
`SetMaxCount(n ≥ 0)` is enabled, i.e. `Reach` then contains every history the Go code can produce. -/
theorem guards_enabled {n₀ : Int} (h0 : 0 ≤ n₀) {c : Cap} (r : Reach n₀ c) (hb : budget c ≤ M) :
    (∀ id, (takeAdj id c.pending).isSome → (step c (.adjust id)).isSome) ∧
    (∀ id, id ∈ c.opened → (step c (.connClose id)).isSome) ∧
    (∀ id, id ∈ c.inAccept → (step c (.acceptFail id)).isSome) ∧
    (∀ n, 0 ≤ n → (step c (.setMax n)).isSome) := by
  -- `cur` is `M - budget` plus the units held, up to the adjustments still pending
  have key : c.cur = M - budget c + (pendSum c.pending + pendingShrink c.pending) +
      ((c.inAccept.length + c.opened.length : Nat) : Int) := by
    have := (reach_inv h0 r).count
    have := (reach_inv h0 r).book
    unfold budget
    omega
  have hneg := pendSum_ge_neg_shrink c.pending
  have hone : 0 < c.inAccept.length + c.opened.length → 1 ≤ c.cur := by
    intro
    omega
  refine ⟨fun id hsome => ?_, fun id hm => ?_, fun id hm => ?_, fun n hn => ?_⟩
  · obtain ⟨⟨d, rest⟩, ht⟩ := Option.isSome_iff_exists.mp hsome
    rw [step, ht]
    dsimp only
    split
    · -- a grow of `d`: `rest` still holds `pendSum rest + pendingShrink rest ≥ 0`
      next hd =>
      have h1 := takeAdj_sum ht
      have h2 := takeAdj_sum_of (F := pendingShrink) (g := fun x => if x < 0 then -x else 0) (fun _ _ => rfl) ht
      have h3 := pendSum_ge_neg_shrink rest
      rw [if_neg (Int.not_lt.mpr (Int.le_of_lt hd))] at h2
      rw [if_pos (by omega)]
      rfl
    · split
      · rfl
      · rfl
  · rw [step, if_pos hm, if_pos (hone (Nat.add_pos_right _ (List.length_pos_of_mem hm)))]
    rfl
  · rw [step, if_pos hm, if_pos (hone (Nat.add_pos_left (List.length_pos_of_mem hm) _))]
    rfl
  · rw [step, if_pos hn]
    rfl

/-- "below M/2": with the cap and the outstanding shrinks each at most `M / 2` (e.g. all configured caps
≤ 10 000 000 and at most one shrink not yet applied) the budget fits. -/
theorem budget_below_half {c : Cap} (hcap : c.realCap ≤ M / 2)
    (hout : pendingShrink c.pending + adjSum c.waiters ≤ M / 2) : budget c ≤ M := by
  unfold budget; omega

/-- Non-vacuity, and the witness for the open finding `panic:semaphore-released-more-than-held`: capacity
25 000 000 (clamped to `M`), three connections, `SetMaxCount(2)` parks, `SetMaxCount(10)`: the budget is
`10 + (M − 2) > M`, the grow `Release(8)` is **not enabled** (`cur = 3`) — this is where the Go code panics.
With capacity 100 instead of 25 000 000 the same history is fine. -/
example :
    let h (big : Int) := run (newCap 2) [.setMax big, .adjust 0, .acquire 0, .acceptDone 0, .acquire 1, .acceptDone 1,
                                      .acquire 2, .acceptDone 2, .setMax 2, .adjust 1, .setMax 10]
    (budget (h 25000000) > M ∧ (h 25000000).cur = 3 ∧ step (h 25000000) (.adjust 2) = none) ∧
    (budget (h 100) ≤ M ∧ (step (h 100) (.adjust 2)).isSome = true) := by decide +kernel

/-- `Accept` with a failing inner accept (`Act.acceptFail`, `acceptBody true false true = (false, 0)`): the unit
goes back and a waiting `Accept` is served. -/
example :
    let c := run (newCap 1) [.acquire 0, .acquire 1]
    c.inAccept = [0] ∧ c.waiters.map (·.id) = [1] ∧
    (step c (.acceptFail 0)).map (fun x => (x.inAccept, x.waiters.length, x.cur)) = some ([1], 0, M) := by decide +kernel

example : obsViolation (obsOf (run (newCap 2) [.acquire 0, .acceptDone 0, .acquire 1, .acceptDone 1, .acquire 2,
    .setMax 1, .adjust 0, .connClose 0])) = none ∧
    obsViolation { cur := M - 1, unitsHeld := 1, parked := 1, capNow := 2, unitWaiting := false, settled := true }
      = some "setmax:parked-shrink-not-applied" := by decide +kernel

/-! ### A peer's half-close does not give the slot back (seeded/C17-m5) -/

/-- Regenerated on every run. The wrapper type `limitListenerConn`
declares exactly one method, `Close` (every other `net.Conn` method is the embedded connection's and cannot
touch the semaphore); the only functions of limitlistener.go that mention a connection's `release` /
`releaseOnce` are `LimitListener.Accept` (which builds the connection and gives its own unit back on its error
paths, translated: `accept_regenerated_from_source`) and `limitListenerConn.Close` (translated:
`connClose_regenerated_from_source`). A new method on the wrapper (a `Read` that releases on EOF …) or a
new user of these fields breaks this obligation until it is classified in the model. -/
theorem slot_released_only_in_close :
    Gen.FactsC17.extractionFailed = false ∧ Gen.FactsC17.connMethods = ["Close"] ∧
    Gen.FactsC17.listenerMethods = ["Accept", "Close", "SetMaxConnection", "acquire", "release"] ∧
    Gen.FactsC17.listenerOtherFuncs = ["NewLimitListener"] ∧
    Gen.FactsC17.releaseUsers = ["LimitListener.Accept", "limitListenerConn.Close"] := by decide +kernel

/-- Whatever the peer does to an established connection — here: shutting down
its sending side, so that the server's reads return EOF — is a no-op for the semaphore and the bookkeeping:
the connection counts from `Accept` until its own `Close`. -/
theorem half_close_keeps_slot {c c' : Cap} {id : Nat} (hs : step c (Act.peerHalfClose id) = some c') :
    c' = c ∧ id ∈ c'.opened := by
  cases step_sound hs with
  | halfClose _ h => exact ⟨rfl, h⟩

/-- `Reach` histories include peer half-closes, so `http_inv`, `cap_holds`, `cap_holds_until_next_setmax`,
`release_once`, `setmax_applied` … hold over them; in particular at the cap, with the first client
half-closed and its handler still busy, a second `Accept` is held back (the scenario of seeded/C17-m5). -/
example :
    let c := run (newCap 1) [.acquire 0, .acceptDone 0, .acquire 1, .peerHalfClose 0]
    c.opened = [0] ∧ c.inAccept = [] ∧ c.waiters.map (·.id) = [1] ∧ c.cur = M ∧
    (run c [.connClose 0]).inAccept = [1] := by decide +kernel

/-! ### FIFO is what makes the single weighted `Acquire(old − n)` correct (seeded/C17-m6) -/

/-- x/sync's weighted semaphore is FIFO: while anybody waits —
in particular a shrink `Acquire(old − n)` parked as ONE waiter of weight `old − n` — a new `Accept` does not
get a unit, it queues behind; and `Release` wakes strictly from the front (`notify`), so the parked shrink is
served before every `Accept` that arrived after it. That is why `SetMaxCount` may shrink with a single
weighted acquire: after the at most one `Accept` that was ahead of it, nothing is accepted until the whole
shrink has been applied (`acceptsWhileParkedOK`, judged on every listener history). A shrinker that
re-queues after every single unit (seeded/C17-m6) lets every second `Close` admit a new client. -/
theorem new_accept_queues_behind_parked_shrink {c c' : Cap} {id : Nat} (hne : c.waiters ≠ [])
    (hs : step c (Act.acquire id) = some c') :
    c'.waiters = c.waiters ++ [⟨id, 1, WKind.unit⟩] ∧ c'.inAccept = c.inAccept ∧ c'.cur = c.cur := by
  cases step_sound hs with
  | acquire => exact semAcquire_of_ne hne _ ▸ ⟨rfl, rfl, rfl⟩

/-- … and a `Close` serves the queue strictly from the front: with a shrink of weight `k > 1` at the head
and only one unit free, nobody behind it is served. -/
theorem close_does_not_overtake_parked_shrink {c c' : Cap} {id i : Nat} {k : Int} {rest : List Waiter}
    (hw : c.waiters = ⟨i, k, WKind.adj⟩ :: rest) (ho : id ∈ c.opened) (hno : c.size - (c.cur - 1) < k)
    (hs : step c (Act.connClose id) = some c') : c'.waiters = c.waiters ∧ c'.inAccept = c.inAccept := by
  cases step_sound hs with
  | reclose _ hn => exact absurd ho hn
  | close =>
    rw [semRelease, hw, notify, if_pos hno]
    exact ⟨rfl, rfl⟩

/-- the seeded scenario in the model: cap 3, three open, an `Accept` waiting, shrink to 1 (weight 2, parked
behind the Accept). Close 1 serves the waiting Accept (the one allowed), whose next `Accept` queues behind the
shrink; closes 2 and 3 apply the shrink; nothing else is accepted: 4 accepted in total, 1 open at the end … -/
example :
    let c := run (newCap 3) [.acquire 0, .acceptDone 0, .acquire 1, .acceptDone 1, .acquire 2, .acceptDone 2,
                              .acquire 3, .setMax 1, .adjust 0,
                              .connClose 0, .acceptDone 3, .acquire 4, .connClose 1, .connClose 2]
    c.opened = [3] ∧ c.closed = [2, 1, 0] ∧ c.effCap = 1 ∧ c.waiters.map (·.id) = [4] ∧ quiet c = true ∧
    acceptsWhileParkedOK 3 4 = true ∧ acceptsWhileParkedOK 3 5 = false := by decide +kernel

/-! ### Tie by translation (regenerated on every run, `notes/IR.md`) -/

/-- `Gen.FactsC17IR.setMaxCountIR` is re-translated on every run from the current body of
`Semaphore.SetMaxCount` *including the body of the goroutine it spawns* (recorded `Release` /
`Acquire` / `close(done)`); it is the hand-written `setMaxCount` on every input. -/
theorem setMaxCount_regenerated_from_source (realCap n : Int) :
    Gen.FactsC17IR.extractionFailed = false ∧ Gen.FactsC17IR.setMaxCountIR realCap n = setMaxCount realCap n := by
  refine ⟨rfl, ?_⟩
  unfold Gen.FactsC17IR.setMaxCountIR setMaxCount adjBody
  simp only [decide_eq_true_eq, List.nil_append]
  -- robust against the order of the two tests in the goroutine body: all four sign combinations are
  -- split; the contradictory ones are closed by `omega` from the hypotheses
  all_goals
    by_cases h1 : n > M
    · simp only [h1, if_true]
      by_cases h2 : M > realCap <;> by_cases h3 : M < realCap <;> simp [h2, h3] <;> omega
    · simp only [h1, if_false]
      by_cases h2 : n > realCap <;> by_cases h3 : n < realCap <;> simp [h2, h3] <;> omega

/-- `LimitListener.Accept`: (returns a connection, units of the semaphore it still holds). -/
theorem accept_regenerated_from_source (acquired ctxErr innerErr : Bool) :
    Gen.FactsC17IR.extractionFailed = false ∧
    Gen.FactsC17IR.acceptIR acquired ctxErr innerErr = acceptBody acquired ctxErr innerErr := by
  cases acquired <;> cases ctxErr <;> cases innerErr <;> exact ⟨rfl, rfl⟩

/-- `limitListenerConn.Close`: `release` is called through the `sync.Once` exactly when it has not fired. -/
theorem connClose_regenerated_from_source (once : Bool) :
    Gen.FactsC17IR.extractionFailed = false ∧
    Gen.FactsC17IR.connCloseIR once =
      ((connCloseBody once).1, List.replicate (connCloseBody once).2 Gen.FactsC17IR.OnceFn.release) := by
  cases once <;> exact ⟨rfl, rfl⟩

/-- `LimitListener.Close`: the context is cancelled through `closeOnce` at most once. -/
theorem listenerClose_regenerated_from_source (once : Bool) :
    Gen.FactsC17IR.extractionFailed = false ∧
    Gen.FactsC17IR.listenerCloseIR once =
      ((connCloseBody once).1, List.replicate (connCloseBody once).2 Gen.FactsC17IR.OnceFn.cancel) := by
  cases once <;> exact ⟨rfl, rfl⟩

/-- The transition function all theorems above speak about is
built from the translated functions: `setMax` = `setMaxCount`'s synchronous part with the stored
difference `n - old`, `adjust` = the recorded goroutine actions `adjBody d 0` applied to the weighted
semaphore, `connClose` releases `(connCloseBody once).2` units, and an `Accept` call keeps one unit
iff it returns a connection (the `inAccept` unit becomes the `opened` unit). -/
theorem step_built_from_translated_code :
    (∀ (c : Cap) (n : Int), 0 ≤ n →
      step c (.setMax n) = some { c with realCap := (setMaxCount c.realCap n).1,
                                         pending := c.pending ++ [(c.nextAdj, (setMaxCount c.realCap n).1 - c.realCap)],
                                         nextAdj := c.nextAdj + 1 } ∧
      (setMaxCount c.realCap n).2 = adjBody ((setMaxCount c.realCap n).1 - c.realCap) 0) ∧
    (∀ (c : Cap) (id : Nat), step c (.adjust id) =
      match takeAdj id c.pending with
      | none => none
      | some (d, rest) => applyAdjOps { c with pending := rest } id (adjBody d 0)) ∧
    (∀ (c c' : Cap) (id : Nat), step c (.connClose id) = some c' → (id ∈ c.opened → id ∉ c.closed) →
      (decide (id ∈ c.closed) = false →
        c' = semRelease { c with opened := c.opened.erase id, closed := id :: c.closed }
               ((connCloseBody (decide (id ∈ c.closed))).2 : Int)) ∧
      (decide (id ∈ c.closed) = true → c' = c ∧ (connCloseBody (decide (id ∈ c.closed))).2 = 0)) ∧
    (∀ acquired ctxErr innerErr : Bool, (acquired = false → ctxErr = true) →
      (acceptBody acquired ctxErr innerErr).2 = (if (acceptBody acquired ctxErr innerErr).1 then 1 else 0) ∧
      (acceptBody acquired ctxErr innerErr).1 = (!ctxErr && !innerErr)) :=
  ⟨setMax_step_is_setMaxCount, adjust_step_is_adjBody, connClose_is_connCloseBody,
   fun a c i h => ⟨accept_units a c i h, accept_returns_iff a c i⟩⟩

theorem setMaxCount_clamped (realCap n : Int) (h : n > M) : setMaxCount realCap n = setMaxCount realCap M := by
  simp only [setMaxCount, h, if_true, gt_iff_lt, Int.lt_irrefl, if_false]

/-- Non-vacuity: shrink 5 → 2 records `Acquire(3)` then `close(done)`; grow 2 → 5 records `Release(3)`;
an `Accept` whose inner accept fails gives its unit back. -/
example : setMaxCount 5 2 = (2, [AdjOp.acquire 3, AdjOp.done]) ∧ setMaxCount 2 5 = (5, [AdjOp.release 3, AdjOp.done]) ∧
    setMaxCount 2 2 = (2, [AdjOp.done]) ∧ acceptBody true false true = (false, 0) ∧
    acceptBody true false false = (true, 1) ∧ connCloseBody false = (true, 1) ∧ connCloseBody true = (true, 0) := by decide +kernel

/-! ### Facts regenerated from the source on every run -/

theorem source_facts :
    Gen.FactsC17.extractionFailed = false ∧ Gen.FactsC17.maxCapacity = M ∧
    Gen.FactsC17.newSemShape = true ∧ Gen.FactsC17.setMaxShape = true ∧ Gen.FactsC17.unitOps = true ∧
    Gen.FactsC17.acceptAcquiresFirst = true ∧ Gen.FactsC17.closeReleasesOnce = true ∧
    Gen.FactsC17.setMaxConnectionDelegates = true ∧ Gen.FactsC17.reloadSetsMaxConnection = true ∧
    Gen.FactsC17.earlyCheckShape = true ∧ Gen.FactsC17.lockedCheckShape = true := by decide +kernel

/-- capacity 2: two connections open, a third `Accept` queued; shrink to 1 parks behind it;
closing one connection lets the queued `Accept` in (FIFO), closing another applies the shrink. -/
private def ex : List Act :=
  [.acquire 0, .acceptDone 0, .acquire 1, .acceptDone 1, .acquire 2, .setMax 1, .adjust 0,
   .connClose 0, .connClose 0, .acceptDone 2, .connClose 1]

example :
    let c := run (newCap 2) ex
    c.opened = [2] ∧ c.closed = [1, 0] ∧ c.waiters = [] ∧ c.realCap = 1 ∧ c.effCap = 1 ∧
    c.cur = M - 1 + 1 ∧ quiet c = true := by decide +kernel

example : quiet (run (newCap 2) (ex.take 7)) = false ∧
    (run (newCap 2) (ex.take 7)).waiters.map (·.n) = [1, 1] := by decide +kernel

/-- MQTT, cap 1: id 7 connects; id 8 is refused by the early check; a takeover of id 7 that
passed the early check before the cap was reached is accepted at the cap. -/
example :
    (mstep ⟨1, [7], [(5, 7)]⟩ (.locked 5)).map (·.2) = some MOut.accepted ∧
    (mstep ⟨1, [7], []⟩ (.early 6 8)).map (·.2) = some MOut.refused ∧
    atCap ⟨1, [7], []⟩ = true := by decide +kernel

end EgVerif.C17
