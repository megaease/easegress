import EgVerif.Proofs.ClusterMutex
import EgVerif.Proofs.AdminAPI
import EgVerif.Gen.FactsC18
import EgVerif.Gen.FactsC18IR
import EgVerif.Proofs.AdminAPIIR
import EgVerif.Proofs.ClusterMutexIR
import EgVerif.Proofs.AdminUnderMutex
import EgVerif.Proofs.AdminAPIComplete
/-!
# C18 — the cluster mutex is exclusive; admin mutations serialize with gap-free versions

Part 1 (`ClusterMutex`): theorems about every interleaving of the atomic steps of
`mutex.Lock` / `mutex.Unlock` over any number of goroutines, mutex objects and members
(sessions), on top of the etcd lock contract stated in `Model/ClusterMutex.lean`.
Hypothesis `OneObjectPerSession`: a member uses one mutex object for the lock name —
re-derived from `api.Server.getMutex` on every run (`one_mutex_object_per_server`).
Part 3 adds lease expiry as a step of the environment.

Part 2 (`AdminAPI`): under an abstract lock the create / update / delete handlers (each a sequence
of separate etcd round trips) are atomic, versions are distinct and gap-free, rejected
requests change nothing, the final store is the fold of the successful requests in version
order. Part 5 puts the mutex model of Part 1 in the place of the abstract lock.

Parts 3b and 6 relate the judges' executable specifications to the model: a history that
`checkHistory` accepts is a sequential execution of `apply`, and both judges accept every
behaviour of the model. Part 4 ties the model functions to the Go source by translation.
-/
namespace EgVerif.C18
open EgVerif.ClusterMutex EgVerif.AdminAPI

/-! ## Part 1: the mutex -/

def Reachable (c : Cfg) (s : State) : Prop := ∃ as, run c init as = some s

theorem reachable_inv {c : Cfg} (h1 : OneObjectPerSession c) {s : State} (hr : Reachable c s) : Inv c s := by
  obtain ⟨as, h⟩ := hr
  exact inv_run h1 as (inv_init c) h

/-- **Mutual exclusion**: in every reachable state at most one goroutine of any member is
inside the critical section. -/
theorem exclusive {c : Cfg} (h1 : OneObjectPerSession c) {s : State} (hr : Reachable c s) (t1 t2 : Nat)
    (a : s.pc t1 = .crit) (b : s.pc t2 = .crit) : t1 = t2 :=
  (reachable_inv h1 hr).exclusive h1 a b

/-- The etcd lock is only ever granted while nobody holds it (this is what lets the admin-API
model use an abstract lock with `holder = none` as the guard of `acquire`). -/
theorem granted_only_when_free {c : Cfg} (h1 : OneObjectPerSession c) {s s' : State} (hr : Reachable c s) (t : Nat)
    (h : step c s (.etcdGranted t) = some s') : ∀ t', s.pc t' ≠ .crit := by
  have ⟨live, ow⟩ := inv_iff.mp (reachable_inv h1 hr)
  cases step_iff.mp h with
  | etcdGranted _ hp hq => exact live.head_free h1 ow.critInQ hp hq

/-- Negative example: with **two** mutex objects on one member (threads 0 and 1 use objects 0
and 1, both on session 0) the same schedule puts both threads into the critical section:
the etcd key is per session, so the second `Lock` re-uses it. -/
example :
    let c : Cfg := { obj := fun t => t, sess := fun _ => 0 }
    ∃ s, run c init (acquireSeq 0 ++ acquireSeq 1) = some s ∧ s.pc 0 = .crit ∧ s.pc 1 = .crit := by
  refine ⟨_, rfl, ?_, ?_⟩ <;> decide

/-- … while with one object per member the second acquisition is not enabled. -/
example :
    let c : Cfg := { obj := fun t => t, sess := fun o => o }
    run c init (acquireSeq 0 ++ acquireSeq 1) = none := by decide

/-- **A failed acquisition leaves the lock free** (1): the timed-out `Lock` has removed the
member's key from the etcd queue … -/
theorem failed_acquire_removes_key {c : Cfg} (h1 : OneObjectPerSession c) {s s' : State} (hr : Reachable c s) (t : Nat)
    (h : step c s (.etcdTimeout t) = some s') : c.sess (c.obj t) ∉ s'.queue ∧ s'.pc t = .failing := by
  have inv := reachable_inv h1 hr
  cases step_iff.mp h
  exact ⟨fun hm => ((inv.nodup.mem_erase_iff).mp hm).1 rfl, upd_same _ _ _⟩

/-- … also when the very first etcd request failed (whether or not it had been applied: the
cleanup `m.m.Unlock` added by fixes/C18-stale-lock-key.patch deletes the key in both cases) … -/
theorem failed_early_removes_key {c : Cfg} (h1 : OneObjectPerSession c) {s s' : State} (hr : Reachable c s) (t : Nat)
    (h : step c s (.etcdErrorEarly t) = some s') : c.sess (c.obj t) ∉ s'.queue ∧ s'.pc t = .failing := by
  have inv := reachable_inv h1 hr
  cases step_iff.mp h
  exact ⟨fun hm => ((inv.nodup.mem_erase_iff).mp hm).1 rfl, upd_same _ _ _⟩

/-- What the **unrepaired** `mutex.Lock` does when the key-creating request was applied but its
response was lost: it returns the error and releases the local mutex *without* deleting the key. -/
def oldLostResponse (c : Cfg) (s : State) (t : Nat) : State :=
  { s with pc := upd s.pc t .idle, held := upd s.held (c.obj t) false }

/-- Witness of the defect in the unrepaired code (reproduced on the real code by the mutex
harness, see fixes/C18-stale-lock-key.md): member 0's goroutine 0 enqueues, the response is
lost, `Lock` fails; nobody is inside `Lock`/`Unlock` any more, yet the key is still queued and
member 1 can never be granted the lock — until member 0 happens to lock again. -/
theorem old_code_leaves_stale_key :
    let c : Cfg := { obj := fun t => t, sess := fun o => o }
    ∃ s, run c init [.localLock 0, .etcdEnqueue 0] = some s ∧
      (∀ t, t < 4 → (oldLostResponse c s 0).pc t = .idle) ∧ (oldLostResponse c s 0).queue = [0] ∧
      run c (oldLostResponse c s 0) [.localLock 1, .etcdEnqueue 1, .etcdGranted 1] = none := by
  refine ⟨_, rfl, ?_, ?_, ?_⟩ <;> decide

/-- … (2) and the deferred unlock releases the process-local mutex. -/
theorem failed_acquire_unlocks_local {c : Cfg} {s s' : State} (t : Nat)
    (h : step c s (.localUnlockFail t) = some s') : s'.held (c.obj t) = false ∧ s'.pc t = .idle := by
  cases step_iff.mp h
  exact ⟨upd_same _ _ _, upd_same _ _ _⟩

/-- (3) Whenever no goroutine is inside `Lock`/`Unlock` — however many acquisitions failed or
succeeded before — the etcd queue is empty and every local mutex is unlocked … -/
theorem failed_acquire_leaves_free {c : Cfg} (h1 : OneObjectPerSession c) {s : State} (hr : Reachable c s)
    (hq : ∀ t, s.pc t = .idle) : s.queue = [] ∧ ∀ o, s.held o = false := by
  have inv := reachable_inv h1 hr
  constructor
  · cases hs : s.queue with
    | nil => rfl
    | cons k rest =>
      obtain ⟨t, ht, _⟩ := inv.qOwner k (by rw [hs]; simp)
      exact absurd (hq t) ht.ne_idle
  · intro o
    cases ho : s.held o with
    | false => rfl
    | true =>
      obtain ⟨t, _, ht⟩ := inv.heldBy o ho
      exact absurd (hq t) ht

/-- (4) … so that any thread can then take the lock. -/
theorem free_can_acquire {c : Cfg} {s : State} (hq : ∀ x, s.pc x = .idle) (hf : s.queue = [])
    (hh : ∀ o, s.held o = false) (t : Nat) : ∃ s', run c s (acquireSeq t) = some s' ∧ s'.pc t = .crit := by
  have h : run c s (acquireSeq t) = some
      { pc := upd (upd (upd s.pc t .haveLocal) t .waiting) t .crit, held := upd s.held (c.obj t) true,
        queue := [c.sess (c.obj t)] } := by
    simp [acquireSeq, run, step, hq t, hf, hh (c.obj t)]
  exact ⟨_, h, by simp⟩

/-- A waiting thread whose predecessors are gone is granted the lock: after the owner's
`Unlock` (or a failed waiter's cleanup) the next key in the queue is the head. -/
theorem head_is_granted {c : Cfg} {s : State} (t : Nat) (hw : s.pc t = .waiting)
    (hh : s.queue.head? = some (c.sess (c.obj t))) : ∃ s', step c s (.etcdGranted t) = some s' ∧ s'.pc t = .crit := by
  refine ⟨_, by simp [step, hw, hh]; rfl, by simp⟩

/-! ### The judge's trace specification accepts every behaviour of the model -/

/-- What the harness can see of a schedule: `acquired` when the etcd lock is granted,
`releasing` at the etcd unlock, `failed` at a time-out or an early error. -/
def proj : List ClusterMutex.Act → List TEv
  | [] => []
  | .etcdGranted t :: r => .acquired t :: proj r
  | .etcdUnlock t :: r => .releasing t :: proj r
  | .etcdTimeout t :: r => .failed t :: proj r
  | .etcdErrorEarly t :: r => .failed t :: proj r
  | .localLock _ :: r => proj r
  | .etcdEnqueue _ :: r => proj r
  | .localUnlockFail _ :: r => proj r
  | .critical _ :: r => proj r
  | .localUnlock _ :: r => proj r

def HolderIs (s : State) : Option Nat → Prop
  | none => ∀ t, s.pc t ≠ .crit
  | some t => s.pc t = .crit

/-- **Every schedule of the model, projected to what the harness records, satisfies the
executable trace specification `exclusiveTrace`** the judge evaluates on real runs. -/
theorem model_traces_exclusive {c : Cfg} (h1 : OneObjectPerSession c) : ∀ (as : List ClusterMutex.Act) (s s' : State)
    (h : Option Nat), Inv c s → HolderIs s h → run c s as = some s' → exclusiveTrace h (proj as) = true
  | [], _, _, _, _, _, _ => rfl
  | a :: as, s, s', h, inv, hh, hr => by
    obtain ⟨s1, hs, hr⟩ := run_cons.mp hr
    have ih := fun h' hh' => model_traces_exclusive h1 as s1 s' h' (inv_step h1 inv a (step_iff.mpr hs)) hh' hr
    -- only a grant and an unlock change the holder
    have keep : (∀ t, a ≠ .etcdGranted t) → (∀ t, a ≠ .etcdUnlock t) → HolderIs s1 h := by
      intro hg hu
      have hc := crit_iff_of_step hs hg hu
      cases h with
      | none => exact fun x hx => hh x ((hc x).mp hx)
      | some t => exact (hc t).mpr hh
    cases hs with
    | etcdGranted t hp hq =>
      -- the grant finds the lock free, so the trace's holder is `none` and becomes `t`
      have ⟨live, ow⟩ := inv_iff.mp inv
      have hfree := live.head_free h1 ow.critInQ hp hq
      cases h with
      | some t' => exact absurd hh (hfree t')
      | none =>
        simp only [proj, exclusiveTrace, Option.isNone_none, Bool.true_and]
        exact ih (some t) (upd_same _ _ _)
    | etcdUnlock t hp =>
      -- the thread that unlocks is the trace's holder, and nobody else is inside afterwards
      have hsome : h = some t := by
        cases h with
        | none => exact absurd hp (hh t)
        | some t' => rw [inv.exclusive h1 hh hp]
      subst hsome
      simp only [proj, exclusiveTrace, beq_self_eq_true, Bool.true_and]
      refine ih none fun x => ?_
      by_cases hx : x = t
      · subst hx; simp
      · simp only; rw [upd_other _ _ hx]
        exact fun hc => hx (inv.exclusive h1 hc hp)
    | _ =>
      -- every other rule is invisible in the trace or a `failed`, which `exclusiveTrace` skips
      exact ih h (keep (fun _ => nofun) (fun _ => nofun))

/-- … in particular from the initial state. -/
theorem reachable_traces_exclusive {c : Cfg} (h1 : OneObjectPerSession c) (as : List ClusterMutex.Act) (s : State)
    (hr : run c init as = some s) : exclusiveTrace none (proj as) = true :=
  model_traces_exclusive h1 as init s none (inv_init c) (fun _ => by simp [init]) hr

/-! ## Part 2: the admin API under the lock -/

/-- A handler run alone, round trip by round trip, is the atomic transition `apply`. -/
theorem handler_is_apply (req : Req) (e : Etcd) : exec req e = apply e req := exec_eq_apply req e

/-- **Handlers are atomic**: for every interleaving of any number of client goroutines (each
taking the lock, performing its etcd round trips one at a time, releasing; unlocked reads in
between), the log of finished mutations is a sequential execution of `apply` in unlock order —
same responses — and whenever the lock is free the store and version are exactly its result. -/
theorem handlers_atomic (e0 : Etcd) (as : List AdminAPI.Act) (s : Sys) (h : Sys.run (Sys.init e0) as = some s) :
    (runSeq e0 (s.log.map Prod.fst)).2 = s.log.map Prod.snd ∧
    (s.holder = none → s.etcd = (runSeq e0 (s.log.map Prod.fst)).1) := by
  have inv := sinv_run as (sinv_init e0) h
  exact ⟨inv.log, inv.idle⟩

/-- **Versions are distinct and gap-free**: the k successful mutations of a sequential history
return `v+1, …, v+k` in order (`v` = version before), everything else returns none; the final
version is `v + k`. -/
theorem versions_gap_free (e : Etcd) (rs : List Req) :
    (runSeq e rs).2.filterMap (·.version) = List.range' (e.version + 1) ((runSeq e rs).2.filter Resp.ok).length ∧
    (runSeq e rs).1.version = e.version + ((runSeq e rs).2.filter Resp.ok).length :=
  ⟨(runSeq_versions rs e).1, (runSeq_versions rs e).2.1⟩

theorem versions_distinct (e : Etcd) (rs : List Req) : ((runSeq e rs).2.filterMap (·.version)).Nodup := by
  rw [(versions_gap_free e rs).1]; exact List.nodup_range'

/-- **Rejected requests change nothing**: 409 for creating an existing name, 404 for updating /
deleting a missing one, 400 for updating with another kind — store and version untouched,
no version returned. -/
theorem conflict_unchanged (e : Etcd) (n : String) (o old : Obj) :
    (e.store.get n = some old → apply e (.create n o) = (e, ⟨409, none⟩)) ∧
    (e.store.get n = none → apply e (.update n o) = (e, ⟨404, none⟩)) ∧
    (e.store.get n = none → apply e (.delete n) = (e, ⟨404, none⟩)) ∧
    (e.store.get n = some old → old.kind ≠ o.kind → apply e (.update n o) = (e, ⟨400, none⟩)) := by
  refine ⟨fun h => by simp [apply, h], fun h => by simp [apply, h], fun h => by simp [apply, h], fun h hk => ?_⟩
  have : (old.kind != o.kind) = true := by simpa using hk
  simp [apply, h, this]

/-- A request either is rejected (409/404/400, nothing changes, no version) or succeeds
(200/201, version + 1, its effect on the store). -/
theorem reject_or_succeed (e : Etcd) (r : Req) :
    ((apply e r).2.version = none ∧ (apply e r).1 = e ∧
        ((apply e r).2.status = 409 ∨ (apply e r).2.status = 404 ∨ (apply e r).2.status = 400)) ∨
    ((apply e r).2.version = some (e.version + 1) ∧ (apply e r).1.version = e.version + 1 ∧
        (apply e r).1.store = effect e.store r ∧ (apply e r).2.status = okStatus r) := apply_cases e r

/-- **The final store is the fold of the successful requests** in log order — which is version
order, because versions increase strictly along the log (`versions_gap_free`). -/
theorem final_store_is_fold (e : Etcd) (rs : List Req) :
    (runSeq e rs).1.store = (successes rs (runSeq e rs).2).foldl effect e.store :=
  (runSeq_versions rs e).2.2

/-! ## Facts regenerated from the source on every run -/

/-- `mutex.Lock`: local mutex first, then the etcd lock under a timeout context; the local mutex
is released in the deferred closure exactly when the etcd lock failed, after the cleanup
`m.m.Unlock` that follows a failed `m.m.Lock` (`lockCleansUpOnError`; false on the unrepaired
code, where a key whose creation was not reported stays behind). `mutex.Unlock`: etcd
unlock, then (deferred) the local mutex. `cluster.Mutex` builds the etcd mutex on the member's
session, and `getSession` creates at most one session per member. -/
theorem mutex_shape :
    Gen.FactsC18.extractionFailed = false ∧
    Gen.FactsC18.mutexLockCalls = ["m.lock.Lock", "deferred:m.lock.Unlock", "m.m.Lock", "m.m.Unlock"] ∧
    Gen.FactsC18.lockUnlocksLocalOnError = true ∧
    Gen.FactsC18.lockCleansUpOnError = true ∧
    Gen.FactsC18.mutexUnlockCalls = ["defer m.lock.Unlock", "m.m.Unlock"] ∧
    Gen.FactsC18.clusterMutexCalls = ["c.getSession", "concurrency.NewMutex"] ∧
    Gen.FactsC18.sessionCreations = 1 ∧ Gen.FactsC18.sessionCached = true :=
  ⟨rfl, rfl, rfl, rfl, rfl, rfl, rfl, rfl⟩

/-- `OneObjectPerSession` for the API server: `getMutex` is the only place in `pkg/api` that
creates a cluster mutex, it runs under `mutexMutex`, returns the cached object when there is
one and stores the new one. -/
theorem one_mutex_object_per_server :
    Gen.FactsC18.apiMutexCreationSites = ["server.go:getMutex"] ∧
    Gen.FactsC18.getMutexLocksFirst = true ∧ Gen.FactsC18.getMutexReturnsCached = true ∧
    Gen.FactsC18.getMutexStores = true ∧
    Gen.FactsC18.serverLockCalls = ["s.getMutex", "ClusterPanic", "mutex.Lock", "ClusterPanic"] ∧
    Gen.FactsC18.serverUnlockCalls = ["s.getMutex", "ClusterPanic", "mutex.Unlock", "ClusterPanic"] :=
  ⟨rfl, rfl, rfl, rfl, rfl, rfl⟩

/-- The three mutating handlers take the lock before the first etcd access, release it by
`defer`, and do read → write → version in the order `micro` mirrors; the version is read + 1. -/
theorem handlers_locked :
    Gen.FactsC18.createObjectCalls = ["s.readObjectSpec", "s.Lock", "defer s.Unlock", "s._getObject", "s._putObject", "s.upgradeConfigVersion"] ∧
    Gen.FactsC18.updateObjectCalls = ["s.readObjectSpec", "s.Lock", "defer s.Unlock", "s._getObject", "s._putObject", "s.upgradeConfigVersion"] ∧
    Gen.FactsC18.deleteObjectCalls = ["s.Lock", "defer s.Unlock", "s._getObject", "s._deleteObject", "s.upgradeConfigVersion"] ∧
    Gen.FactsC18.upgradeConfigVersionCalls.head? = some "s._plusOneVersion" ∧
    Gen.FactsC18.plusOneVersionCalls.take 2 = ["s._getVersion", "s.cluster.Put"] ∧
    Gen.FactsC18.plusOneIncrements = true :=
  ⟨rfl, rfl, rfl, rfl, rfl, rfl⟩

/-! ## Non-vacuity -/

/-- Three members (sessions 0,1,2), thread t on member t % 3 using the member's single object. -/
private def cfg3 : Cfg := { obj := fun t => t % 3, sess := fun o => o }

example : OneObjectPerSession cfg3 := fun _ _ h => h

/-- Threads 0 and 3 share member 0; 1 is on member 1. 0 takes the lock, 1 queues and times
out, 3 blocks on the local mutex (not enabled), 0 releases, 3 acquires. -/
private def sched : List ClusterMutex.Act :=
  acquireSeq 0 ++ [.localLock 1, .etcdEnqueue 1, .etcdTimeout 1, .localUnlockFail 1] ++ releaseSeq 0 ++ acquireSeq 3

example : ∃ s, run cfg3 init sched = some s ∧ s.pc 3 = .crit ∧ s.pc 0 = .idle ∧ s.queue = [0] :=
  ⟨_, rfl, by decide, by decide, by decide⟩
example : run cfg3 init (acquireSeq 0 ++ [.localLock 3]) = none := by decide
example : run cfg3 init (acquireSeq 0 ++ [.localLock 1, .etcdEnqueue 1, .etcdGranted 1]) = none := by decide

private def oA : Obj := ⟨"A", "p1"⟩
private def oB : Obj := ⟨"B", "p2"⟩
/-- create a (201, v1); create a again (409); update a with another kind (400); update b (404);
update a (200, v2); delete a (200, v3); delete a (404). -/
private def reqs : List Req :=
  [.create "a" oA, .create "a" oB, .update "a" oB, .update "b" oA, .update "a" ⟨"A", "p3"⟩, .delete "a", .delete "a"]

example : (runSeq ⟨[], 0⟩ reqs).2.map (fun r => (r.status, r.version)) =
    [(201, some 1), (409, none), (400, none), (404, none), (200, some 2), (200, some 3), (404, none)] := by decide
example : (runSeq ⟨[], 0⟩ reqs).1 = ⟨[], 3⟩ := by decide

/-- Two clients interleaved at round-trip granularity under the lock, with an unlocked read in
the middle of the first handler. -/
example : ∃ s, Sys.run (Sys.init ⟨[], 7⟩)
    [.acquire 0 (.create "a" oA), .micro 0, .read 1, .micro 0, .micro 0, .micro 0, .release 0,
     .acquire 1 (.update "a" ⟨"A", "p9"⟩), .micro 1, .micro 1, .micro 1, .micro 1, .release 1] = some s ∧
    s.etcd = ⟨[("a", ⟨"A", "p9"⟩)], 9⟩ ∧ s.log.map (·.2.version) = [some 8, some 9] :=
  ⟨_, rfl, by decide, by decide⟩

/-- Without the lock discipline a second `acquire` is simply not a step of the system. -/
example : Sys.run (Sys.init ⟨[], 0⟩) [.acquire 0 (.delete "a"), .acquire 1 (.delete "a")] = none := by decide

/-! ## Part 3: lease expiry

`stepX` = `step` + "the lease of session k expires and etcd deletes its key" at any moment. -/

/-- **A lease that expires while its member holds the lock breaks exclusivity** (decided witness): member 0's
goroutine is in the critical section, its lease expires, member 1 is granted the lock — both are inside.
This is outside what `mutex.go` can prevent (the trusted-base entry "lease liveness"). -/
theorem expiry_while_holding_breaks_exclusivity :
    let c : Cfg := { obj := fun t => t, sess := fun o => o }
    (∀ o1 o2, c.sess o1 = c.sess o2 → o1 = o2) ∧
    ∃ s, runX c init ((acquireSeq 0).map .base ++ [.leaseExpire 0] ++ (acquireSeq 1).map .base) = some s ∧
      s.pc 0 = .crit ∧ s.pc 1 = .crit ∧ s.queue = [1] :=
  ⟨fun _ _ h => h, _, rfl, by decide, by decide, by decide⟩

/-- **Exclusivity among live holders, for every history with arbitrary lease expiry**: at most one goroutine is
in the critical section *with its member's key still present*; i.e. the only way two goroutines can be inside
together is that all but one of them belong to members whose lease has expired since they acquired. -/
theorem exclusive_among_live_holders {c : Cfg} (h1 : OneObjectPerSession c) (as : List ActX) {s : State}
    (hr : runX c init as = some s) (t1 t2 : Nat) (a : s.pc t1 = .crit) (b : s.pc t2 = .crit)
    (k1 : c.sess (c.obj t1) ∈ s.queue) (k2 : c.sess (c.obj t2) ∈ s.queue) : t1 = t2 :=
  (live_runX h1 as (live_init c) hr).exclusive h1 a b k1 k2

/-- … in particular exclusivity is restored as soon as the holders whose lease expired have left: whenever
every goroutine inside has its member's key present, there is at most one. -/
theorem exclusive_restored {c : Cfg} (h1 : OneObjectPerSession c) (as : List ActX) {s : State}
    (hr : runX c init as = some s) (hall : ∀ t, s.pc t = .crit → c.sess (c.obj t) ∈ s.queue) (t1 t2 : Nat)
    (a : s.pc t1 = .crit) (b : s.pc t2 = .crit) : t1 = t2 :=
  exclusive_among_live_holders h1 as hr t1 t2 a b (hall t1 a) (hall t2 b)

/-- **Full exclusivity for every history in which no holder's lease expires** (`SafeRun`: a lease may expire
at any time while its member is idle, inside `Lock` waiting, failing or releasing — only not while one of its
goroutines is in the critical section). Generalises `exclusive` (`exclusive_is_special_case`). -/
theorem exclusive_unless_holder_expires {c : Cfg} (h1 : OneObjectPerSession c) (as : List ActX) {s : State}
    (hr : runX c init as = some s) (hs : SafeRun c init as) (t1 t2 : Nat)
    (a : s.pc t1 = .crit) (b : s.pc t2 = .crit) : t1 = t2 := by
  obtain ⟨inv, ci⟩ := safe_runX h1 as (live_init c) (critInQ_init c) hs hr
  exact inv.exclusive h1 a b (ci t1 a) (ci t2 b)

/-- Histories without expiry are `run`; they are safe. -/
theorem exclusive_is_special_case (c : Cfg) (as : List ClusterMutex.Act) :
    runX c init (as.map .base) = run c init as ∧ SafeRun c init (as.map .base) :=
  ⟨runX_base c as init, safeRun_base c as init⟩

/-- Non-vacuity: member 1 waits behind member 0 and loses its lease while waiting (safe: it holds nothing); its
`Lock` times out; member 0 releases; a goroutine of member 2 acquires. One holder at the end. -/
example : ∃ s, runX cfg3 init ((acquireSeq 0).map .base ++ [.base (.localLock 1), .base (.etcdEnqueue 1), .leaseExpire 1,
      .base (.etcdTimeout 1), .base (.localUnlockFail 1)] ++ (releaseSeq 0).map .base ++ (acquireSeq 2).map .base) = some s ∧
    s.pc 2 = .crit ∧ s.pc 0 = .idle ∧ s.queue = [2] := ⟨_, rfl, by decide, by decide, by decide⟩
example : SafeRun cfg3 init ((acquireSeq 0).map .base ++ [.base (.localLock 1), .base (.etcdEnqueue 1), .leaseExpire 1]) := by
  simp only [SafeRun, acquireSeq, List.map, List.cons_append, List.nil_append]
  refine ⟨?_, trivial⟩
  intro t ht
  by_cases h0 : t = 0
  · subst h0; decide
  · have : upd (upd (upd (upd (upd init.pc 0 PC.haveLocal) 0 PC.waiting) 0 PC.crit) 1 PC.haveLocal) 1 PC.waiting t ≠ .crit := by
      by_cases h1 : t = 1
      · subst h1; simp
      · simp [upd, h0, h1, init]
    exact absurd ht this
/-- … while in the witness above the expiry hits the holder: that history is not safe. -/
example : ¬ SafeRun cfg3 init ((acquireSeq 0).map .base ++ [.leaseExpire 0]) := by
  simp only [SafeRun, acquireSeq, List.map, List.cons_append, List.nil_append]
  intro h
  exact h.1 0 (by decide) rfl

/-! ## Part 3b: the judge's history check is sound for `runSeq` -/

/-- **The judge's history check is sound for the sequential specification**: if `checkHistory apply` accepts an
observed history, then the successful mutations, taken in the order of their `X-Config-Version`
(a permutation of them), are a sequential execution `runSeq` of `apply` from the initial content that
returns exactly the observed status codes and versions, the versions are `v+1 … v+k`, and the observed final
listing and version are that execution's result. -/
theorem checkHistory_sound (e0 : Etcd) (ops : List Op) (fs : Store) (fv : Nat)
    (h : (checkHistory apply e0 ops fs fv).all = true) :
    (sortByVer (ops.filter Op.success)).Perm (ops.filter Op.success) ∧
    (runSeq e0 (reqsOf (sortByVer (ops.filter Op.success)))).2.map (fun r => (r.status, r.version)) =
      (sortByVer (ops.filter Op.success)).map (fun o => (o.status, o.ver)) ∧
    (sortByVer (ops.filter Op.success)).map (·.ver.getD 0) =
      (List.range (sortByVer (ops.filter Op.success)).length).map (· + e0.version + 1) ∧
    storeEq (runSeq e0 (reqsOf (sortByVer (ops.filter Op.success)))).1.store fs = true ∧
    (runSeq e0 (reqsOf (sortByVer (ops.filter Op.success)))).1.version = fv := by
  simp only [HistCheck.all, checkHistory, Bool.and_eq_true] at h
  obtain ⟨⟨⟨⟨⟨⟨⟨_, hgap⟩, hen⟩, _⟩, _⟩, _⟩, hst⟩, hver⟩ := h
  obtain ⟨i1, i2, _⟩ := replay_sound _ e0 hen
  rw [i2] at hst hver
  exact ⟨sortByVer_perm _, i1, by simpa using hgap, by simpa using hst, by simpa using hver⟩

/-- Non-vacuity: an accepted concurrent history — create a (201, v8) and, overlapping in real time, update a
(200, v9) observed *before* the create's response was read, plus a rejected create (409) and an unlocked read. -/
example : (checkHistory apply ⟨[], 7⟩
    [⟨.mut (.update "a" ⟨"A", "p9"⟩), 200, some 9, 2, 3⟩, ⟨.mut (.create "a" oA), 201, some 8, 1, 4⟩,
     ⟨.mut (.create "a" oB), 409, none, 5, 6⟩, ⟨.get "a" (some ⟨"A", "p9"⟩), 200, none, 5, 7⟩]
    [("a", ⟨"A", "p9"⟩)] 9).all = true := by decide
example : (checkHistory apply ⟨[], 7⟩ [⟨.mut (.create "a" oA), 201, some 9, 1, 2⟩] [("a", oA)] 9).all = false := by decide

/-! ## Part 4: the tie by translation

`Gen/FactsC18IR.lean` is regenerated on every run from the current bodies of the Go functions by the go/ast →
Lean translator (`harness/factextract/facts_c18_ir.go` + `irlib.go`; `defer`, the named result of `mutex.Lock`
and `ClusterPanic` are desugared first). Each `…IR` is the hand-written model function on every input
(`…_regenerated_from_source`), and the model functions compose to `apply` / `micro` / `step`, which the theorems
above are about (`Proofs/AdminAPIIR.lean`, `Proofs/ClusterMutexIR.lean`). -/

theorem createObject_regenerated_from_source (e : Etcd) (sp : Spec) (rdErr : Bool) :
    Gen.FactsC18IR.extractionFailed = false ∧ Gen.FactsC18IR.createObjectIR e sp rdErr = createObject e sp rdErr := by
  refine ⟨rfl, ?_⟩
  simp only [Gen.FactsC18IR.createObjectIR, createObject]
  cases rdErr <;> cases e.store.get sp.name <;> simp

theorem updateObject_regenerated_from_source (e : Etcd) (sp : Spec) (rdErr : Bool) :
    Gen.FactsC18IR.extractionFailed = false ∧ Gen.FactsC18IR.updateObjectIR e sp rdErr = updateObject e sp rdErr := by
  refine ⟨rfl, ?_⟩
  simp only [Gen.FactsC18IR.updateObjectIR, updateObject]
  cases rdErr <;> cases e.store.get sp.name <;> simp [kindOf]

theorem deleteObject_regenerated_from_source (e : Etcd) (name : String) :
    Gen.FactsC18IR.extractionFailed = false ∧ Gen.FactsC18IR.deleteObjectIR e name = deleteObject e name := by
  refine ⟨rfl, ?_⟩
  simp only [Gen.FactsC18IR.deleteObjectIR, deleteObject]
  cases e.store.get name <;> simp

theorem upgradeConfigVersion_regenerated_from_source (e : Etcd) (w : RW) :
    Gen.FactsC18IR.extractionFailed = false ∧ Gen.FactsC18IR.upgradeConfigVersionIR e w = upgradeConfigVersion e w :=
  ⟨rfl, by simp [Gen.FactsC18IR.upgradeConfigVersionIR, upgradeConfigVersion, configVersionKey]⟩

theorem getVersion_regenerated_from_source (e : Etcd) (getErr : Bool) :
    Gen.FactsC18IR.extractionFailed = false ∧ Gen.FactsC18IR.getVersionIR e getErr = getVersion e getErr := by
  refine ⟨rfl, ?_⟩
  simp only [Gen.FactsC18IR.getVersionIR, getVersion, Etcd.getVer, parseDec]
  cases getErr <;> by_cases h : e.version = 0 <;> simp [h]

theorem plusOneVersion_regenerated_from_source (e : Etcd) (getErr putErr : Bool) :
    Gen.FactsC18IR.extractionFailed = false ∧
      Gen.FactsC18IR.plusOneVersionIR e getErr putErr = plusOneVersion e getErr putErr := by
  refine ⟨rfl, ?_⟩
  simp only [Gen.FactsC18IR.plusOneVersionIR, plusOneVersion, getVersion, Etcd.putVer]
  cases getErr <;> cases putErr <;> simp

theorem getObject_regenerated_from_source (e : Etcd) (name : String) (getErr : Bool) :
    Gen.FactsC18IR.extractionFailed = false ∧ Gen.FactsC18IR.getObjectIR e name getErr = getObject e name getErr := by
  refine ⟨rfl, ?_⟩
  cases getErr <;> simp [Gen.FactsC18IR.getObjectIR, getObject, Etcd.getObj, newSpec]
  cases e.store.get name <;> simp

theorem putObject_regenerated_from_source (e : Etcd) (sp : Spec) (putErr : Bool) :
    Gen.FactsC18IR.extractionFailed = false ∧ Gen.FactsC18IR.putObjectIR e sp putErr = putObject e sp putErr := by
  refine ⟨rfl, ?_⟩
  simp only [Gen.FactsC18IR.putObjectIR, putObject, Etcd.putObj]
  cases putErr <;> simp

theorem deleteObjectKey_regenerated_from_source (e : Etcd) (name : String) (delErr : Bool) :
    Gen.FactsC18IR.extractionFailed = false ∧
      Gen.FactsC18IR.deleteObjectKeyIR e name delErr = deleteObjectKey e name delErr := by
  refine ⟨rfl, ?_⟩
  simp only [Gen.FactsC18IR.deleteObjectKeyIR, deleteObjectKey, Etcd.delKey]
  cases delErr <;> simp

theorem serverLock_regenerated_from_source (gmErr lkErr : Bool) :
    Gen.FactsC18IR.extractionFailed = false ∧ Gen.FactsC18IR.serverLockIR gmErr lkErr = serverLock gmErr lkErr := by
  refine ⟨rfl, ?_⟩
  cases gmErr <;> cases lkErr <;> rfl

theorem serverUnlock_regenerated_from_source (gmErr ulErr : Bool) :
    Gen.FactsC18IR.extractionFailed = false ∧ Gen.FactsC18IR.serverUnlockIR gmErr ulErr = serverUnlock gmErr ulErr := by
  refine ⟨rfl, ?_⟩
  cases gmErr <;> cases ulErr <;> rfl

/-- `mutex.Lock`, including the order of its local and etcd operations (`MOut.trace`) and the cleanup
`m.m.Unlock` + local unlock on error (commit a206e96). -/
theorem lock_regenerated_from_source (tmo : Nat) (lockO : Ctx → LockOutcome) (delO : Ctx → Bool) (held key : Bool) :
    Gen.FactsC18IR.extractionFailed = false ∧ Gen.FactsC18IR.lockIR tmo lockO delO held key = lockCall tmo lockO delO key := by
  refine ⟨rfl, ?_⟩
  simp only [Gen.FactsC18IR.lockIR, lockCall]
  cases lockO (Ctx.timeout tmo 1) <;> simp [etcdLockCall]

/-- `mutex.Unlock`: etcd unlock, then the local unlock. -/
theorem unlock_regenerated_from_source (tmo : Nat) (lockO : Ctx → LockOutcome) (delO : Ctx → Bool) (held key : Bool) :
    Gen.FactsC18IR.extractionFailed = false ∧ Gen.FactsC18IR.unlockIR tmo lockO delO held key = unlockCall tmo delO key :=
  ⟨rfl, by simp [Gen.FactsC18IR.unlockIR, unlockCall]⟩

/-- **The translated handlers are the atomic specification**: what `createObject` / `updateObject` /
`deleteObject` (as regenerated from the source) do to etcd and answer is `apply` — the transition
`handlers_atomic`, `versions_gap_free`, `conflict_unchanged`, `final_store_is_fold` are about — and is what the
micro-step machine `exec` computes; the handler returns with the lock released (deferred `s.Unlock()` on every
path) and made no etcd access outside `s.Lock()` … `s.Unlock()`. -/
theorem translated_handlers_are_apply (e : Etcd) (n : String) (o : Obj) :
    let c := Gen.FactsC18IR.createObjectIR e ⟨n, o⟩ false
    let u := Gen.FactsC18IR.updateObjectIR e ⟨n, o⟩ false
    let d := Gen.FactsC18IR.deleteObjectIR e n
    (c.etcd, c.rw.resp) = apply e (.create n o) ∧ (u.etcd, u.rw.resp) = apply e (.update n o) ∧
    (d.etcd, d.rw.resp) = apply e (.delete n) ∧
    exec (.create n o) e = (c.etcd, c.rw.resp) ∧ exec (.update n o) e = (u.etcd, u.rw.resp) ∧
    exec (.delete n) e = (d.etcd, d.rw.resp) ∧
    c.locked = false ∧ u.locked = false ∧ d.locked = false ∧
    c.unlockedAccess = false ∧ u.unlockedAccess = false ∧ d.unlockedAccess = false := by
  simp only [(createObject_regenerated_from_source _ _ _).2, (updateObject_regenerated_from_source _ _ _).2,
    (deleteObject_regenerated_from_source _ _).2]
  have hc := handle_is_apply e (.create n o)
  have hu := handle_is_apply e (.update n o)
  have hd := handle_is_apply e (.delete n)
  exact ⟨hc.1, hu.1, hd.1, handle_is_exec e _, handle_is_exec e _, handle_is_exec e _,
    hc.2.1, hu.2.1, hd.2.1, hc.2.2, hu.2.2, hd.2.2⟩

/-- A body that cannot be read is answered 400 before the lock is taken, nothing changes; an etcd error in any
round trip (or a failing `Server.Lock`) is a panic (`none`), never a continuation with a half result; without
errors the helpers are exactly the micro steps of `micro` (`_plusOneVersion` = read + 1, written and returned). -/
theorem translated_helpers_are_micro (req : Req) (e : Etcd) (sp : Spec) (b : Bool) :
    (Gen.FactsC18IR.createObjectIR e sp true).etcd = e ∧ (Gen.FactsC18IR.createObjectIR e sp true).rw.resp = ⟨400, none⟩ ∧
    (Gen.FactsC18IR.updateObjectIR e sp true).etcd = e ∧ (Gen.FactsC18IR.updateObjectIR e sp true).rw.resp = ⟨400, none⟩ ∧
    (Gen.FactsC18IR.getObjectIR e req.name false).map (fun x => (AdminAPI.PC.gotObj x, e)) = some (micro req .start e) ∧
    (Gen.FactsC18IR.getVersionIR e false).map (fun v => (AdminAPI.PC.gotVer v, e)) = some (micro req .wrote e) ∧
    (Gen.FactsC18IR.plusOneVersionIR e false false).map (fun p => (AdminAPI.PC.done ⟨okStatus req, some p.2⟩, p.1)) =
      some (micro req (.gotVer e.version) e) ∧
    Gen.FactsC18IR.getVersionIR e true = none ∧ Gen.FactsC18IR.plusOneVersionIR e true b = none ∧
    Gen.FactsC18IR.plusOneVersionIR e b true = none ∧ Gen.FactsC18IR.getObjectIR e sp.name true = none ∧
    Gen.FactsC18IR.putObjectIR e sp true = none ∧ Gen.FactsC18IR.deleteObjectKeyIR e sp.name true = none ∧
    Gen.FactsC18IR.serverLockIR true b = none ∧ Gen.FactsC18IR.serverLockIR b true = none := by
  simp only [(createObject_regenerated_from_source _ _ _).2, (updateObject_regenerated_from_source _ _ _).2,
    (getObject_regenerated_from_source _ _ _).2, (getVersion_regenerated_from_source _ _).2,
    (plusOneVersion_regenerated_from_source _ _ _).2, (putObject_regenerated_from_source _ _ _).2,
    (deleteObjectKey_regenerated_from_source _ _ _).2, (serverLock_regenerated_from_source _ _).2]
  have hb := bad_body_rejected e sp
  have hm := helpers_are_micro req e
  have he := helper_errors_panic e sp.name sp b
  refine ⟨by rw [hb.1], by rw [hb.1]; rfl, by rw [hb.2], by rw [hb.2]; rfl, hm.1, hm.2.1, hm.2.2.1,
    he.1, he.2.1, he.2.2.1, he.2.2.2.1, he.2.2.2.2.1, he.2.2.2.2.2.1, he.2.2.2.2.2.2.1, he.2.2.2.2.2.2.2⟩

/-- **One call of the translated `mutex.Lock` is a schedule of the interleaving model** (`lockActs`: local
lock, enqueue, then granted / timed out + local unlock / early error + local unlock; cleanup delete
succeeding): local mutex, presence of the member's key and the thread's position after the schedule are what
the translated function returns; its events are in the order local lock → etcd lock → (on error) etcd
cleanup unlock → local unlock. So `exclusive`, `failed_acquire_leaves_free`, … are about the code's `Lock`. -/
theorem translated_lock_is_schedule (c : Cfg) (s s' : State) (t tmo : Nat) (lockO : Ctx → LockOutcome) (delO : Ctx → Bool)
    (held : Bool) (hd : delO (.timeout tmo 2) = true) (hnd : s.queue.Nodup)
    (hrun : run c s (lockActs t (lockO (.timeout tmo 1))) = some s') :
    let r := Gen.FactsC18IR.lockIR tmo lockO delO held (decide (c.sess (c.obj t) ∈ s.queue))
    s'.held (c.obj t) = r.held ∧ decide (c.sess (c.obj t) ∈ s'.queue) = r.key ∧
    s'.pc t = (if r.err then .idle else .crit) ∧
    r.trace = (if r.err then [.localLock, .etcdLock (lockO (.timeout tmo 1)), .etcdUnlock true, .localUnlock]
               else [.localLock, .etcdLock (lockO (.timeout tmo 1))]) := by
  simp only [(lock_regenerated_from_source _ _ _ _ _).2]
  by_cases ho : lockO (.timeout tmo 1) = .granted
  · rw [lockCall_granted delO _ ho]
    rw [ho] at hrun ⊢
    obtain ⟨hh, hk, hp⟩ := run_granted hrun
    exact ⟨hh, decide_eq_true hk, hp, rfl⟩
  · rw [lockCall_failed _ ho hd]
    obtain ⟨hh, hk, hp⟩ := run_failed hnd ho hrun
    exact ⟨hh, decide_eq_false hk, hp, rfl⟩

/-- … and one call of the translated `mutex.Unlock` by the holder is `releaseSeq`: the etcd key is deleted
first, the local mutex released second. -/
theorem translated_unlock_is_schedule (c : Cfg) (s s' : State) (t tmo : Nat) (lockO : Ctx → LockOutcome)
    (delO : Ctx → Bool) (held : Bool) (hd : delO (.timeout tmo 1) = true) (hnd : s.queue.Nodup)
    (hrun : run c s (releaseSeq t) = some s') :
    let r := Gen.FactsC18IR.unlockIR tmo lockO delO held (decide (c.sess (c.obj t) ∈ s.queue))
    s'.held (c.obj t) = r.held ∧ decide (c.sess (c.obj t) ∈ s'.queue) = r.key ∧ r.err = false ∧ s'.pc t = .idle ∧
    r.trace = [.etcdUnlock true, .localUnlock] := by
  obtain ⟨hh, hk, hp⟩ := run_release hnd hrun
  simp only [(unlock_regenerated_from_source _ _ _ _ _).2, unlockCall, etcdUnlockCall, hd, if_true]
  exact ⟨hh, decide_eq_false hk, trivial, hp, trivial⟩

/-- Non-vacuity: the schedules are enabled from a free lock for every outcome of the etcd call, and concrete
values of the translated functions. -/
example (o : LockOutcome) : ∃ s', run cfg3 init (lockActs 4 o) = some s' :=
  lockActs_enabled cfg3 init 4 o rfl rfl rfl
example : Gen.FactsC18IR.lockIR 5 (fun _ => .lostResponse) (fun _ => true) false false =
    ⟨false, false, true, [.localLock, .etcdLock .lostResponse, .etcdUnlock true, .localUnlock]⟩ := by decide
example : Gen.FactsC18IR.lockIR 5 (fun _ => .granted) (fun _ => true) false false =
    ⟨true, true, false, [.localLock, .etcdLock .granted]⟩ := by decide
example : (Gen.FactsC18IR.createObjectIR ⟨[], 7⟩ ⟨"a", oA⟩ false) =
    ⟨⟨[("a", oA)], 8⟩, ⟨true, 201, some 8⟩, false, false⟩ := by decide
example : (Gen.FactsC18IR.updateObjectIR ⟨[("a", oA)], 8⟩ ⟨"a", oB⟩ false).rw.resp = ⟨400, none⟩ := by decide
example : (Gen.FactsC18IR.deleteObjectIR ⟨[("a", oA)], 8⟩ "a") = ⟨⟨[], 9⟩, ⟨false, 200, some 9⟩, false, false⟩ := by decide

/-! ## Part 5: the judge's configuration; serialization derived from the mutex

The theorems of Part 1 hold at the configuration the judge replays (`judgeCfg`). "Consequently concurrent admin
mutations are serialized" is **derived**: `Proofs/AdminUnderMutex.lean` builds the product of the mutex model with
the handlers' etcd round trips (no lock guard of its own) and proves that it projects to `Sys.run`; the guard
`holder = none` of `Sys.acquire` is discharged by the mutex invariant. -/

/-- The judge's configuration (`Driver/C18.lean`, single object per member: thread `g` of member `ms[g]`
uses object `ms[g] * 8`, created on session `object / 8`). -/
def judgeCfg (ms : List Nat) : Cfg :=
  { obj := fun g => match ms[g]? with | some m => m * 8 | none => 0, sess := fun o => o / 8 }

theorem judgeCfg_obj (ms : List Nat) (g : Nat) :
    (judgeCfg ms).obj g = (judgeCfg ms).sess ((judgeCfg ms).obj g) * 8 := by
  simp only [judgeCfg]
  cases ms[g]? with
  | none => rfl
  | some m => exact (Nat.div_mul_cancel (Nat.dvd_mul_left 8 m)).symm

theorem one_object_per_session_judgeCfg (ms : List Nat) : OneObjectPerSession (judgeCfg ms) := by
  intro t1 t2 h
  rw [judgeCfg_obj ms t1, h, ← judgeCfg_obj ms t2]

/-- `sess` of the judge's configuration is not injective on all objects (objects 0 and 1 are on the same session):
under the hypothesis `∀ o1 o2, sess o1 = sess o2 → o1 = o2` `exclusive` could not be instantiated at any replayed
configuration. -/
example : ¬ (∀ o1 o2, (judgeCfg [0, 1, 2]).sess o1 = (judgeCfg [0, 1, 2]).sess o2 → o1 = o2) := by
  intro h; have := h 0 1 (by decide); omega

theorem exclusive_judgeCfg (ms : List Nat) {s : State} (hr : Reachable (judgeCfg ms) s) (t1 t2 : Nat)
    (a : s.pc t1 = .crit) (b : s.pc t2 = .crit) : t1 = t2 :=
  exclusive (one_object_per_session_judgeCfg ms) hr t1 t2 a b

open EgVerif.AdminUnderMutex in
/-- What `handlers_atomic` and `versions_gap_free` say about a product state related to a state of `Sys`. -/
theorem serialized_of_projection {c : Cfg} {e0 : Etcd} {xs : List AdminAPI.Act} {s : Sys} {p : PState}
    (hs : Sys.run (Sys.init e0) xs = some s) (r : R c p s) :
    (runSeq e0 (p.log.map Prod.fst)).2 = p.log.map Prod.snd ∧
    (p.log.map Prod.snd).filterMap (·.version) =
      List.range' (e0.version + 1) ((p.log.map Prod.snd).filter Resp.ok).length ∧
    ((∀ t, p.mx.pc t ≠ .crit) → p.etcd = (runSeq e0 (p.log.map Prod.fst)).1) := by
  obtain ⟨ha1, ha2⟩ := handlers_atomic e0 _ s hs
  rw [r.log] at ha1 ha2
  refine ⟨ha1, ?_, fun hfree => ?_⟩
  · rw [← ha1]; exact (versions_gap_free e0 _).1
  · rw [← r.etcd]
    apply ha2
    cases hh' : s.holder with
    | none => rfl
    | some t => exact absurd ((r.hold t).mp hh') (hfree t)

open EgVerif.AdminUnderMutex in
/-- **Every interleaving of the real lock protocol with the handlers is an interleaving of the abstract
system.** For every configuration with one mutex object per session and every schedule of the product —
local locks, enqueues, grants, time-outs, early errors, handler round trips inside the critical section,
unlocks, unlocked reads, of any number of goroutines on any members — the projected schedule is enabled in
`Sys` (in particular every `acquire` finds `holder = none`) and ends in a state with the same etcd, handler
states and log, whose holder is the thread in the mutex model's critical section. -/
theorem product_projects_to_sys {c : Cfg} (h1 : OneObjectPerSession c) (e0 : Etcd) (as : List PAct)
    (p : PState) (h : AdminUnderMutex.run c (PState.init e0) as = some p) :
    ∃ s, Sys.run (Sys.init e0) (as.flatMap AdminUnderMutex.proj) = some s ∧ s.etcd = p.etcd ∧ s.cur = p.cur ∧ s.log = p.log ∧
      ∀ t, s.holder = some t ↔ p.mx.pc t = .crit := by
  obtain ⟨s, hs, r⟩ := run_projects h1 as _ p _ (R_init c e0) h
  exact ⟨s, hs, r.etcd, r.cur, r.log, r.hold⟩

open EgVerif.AdminUnderMutex in
/-- **Concurrent admin mutations are serialized — derived from the mutex** (`handlers_atomic` composed with
the projection): under the real lock protocol the log of finished mutations is a sequential execution of
`apply` in unlock order with the same responses; successful mutations carry the versions `v+1, …, v+k`,
distinct and gap-free; and whenever no goroutine is in the critical section, store and version are exactly
the result of that sequential execution. -/
theorem admin_mutations_serialized_under_mutex {c : Cfg} (h1 : OneObjectPerSession c) (e0 : Etcd)
    (as : List PAct) (p : PState) (h : AdminUnderMutex.run c (PState.init e0) as = some p) :
    (runSeq e0 (p.log.map Prod.fst)).2 = p.log.map Prod.snd ∧
    (p.log.map Prod.snd).filterMap (·.version) =
      List.range' (e0.version + 1) ((p.log.map Prod.snd).filter Resp.ok).length ∧
    ((∀ t, p.mx.pc t ≠ .crit) → p.etcd = (runSeq e0 (p.log.map Prod.fst)).1) := by
  obtain ⟨s, hs, r⟩ := run_projects h1 as _ p _ (R_init c e0) h
  exact serialized_of_projection hs r

/-- Non-vacuity: members 0 and 1 (judge configuration). Goroutine 0 gets the lock and creates `a`; goroutine 1
enqueues meanwhile and is **not** granted while 0 is inside (the grant is not enabled); after 0's unlock it is
granted and its create of the same name is answered 409. The log is the sequential execution. -/
private def prodRun : List AdminUnderMutex.PAct :=
  [.lock (.localLock 0), .lock (.etcdEnqueue 0), .lock (.localLock 1), .lock (.etcdEnqueue 1),
   .granted 0 (.create "a" oA), .micro 0, .micro 0, .read 1, .micro 0, .micro 0, .unlock 0, .lock (.localUnlock 0),
   .granted 1 (.create "a" oB), .micro 1, .micro 1, .unlock 1, .lock (.localUnlock 1)]

example : (AdminUnderMutex.run (judgeCfg [0, 1]) (AdminUnderMutex.PState.init ⟨[], 7⟩) prodRun).map
    (fun p => (p.log, p.etcd)) =
    some ([(.create "a" oA, ⟨201, some 8⟩), (.create "a" oB, ⟨409, none⟩)], ⟨[("a", oA)], 8⟩) := by decide
/-- the grant to goroutine 1 is not enabled while goroutine 0 is in the critical section -/
example : (AdminUnderMutex.run (judgeCfg [0, 1]) (AdminUnderMutex.PState.init ⟨[], 7⟩)
    (prodRun.take 6 ++ [.granted 1 (.create "a" oB)])).isNone = true := by decide

/-! ## Part 6: the judges' executable specifications accept the model

(a) failed acquisitions in the mutex judge's replay; (b) completeness of `checkHistory`; (c) lease expiry in the
product of the lock protocol with the admin handlers. -/

/-- **(a) A failed `mutex.Lock` is state-neutral**: in every reachable state in which goroutine `t` is idle and its
object's local mutex is free, the whole failed attempt (`failSeq`: local lock, key created, time-out / lost
response with cleanup, deferred local unlock — or the early-error variant) is enabled and ends in the very
same state. This is why the judge's `scheduleOf` may drop `failed` events; *that* each failed attempt had such a
position between the goroutine's previous event and its `failed` stamp is what `failedReplayOK`
(`Spec/ClusterMutex.lean`) checks on the observed trace (part of the judge's `agree`). -/
theorem failed_acquisition_is_neutral {c : Cfg} (h1 : OneObjectPerSession c) {s : State} (hr : Reachable c s)
    (t : Nat) (hp : s.pc t = .idle) (hh : s.held (c.obj t) = false) (as : List ClusterMutex.Act) :
    run c s (failSeq t) = some s ∧ run c s (lockActs t .earlyError) = some s ∧
    run c s (failSeq t ++ as) = run c s as :=
  ⟨failSeq_neutral h1 (reachable_inv h1 hr) t hp hh, earlyFail_neutral h1 (reachable_inv h1 hr) t hp hh,
   failSeq_insert h1 (reachable_inv h1 hr) t hp hh as⟩

/-- **`failuresRecovered` accepts the model**: the harness evaluates it with `finalProbeOK` = "every member could
take and release the lock when all goroutines were done"; in the model that probe succeeds in every reachable
all-idle state — however many acquisitions failed before — and then `failuresRecovered` holds of any trace. -/
theorem failuresRecovered_accepts_model {c : Cfg} (h1 : OneObjectPerSession c) {s : State} (hr : Reachable c s)
    (hq : ∀ t, s.pc t = .idle) (evs : List TEv) :
    (∀ t, ∃ s', run c s (acquireSeq t) = some s' ∧ s'.pc t = .crit) ∧ failuresRecovered true evs = true := by
  obtain ⟨hf, hh⟩ := failed_acquire_leaves_free h1 hr hq
  exact ⟨fun t => free_can_acquire hq hf hh t, failuresRecovered_of_probe evs⟩

/-- a failed attempt replayed in the middle of another goroutine's critical section (other member): neutral;
`failedReplayOK` accepts the trace, and rejects a `failed` of a goroutine whose object was held throughout -/
example : (run (judgeCfg [0, 1, 0]) init (acquireSeq 0 ++ failSeq 1 ++ releaseSeq 0)).map
      (fun s => (s.queue, s.pc 0, s.pc 1, s.pc 2, s.held 0, s.held 8)) =
    (run (judgeCfg [0, 1, 0]) init (acquireSeq 0 ++ releaseSeq 0)).map
      (fun s => (s.queue, s.pc 0, s.pc 1, s.pc 2, s.held 0, s.held 8)) ∧
    (run (judgeCfg [0, 1, 0]) init (acquireSeq 0 ++ failSeq 1 ++ releaseSeq 0)).isSome = true := by decide
example : failedReplayOK (judgeCfg [0, 1, 0]) [1] init [] [.acquired 0, .failed 1, .releasing 0] = true ∧
    failedReplayOK (judgeCfg [0, 1, 0]) [2] init [] [.acquired 0, .failed 2, .releasing 0] = true ∧
    failedReplayOK (judgeCfg [0, 1, 0]) [2] init [] [.acquired 0, .releasing 0, .acquired 0, .failed 2, .releasing 0] = true ∧
    failedReplayOK (judgeCfg [0, 1, 0]) [2] init [] [.acquired 0, .releasing 2] = false := by decide

/-- **(b) `checkHistory` is complete for the fields `checkHistory_sound` uses**: the observation of the sequential
execution of any request list (`obsSeq`: status and version as `apply` returns them, stamped in execution order),
with a final listing equal to the resulting store and the resulting version, passes `haveVersions`, `gapFree`,
`enabled`, `finalStore` and `finalVersion`. -/
theorem checkHistory_complete (e0 : Etcd) (rs : List Req) (fs : Store)
    (hfs : storeEq (runSeq e0 rs).1.store fs = true) :
    (checkHistory apply e0 (obsSeq e0 0 rs) fs (runSeq e0 rs).1.version).haveVersions = true ∧
    (checkHistory apply e0 (obsSeq e0 0 rs) fs (runSeq e0 rs).1.version).gapFree = true ∧
    (checkHistory apply e0 (obsSeq e0 0 rs) fs (runSeq e0 rs).1.version).enabled = true ∧
    (checkHistory apply e0 (obsSeq e0 0 rs) fs (runSeq e0 rs).1.version).finalStore = true ∧
    (checkHistory apply e0 (obsSeq e0 0 rs) fs (runSeq e0 rs).1.version).finalVersion = true :=
  AdminAPI.checkHistory_complete e0 rs fs hfs

open EgVerif.AdminUnderMutex in
/-- **… hence every history of the real lock protocol with the handlers is accepted**: the log of any product run
(`Proofs/AdminUnderMutex.lean`), observed in unlock order once nobody is inside, passes those five checks — the api
judge's executable spec and the theorems are connected in both directions (`checkHistory_sound` ⇐, this ⇒).
`realTime` and `rejectedJustified` are added below (`model_history_accepted_all`); `readsJustified` stays an
executable check only (the model's observation has no unlocked reads). -/
theorem model_history_accepted {c : Cfg} (h1 : OneObjectPerSession c) (e0 : Etcd) (as : List PAct) (p : PState)
    (h : AdminUnderMutex.run c (PState.init e0) as = some p) (hfree : ∀ t, p.mx.pc t ≠ .crit) (fs : Store)
    (hfs : storeEq p.etcd.store fs = true) :
    let hc := checkHistory apply e0 (obsSeq e0 0 (p.log.map Prod.fst)) fs p.etcd.version
    hc.haveVersions = true ∧ hc.gapFree = true ∧ hc.enabled = true ∧ hc.finalStore = true ∧ hc.finalVersion = true := by
  obtain ⟨_, _, hst⟩ := admin_mutations_serialized_under_mutex h1 e0 as p h
  have he := hst hfree
  rw [he] at hfs ⊢
  exact AdminAPI.checkHistory_complete e0 _ fs hfs

example : (checkHistory apply ⟨[], 7⟩ (obsSeq ⟨[], 7⟩ 0 [.create "a" oA, .create "a" oB, .update "a" ⟨"A", "p9"⟩, .delete "b"])
    [("a", ⟨"A", "p9"⟩)] 9).all = true := by decide

/-- **(b') the real-time clause is complete too**: the observation of any sequential execution (request `j` stamped
`(2j+1, 2j+2)`, whatever final listing and version are compared) passes `realTime` — "version order never
contradicts real time" cannot alarm on a history the model produces. -/
theorem checkHistory_complete_realTime (e0 : Etcd) (rs : List Req) (fs : Store) (fv : Nat) :
    (checkHistory apply e0 (obsSeq e0 0 rs) fs fv).realTime = true :=
  AdminAPI.checkHistory_complete_realTime e0 rs fs fv

open EgVerif.AdminUnderMutex in
/-- … hence for every history of the real lock protocol with the handlers (as `model_history_accepted`). -/
theorem model_history_accepted_realTime {c : Cfg} (e0 : Etcd) (as : List PAct) (p : PState)
    (_h : AdminUnderMutex.run c (PState.init e0) as = some p) (fs : Store) :
    (checkHistory apply e0 (obsSeq e0 0 (p.log.map Prod.fst)) fs p.etcd.version).realTime = true :=
  AdminAPI.checkHistory_complete_realTime e0 _ fs _

/-- **(b'') the rejected-mutation clause is complete**: every 409 / 404 / 400 of a sequential observation is
justified by the judge — at the position "number of successes before it", which lies inside the operation's
real-time window and whose replayed state is the state the request really saw. -/
theorem checkHistory_complete_rejected (e0 : Etcd) (rs : List Req) (fs : Store) (fv : Nat) :
    (checkHistory apply e0 (obsSeq e0 0 rs) fs fv).rejectedJustified = true :=
  AdminAPI.checkHistory_complete_rejected e0 rs fs fv

/-- **(b''') the judge accepts every sequential model history of mutations in all eight fields** (`HistCheck.all`;
`obsSeq` observes mutations only, so `readsJustified` has nothing to check there and stays an executable check for
histories with unlocked reads). -/
theorem checkHistory_complete_all (e0 : Etcd) (rs : List Req) (fs : Store)
    (hfs : storeEq (runSeq e0 rs).1.store fs = true) :
    (checkHistory apply e0 (obsSeq e0 0 rs) fs (runSeq e0 rs).1.version).all = true :=
  AdminAPI.checkHistory_complete_all e0 rs fs hfs

open EgVerif.AdminUnderMutex in
/-- … hence the api judge raises no alarm on any history of the real lock protocol with the handlers, observed in
unlock order once nobody is inside (all fields; strengthens `model_history_accepted`). -/
theorem model_history_accepted_all {c : Cfg} (h1 : OneObjectPerSession c) (e0 : Etcd) (as : List PAct) (p : PState)
    (h : AdminUnderMutex.run c (PState.init e0) as = some p) (hfree : ∀ t, p.mx.pc t ≠ .crit) (fs : Store)
    (hfs : storeEq p.etcd.store fs = true) :
    (checkHistory apply e0 (obsSeq e0 0 (p.log.map Prod.fst)) fs p.etcd.version).all = true := by
  obtain ⟨_, _, hst⟩ := admin_mutations_serialized_under_mutex h1 e0 as p h
  have he := hst hfree
  rw [he] at hfs ⊢
  exact AdminAPI.checkHistory_complete_all e0 _ fs hfs

/-- the rejected clause is not trivially true: a 409 for a name that never existed is not justified -/
example : (checkHistory apply ⟨[], 7⟩
    [⟨.mut (.create "a" oA), 201, some 8, 1, 2⟩, ⟨.mut (.create "b" oB), 409, none, 3, 4⟩]
    [("a", oA)] 8).rejectedJustified = false := by decide
/-- … and neither is a 409 whose only justifying state lies outside its real-time window (the conflicting create
started after the rejected one had ended) -/
example : (checkHistory apply ⟨[], 7⟩
    [⟨.mut (.create "a" oA), 409, none, 1, 2⟩, ⟨.mut (.create "a" oA), 201, some 8, 3, 4⟩]
    [("a", oA)] 8).rejectedJustified = false := by decide

/-- the real-time clause is not trivially true: swapping the stamps of two successes makes it fail -/
example : (checkHistory apply ⟨[], 7⟩
    [⟨.mut (.create "a" oA), 201, some 8, 5, 6⟩, ⟨.mut (.create "b" oB), 201, some 9, 1, 2⟩]
    [("a", oA), ("b", oB)] 9).realTime = false := by decide

open EgVerif.AdminUnderMutex in
/-- **(c) Lease expiry**: for every history of the product with arbitrary lease expiries *except while a goroutine
of the expiring member is in the critical section* (`SafeP`), the admin mutations are still serialized: the log is
the sequential `runSeq` in unlock order, versions gap-free, state = sequential result whenever nobody is inside.
(What `exclusive_unless_holder_expires` means for the admin API.) -/
theorem admin_mutations_serialized_unless_holder_expires {c : Cfg} (h1 : OneObjectPerSession c) (e0 : Etcd)
    (as : List PActX) (p : PState) (hs : SafeP c (PState.init e0) as)
    (h : AdminUnderMutex.runX c (PState.init e0) as = some p) :
    (runSeq e0 (p.log.map Prod.fst)).2 = p.log.map Prod.snd ∧
    (p.log.map Prod.snd).filterMap (·.version) =
      List.range' (e0.version + 1) ((p.log.map Prod.snd).filter Resp.ok).length ∧
    ((∀ t, p.mx.pc t ≠ .crit) → p.etcd = (runSeq e0 (p.log.map Prod.fst)).1) := by
  obtain ⟨s, hsr, r⟩ := run_projectsX h1 as _ p _ (R_init c e0) hs h
  exact serialized_of_projection hsr r

/-- **Witness: a lease that expires while its member's goroutine is inside un-serializes the admin API.** Member 0
creates `a`; after its first round trip its lease expires; member 1 is granted the lock and creates `a` too; the two
handlers overlap: both get 201 and **the same version 8**, the second write silently replaces the first — no
sequential execution produces this log (sequentially the second create is a 409). -/
private def expiryRun : List AdminUnderMutex.PActX :=
  [.base (.lock (.localLock 0)), .base (.lock (.etcdEnqueue 0)), .base (.granted 0 (.create "a" oA)), .base (.micro 0),
   .leaseExpire 0,
   .base (.lock (.localLock 1)), .base (.lock (.etcdEnqueue 1)), .base (.granted 1 (.create "a" oB)), .base (.micro 1),
   .base (.micro 0), .base (.micro 1), .base (.micro 0), .base (.micro 1), .base (.micro 0), .base (.micro 1),
   .base (.unlock 0), .base (.unlock 1)]

example : (AdminUnderMutex.runX (judgeCfg [0, 1]) (AdminUnderMutex.PState.init ⟨[], 7⟩) expiryRun).map
    (fun p => (p.log, p.etcd)) =
    some ([(.create "a" oA, ⟨201, some 8⟩), (.create "a" oB, ⟨201, some 8⟩)], ⟨[("a", oB)], 8⟩) ∧
    (runSeq ⟨[], 7⟩ [.create "a" oA, .create "a" oB]).2 = [⟨201, some 8⟩, ⟨409, none⟩] := by decide
/-- both goroutines are in the critical section together after the expiry -/
example : (AdminUnderMutex.runX (judgeCfg [0, 1]) (AdminUnderMutex.PState.init ⟨[], 7⟩) (expiryRun.take 9)).map
    (fun p => (p.mx.pc 0, p.mx.pc 1)) = some (.crit, .crit) := by decide

end EgVerif.C18
