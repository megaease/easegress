import EgVerif.Proofs.MuxCache
import EgVerif.Spec.MuxCache
import EgVerif.Gen.FactsC12
import EgVerif.Proofs.MuxSearchIR
/-!
# C12 — the route cache is transparent

Property theorems about `Model/MuxCache.lean` (the cached `muxInstance.search` of the repaired
`mux.go`, layered on the cache-less `Mux.search` of `Model/Mux.lean`): for **every** configuration,
**every** request history, **every** eviction behaviour of the cache (hence ARC at every
`cacheSize ≥ 1`) and every answer of the regexp / IP-filter oracles, the cached instance routes each
request exactly as the cache-less search does.

Requests are well-formed (`WF strip q`): `hostNoPort` is `strip host`, i.e. the value the Go code
derives with `net.SplitHostPort` from the very `Host` that is part of the key.

The model of the code *before* the repair (`MuxCache.Old`) violates the property in four different
ways; each is exhibited below by a concrete two-request history, evaluated by the kernel. The same histories
are in `corpus/C12/twin.jsonl` and fail against the unpatched Go code.
-/
namespace EgVerif.C12
open EgVerif.Mux EgVerif.MuxCache
open EgVerif.Gen

/-- Equal cache keys ⇒ equal host, method and path (the struct key is unambiguous). -/
theorem key_injective (q q' : Req) (h : keyOf q = keyOf q') :
    q.host = q'.host ∧ q.method = q'.method ∧ q.path = q'.path := by
  simp only [keyOf, Key.mk.injEq] at h
  exact h

/-- The old concatenated key is not injective: `"a"+"bGET"` = `"ab"+"GET"`. -/
theorem old_key_not_injective :
    ∃ q q' : Req, Old.keyOf q = Old.keyOf q' ∧ (q.host ≠ q'.host ∧ q.method ≠ q'.method) :=
  ⟨⟨"a", "a", "bGET", "/x", [], "1.1.1.1"⟩, ⟨"ab", "ab", "GET", "/x", [], "1.1.1.1"⟩, by decide⟩

/-- A cache miss returns exactly what the cache-less search returns. -/
theorem miss_eq_search (o : Oracle) (c : Cfg) (q : Req) : (searchMiss o c q).1 = search o c q :=
  searchMiss_fst o c q

/-- Whatever one of the three put sites stores under `keyOf q` answers every request with that key
(other headers, other client address) exactly as the cache-less search would. -/
theorem put_answers_like_search (o : Oracle) (c : Cfg) (strip : String → String) (q q' : Req)
    (hq : WF strip q) (hq' : WF strip q') (hk : keyOf q' = keyOf q) (r : CRoute)
    (h : (searchMiss o c q).2 = some r) : hit o r q' = search o c q' :=
  put_sound o c (sameKey_of_key hq hq' hk.symm) r h

/-- Nothing is cached once a header-conditioned entry was skipped because of *this* request's headers
(its result is not a function of the key). -/
theorem no_put_after_header_mismatch (o : Oracle) (q : Req) (rs : List Rule) (ri : Nat) (cs : List Nat)
    (mm : Bool) : (searchRulesC o q ri rs cs true mm).2 = none := by
  cases h : (searchRulesC o q ri rs cs true mm).2 with
  | none => rfl
  | some r => exact nomatch ((searchRulesC_spec o (SameKey.refl q) rs ri cs true mm).2 r h).1

def cacheAfter (o : Oracle) (c : Cfg) (ev : Nat → Key → Bool) : Nat → Cache → List Req → Cache
  | _, cache, [] => cache
  | n, cache, q :: qs => cacheAfter o c ev (n + 1) (searchCached o c (ev n) cache q).2 qs

/-- **`cache_inv`**: after any history, under any eviction behaviour, every cached entry `(k, r)` answers
every well-formed request with key `k` as the cache-less search does (`CacheInv`). -/
theorem cache_inv (o : Oracle) (c : Cfg) (strip : String → String) (ev : Nat → Key → Bool) :
    ∀ (reqs : List Req) (n : Nat) (cache : Cache), (∀ q ∈ reqs, WF strip q) → CacheInv o c strip cache →
      CacheInv o c strip (cacheAfter o c ev n cache reqs)
  | [], _, _, _, inv => inv
  | q :: qs, n, cache, hw, inv => by
    simp only [cacheAfter]
    exact cache_inv o c strip ev qs (n + 1) _ (fun q' h => hw q' (List.mem_cons_of_mem _ h))
      (searchCached_step o c strip (ev n) cache q (hw q List.mem_cons_self) inv).2

/-- One request against any cache that satisfies the invariant: hit or miss, evicted or not, the
answer is the cache-less one. -/
theorem request_transparent (o : Oracle) (c : Cfg) (strip : String → String) (ev : Key → Bool)
    (cache : Cache) (q : Req) (hq : WF strip q) (inv : CacheInv o c strip cache) :
    (searchCached o c ev cache q).1 = search o c q :=
  (searchCached_step o c strip ev cache q hq inv).1

/-- **C12 (routes)**: for every configuration, oracle, eviction behaviour and request history the
cached instance returns, request by request, the route of the cache-less search. -/
theorem cache_transparent (o : Oracle) (c : Cfg) (strip : String → String) (ev : Nat → Key → Bool)
    (reqs : List Req) (hw : ∀ q ∈ reqs, WF strip q) :
    runCached o c ev reqs = reqs.map (search o c) :=
  runFrom_eq o c strip ev reqs 0 [] hw (cacheInv_nil o c strip)

/-- The same from any later point of a generation's life (any request number, any cache that the
generation can have built). -/
theorem cache_transparent_from (o : Oracle) (c : Cfg) (strip : String → String) (ev : Nat → Key → Bool)
    (pre reqs : List Req) (hp : ∀ q ∈ pre, WF strip q) (hw : ∀ q ∈ reqs, WF strip q) :
    runFrom o c ev pre.length (cacheAfter o c ev 0 [] pre) reqs = reqs.map (search o c) :=
  runFrom_eq o c strip ev reqs _ _ hw (cache_inv o c strip ev pre 0 [] hp (cacheInv_nil o c strip))

/-- **C12 (observables)**: status, chosen backend and handler-visible path — or any other function
`obs` of the route and the request — coincide with the cache-less instance for every request. -/
theorem cache_transparent_obs {α : Type} (obs : Route → Req → α) (o : Oracle) (c : Cfg)
    (strip : String → String) (ev : Nat → Key → Bool) (reqs : List Req) (hw : ∀ q ∈ reqs, WF strip q) :
    List.zipWith obs (runCached o c ev reqs) reqs = reqs.map (fun q => obs (search o c q) q) := by
  rw [cache_transparent o c strip ev reqs hw, List.zipWith_map_left, List.zipWith_self]

/-- In particular an earlier request never changes how a later one is routed: the answer to the last
request does not depend on the history before it. -/
theorem history_independent (o : Oracle) (c : Cfg) (strip : String → String) (ev ev' : Nat → Key → Bool)
    (pre pre' : List Req) (q : Req) (hp : ∀ x ∈ pre, WF strip x) (hp' : ∀ x ∈ pre', WF strip x)
    (hq : WF strip q) :
    (runCached o c ev (pre ++ [q])).getLast? = (runCached o c ev' (pre' ++ [q])).getLast? := by
  have w : ∀ (p : List Req), (∀ x ∈ p, WF strip x) → ∀ x ∈ p ++ [q], WF strip x := fun p hp =>
    List.forall_mem_append.mpr ⟨hp, List.forall_mem_singleton.mpr hq⟩
  rw [cache_transparent o c strip ev _ (w pre hp), cache_transparent o c strip ev' _ (w pre' hp')]
  simp

/-- The executable specification used by the judge accepts the model's own behaviour. -/
theorem spec_accepts_model (known : String → Bool) (rw : PathEntry → String → String) (o : Oracle)
    (c : Cfg) (strip : String → String) (ev : Nat → Key → Bool) (reqs : List Req)
    (hw : ∀ q ∈ reqs, WF strip q) :
    specOK (List.zipWith (obsOf known rw) (runCached o c ev reqs) reqs)
      (reqs.map (fun q => obsOf known rw (search o c q) q)) = true := by
  rw [cache_transparent_obs (obsOf known rw) o c strip ev reqs hw]
  simp [specOK]

/-! ## Reloads: transparency over histories of requests *and* in-place reloads

`Op = request q | reload g`; `reload` installs the new configuration with a fresh cache
(`MuxCache.reload`, mirroring `mux.reload`'s `lru.NewARC`). `refOps` answers every request with the
cache-less search under the configuration current when it is served. -/

/-- **C12 across reloads**: for every history of requests and reloads (any configurations, with or
without a cache in any generation), every eviction behaviour and every oracle, each response of the
mux equals the cache-less search under the configuration current at that point. -/
theorem cache_transparent_across_reloads (o : Oracle) (strip : String → String) (ev : Nat → Key → Bool)
    (ops : List Op) (hw : OpsWF strip ops) :
    runOps o ev 0 newMux ops = refOps o {} ops :=
  runOps_eq o strip ev ops 0 newMux hw (instInv_newMux o strip)

/-- The same from any published instance whose cache satisfies the invariant for *its own*
configuration — in particular from any instance reached by a history (`inst_inv_across_reloads`). -/
theorem cache_transparent_across_reloads_from (o : Oracle) (strip : String → String)
    (ev : Nat → Key → Bool) (n : Nat) (i : Inst) (ops : List Op) (hw : OpsWF strip ops)
    (inv : InstInv o strip i) : runOps o ev n i ops = refOps o i.cfg ops :=
  runOps_eq o strip ev ops n i hw inv

def instAfter (o : Oracle) (ev : Nat → Key → Bool) : Nat → Inst → List Op → Inst
  | _, i, [] => i
  | n, _, .reload g :: ops => instAfter o ev n (reload g) ops
  | n, i, .request q :: ops => instAfter o ev (n + 1) (i.search o (ev n) q).2 ops

/-- **Invariant over histories with reloads**: the cache of the instance published after any history
answers every request with a cached key as the cache-less search does *under that instance's own
configuration* — a reload never leaves entries of an earlier generation behind. -/
theorem inst_inv_across_reloads (o : Oracle) (strip : String → String) (ev : Nat → Key → Bool) :
    ∀ (ops : List Op) (n : Nat) (i : Inst), OpsWF strip ops → InstInv o strip i →
      InstInv o strip (instAfter o ev n i ops) ∧ (instAfter o ev n i ops).cfg = cfgAfter i.cfg ops
  | [], _, _, _, inv => ⟨inv, rfl⟩
  | .reload g :: ops, n, _, hw, _ => by
    simp only [instAfter, cfgAfter]
    exact inst_inv_across_reloads o strip ev ops n (reload g) (fun q h => hw q (List.mem_cons_of_mem _ h))
      (instInv_reload o strip g)
  | .request q :: ops, n, i, hw, inv => by
    obtain ⟨_, h2, h3⟩ := instSearch_step o strip (ev n) i q (hw q List.mem_cons_self) inv
    simp only [instAfter, cfgAfter]
    rw [← h2]
    exact inst_inv_across_reloads o strip ev ops (n + 1) _ (fun q' h => hw q' (List.mem_cons_of_mem _ h)) h3

/-- **History independence across reloads**: the answer to a request depends only on the request and
on the configuration installed by the last reload before it — not on the requests, reloads, caches or
evictions before. -/
theorem history_independent_across_reloads (o : Oracle) (strip : String → String)
    (ev : Nat → Key → Bool) (pre : List Op) (q : Req) (hp : OpsWF strip pre) (hq : WF strip q) :
    (runOps o ev 0 newMux (pre ++ [.request q])).getLast? = some (search o (cfgAfter {} pre) q) := by
  have hw : OpsWF strip (pre ++ [.request q]) := by
    intro x hx
    rcases List.mem_append.mp hx with h | h
    · exact hp x h
    · simp only [List.mem_singleton, Op.request.injEq] at h; subst h; exact hq
  rw [cache_transparent_across_reloads o strip ev _ hw]
  simp [refOps, reqCfgs_append, reqCfgs]

/-- Two histories that end in the same configuration answer the same last request identically, whatever
else differs (other requests, other earlier generations, other eviction behaviour). -/
theorem history_independent_across_reloads' (o : Oracle) (strip : String → String)
    (ev ev' : Nat → Key → Bool) (pre pre' : List Op) (q : Req) (hp : OpsWF strip pre)
    (hp' : OpsWF strip pre') (hq : WF strip q) (hc : cfgAfter {} pre = cfgAfter {} pre') :
    (runOps o ev 0 newMux (pre ++ [.request q])).getLast? =
      (runOps o ev' 0 newMux (pre' ++ [.request q])).getLast? := by
  rw [history_independent_across_reloads o strip ev pre q hp hq,
    history_independent_across_reloads o strip ev' pre' q hp' hq, hc]

/-- Observables across reloads: any function of (route, request) — status, backend, rewritten path. -/
theorem cache_transparent_across_reloads_obs {α : Type} (obs : Route → Req → α) (o : Oracle)
    (strip : String → String) (ev : Nat → Key → Bool) (ops : List Op) (hw : OpsWF strip ops) :
    List.zipWith obs (runOps o ev 0 newMux ops) ((reqCfgs {} ops).map (·.2)) =
      (reqCfgs {} ops).map (fun p => obs (search o p.1 p.2) p.2) := by
  rw [cache_transparent_across_reloads o strip ev ops hw, refOps, List.zipWith_map_left,
    List.zipWith_map_right, List.zipWith_self]

/-- The judge's executable spec as it is applied to histories with reloads — cached
observations of `runOps` against cache-less observations of `refOps` — accepts the model's own behaviour. -/
theorem spec_accepts_model_across_reloads (known : String → Bool) (rw : PathEntry → String → String)
    (o : Oracle) (strip : String → String) (ev : Nat → Key → Bool) (ops : List Op) (hw : OpsWF strip ops) :
    specOK (List.zipWith (obsOf known rw) (runOps o ev 0 newMux ops) ((reqCfgs {} ops).map (·.2)))
      (List.zipWith (obsOf known rw) (refOps o {} ops) ((reqCfgs {} ops).map (·.2))) = true := by
  rw [cache_transparent_across_reloads o strip ev ops hw]
  simp [specOK]

/-! ### Witness: a reload that kept the previous cache would not be transparent

Server filter 0 blocks `10.0.0.1`; generation 1 has no server filter, generation 2 (same rules, same
cache size) has it. With the cache carried over (`runOpsKeep`) the blocked client is still served from
the entry cached in generation 1 — the seeded change C05-m4. -/

open EgVerif.C12w in

theorem kept_cache_across_reload_not_transparent :
    runOpsKeep oR (fun _ _ => false) 0 newMux histR
      ≠ refOps oR {} histR := by decide +kernel

open EgVerif.C12w

/-- Non-vacuity: on that history the model's second generation really starts with an empty cache, the
first generation had both keys resident, and the model agrees with the reference (403, 403). -/
example : runOps oR (fun _ _ => false) 0 newMux histR
    = [.path 0 0 { path := "/x", backend := "p1" }, .code 404, .code 403, .code 403] := by decide +kernel
example : runOpsKeep oR (fun _ _ => false) 0 newMux histR
    = [.path 0 0 { path := "/x", backend := "p1" }, .code 404, .path 0 0 { path := "/x", backend := "p1" }, .code 404] := by decide +kernel
example : residentOps (⟨fun _ _ => false, fun _ _ => true⟩) (fun _ _ => false) 0 newMux
    [.reload ⟨cfgR1, true⟩, .request (qR "1"), .request (qR "2"), .reload ⟨cfgR1, true⟩, .request (qR "3"), .request (qR "4")]
    = [false, true, false, true] := by decide +kernel
example : OpsWF id histR := by
  intro q h
  simp only [histR, List.mem_cons, List.not_mem_nil, or_false, Op.request.injEq, reduceCtorEq, false_or] at h
  rcases h with rfl | rfl | rfl | rfl <;> rfl

/-! ## Witnesses: the four defects of the code before the repair, and non-vacuity

One oracle for all: no regexps; filter 0 blocks `10.0.0.1`. -/

def wo : Oracle := ⟨fun _ _ => false, fun i ip => !(i == 0 && ip == "10.0.0.1")⟩
def noEv : Nat → String → Bool := fun _ _ => false
def noEvK : Nat → Key → Bool := fun _ _ => false
def always : Nat → Key → Bool := fun _ _ => true

/-- (a) rule for host `ab`; `a`+`bGET` poisons the key of `ab`+`GET` with a 404. -/
def cfgA : Cfg := { rules := [{ host := "ab", paths := [{ path := "/x", backend := "p1" }] }] }
def histA : List Req := [⟨"a", "a", "bGET", "/x", [], "10.0.0.2"⟩, ⟨"ab", "ab", "GET", "/x", [], "10.0.0.2"⟩]

theorem old_key_collision : Old.runCached wo cfgA noEv histA ≠ histA.map (search wo cfgA) := by decide +kernel
example : (Old.runCached wo cfgA noEv histA).getLast? = some (.code 404) := by decide +kernel
example : (histA.map (search wo cfgA)).getLast? = some (.path 0 0 { path := "/x", backend := "p1" }) := by decide +kernel

/-- (b) a header-conditioned entry ahead of an unconditional one with the same path. -/
def cfgB : Cfg := { rules := [{ paths := [
  { path := "/x", headers := [⟨"X-T", ["1"], none⟩], backend := "p1" },
  { path := "/x", backend := "p2" }] }] }
def histB : List Req := [⟨"a", "a", "GET", "/x", [], "10.0.0.2"⟩, ⟨"a", "a", "GET", "/x", [("X-T", "1")], "10.0.0.2"⟩]

theorem old_header_shadow : Old.runCached wo cfgB noEv histB ≠ histB.map (search wo cfgB) := by decide +kernel

/-- (c) server-level filter; a cached 404 is returned to the blocked client. -/
def cfgC : Cfg := { ipFilter := some 0, rules := [{ host := "b", paths := [{ path := "/x", backend := "p1" }] }] }
def histC : List Req := [⟨"a", "a", "GET", "/x", [], "10.0.0.2"⟩, ⟨"a", "a", "GET", "/x", [], "10.0.0.1"⟩]

theorem old_ip_bypass_404 : Old.runCached wo cfgC noEv histC ≠ histC.map (search wo cfgC) := by decide +kernel
example : Old.runCached wo cfgC noEv histC = [.code 404, .code 404] := by decide +kernel
example : histC.map (search wo cfgC) = [.code 404, .code 403] := by decide +kernel

/-- (d) an earlier host-matching rule with a filter and no matching path; the hit skips its filter. -/
def cfgD : Cfg := { rules := [
  { ipFilter := some 0, paths := [{ path := "/y", backend := "p1" }] },
  { paths := [{ path := "/x", backend := "p2" }] }] }
def histD : List Req := histC

theorem old_ip_bypass_rule : Old.runCached wo cfgD noEv histD ≠ histD.map (search wo cfgD) := by decide +kernel
example : (Old.runCached wo cfgD noEv histD).getLast? = some (.path 1 0 { path := "/x", backend := "p2" }) := by decide +kernel

/-- Non-vacuity: on the same four histories the repaired model really serves the second request from
the cache (the key is resident) and agrees with the cache-less search; the histories are well-formed. -/
example : residentFrom wo cfgB noEvK 0 [] histB = [false, false] := by decide +kernel   -- not cached: header mismatch seen
example : residentFrom wo cfgC noEvK 0 [] histC = [false, true] := by decide +kernel
example : residentFrom wo cfgD noEvK 0 [] histD = [false, true] := by decide +kernel
example : runCached wo cfgA noEvK histA = histA.map (search wo cfgA) := by decide +kernel
example : runCached wo cfgB noEvK histB = histB.map (search wo cfgB) := by decide +kernel
example : runCached wo cfgC noEvK histC = histC.map (search wo cfgC) := by decide +kernel
example : runCached wo cfgD noEvK histD = histD.map (search wo cfgD) := by decide +kernel
example : runCached wo cfgD always histD = histD.map (search wo cfgD) := by decide +kernel
example : ∀ q ∈ histA ++ histB ++ histC, WF id q := by
  intro q h; simp only [histA, histB, histC, List.cons_append, List.nil_append, List.mem_cons, List.not_mem_nil, or_false] at h
  rcases h with rfl | rfl | rfl | rfl | rfl | rfl <;> rfl

/-! ## Regenerated source facts (the syntactic shape of mux.go the model relies on) -/

theorem facts_extracted : FactsC12.extractionFailed = false := rfl

/-- Get and put build the same key, a struct of (host, method, path) — `keyOf`. -/
theorem key_shape :
    FactsC12.keyExprGet = FactsC12.keyExprPut ∧
    FactsC12.keyExprGet = "routeCacheKey{req.Host(), req.Method(), req.Path()}" ∧
    FactsC12.keyFields = ["host string", "method string", "path string"] :=
  ⟨rfl, rfl, rfl⟩

/-- `search` looks the cache up once and has three `putRouteToCache` call sites. *What* is put under
*which* guard (the path while no header mismatch was seen, the 405, the 404, each with the consulted
filters) is not a textual fact here (`FactsC12.putArgs` / `putGuards` are generated for the reader
only): it is proved semantically by `search_regenerated_from_source` below, which survives renamings. -/
theorem put_sites :
    FactsC12.searchGetCalls = 1 ∧ FactsC12.searchPutCalls = 3 :=
  ⟨rfl, rfl⟩

/-- A `route` carries the consulted filters. That every IP check of `search` goes through the recording
closure and that the hit branch re-checks exactly the recorded list is `search_regenerated_from_source`
/ `search_hit_regenerated_from_source` (the textual facts `searchAllowCalls`, `hitBranch` are generated
for the reader only: as theorems they would break on a mere renaming of `allow` / `consulted`). -/
theorem ip_checks_recorded :
    "ipFilters []*ipfilter.IPFilter" ∈ FactsC12.routeFields := by
  decide +kernel

/-- One fresh cache per generation (`runCached` starts from the empty cache). -/
theorem one_cache_per_generation : FactsC12.reloadNewARCCalls = 1 := rfl

/-- `mux.reload` gives the new instance a cache from exactly one source, a freshly created ARC, and never
reads a `.cache` field (the previous instance's cache is not carried over): `MuxCache.reload`. -/
theorem fresh_cache_per_generation :
    FactsC12.reloadCacheSources = ["lru.NewARC(int(spec.CacheSize))"] ∧
    FactsC12.reloadCacheReads = [] :=
  ⟨rfl, rfl⟩

/-! ## Regenerated tie by translation (`notes/IR.md`)

`Gen.FactsMuxIR.searchIR o c q cached` is re-translated on every run from the current body of
`muxInstance.search` (go/ast → Lean, `harness/factextract/irlib.go`; `cached` = what `getRouteFromCache`
returned, second component = the route handed to `putRouteToCache`). Proofs: `Proofs/MuxSearchIR.lean`. -/

/-- **Miss path**: with no cached route the generated definition returns the model's `searchMiss` — the
route *and* the put (which route, under which guard, with which consulted filters), through the Go view
of routes (`routeGo` / `CRoute.go`). -/
theorem search_regenerated_from_source (o : Oracle) (c : Cfg) (q : Req) :
    Gen.FactsMuxIR.extractionFailed = false ∧
    Gen.FactsMuxIR.searchIR o c q none = (routeGo (searchMiss o c q).1, (searchMiss o c q).2.map CRoute.go) :=
  ⟨rfl, MuxCache.search_regenerated_from_source o c q⟩

/-- **Hit branch**: with a cached route the generated definition is the model's `hit` (re-check exactly the
recorded filters, else 403) and puts nothing. -/
theorem search_hit_regenerated_from_source (o : Oracle) (c : Cfg) (q : Req) (r : CRoute) :
    Gen.FactsMuxIR.extractionFailed = false ∧
    Gen.FactsMuxIR.searchIR o c q (some r.go) = (routeGo (hit o r q), none) :=
  ⟨rfl, MuxCache.search_regenerated_from_source_hit o c q r⟩

/-- `CRoute.go` loses nothing the hit branch reads: route (up to indices) and filter list are recovered. -/
theorem go_faithful (r r' : CRoute) (h : r.go = r'.go) :
    routeGo r.route = routeGo r'.route ∧ r.filters = r'.filters := by
  simp only [CRoute.go, GoRoute.mk.injEq] at h
  obtain ⟨h1, h2, h3⟩ := h
  exact ⟨Prod.ext h1 h2, (List.map_inj_right (fun _ _ h => Option.some.inj h)).mp h3⟩

end EgVerif.C12
