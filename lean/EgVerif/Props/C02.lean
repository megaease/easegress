import EgVerif.Proofs.Pipeline
import EgVerif.Gen.FactsC02
import EgVerif.Proofs.PipelineIR
import EgVerif.Proofs.PipelineLands
/-!
# C02 — the pipeline executes filters in flow order with forward-only jumpIf and END

Property theorems about `Model.Pipeline` (a line-by-line model of `pipeline.go`'s `Spec.Validate`,
`ValidateJumpIf`, `doHandle`, `Handle`, `HandleWithBeforeAfter`, flow synthesis, `filterAlias` and of
`globalfilter.go`'s `Handle` / `reload` / `Validate`), for **every** spec, **every** flow and **every**
assignment `res` of results to filter invocations. The lemmas are in `Proofs/Pipeline.lean`,
`Proofs/PipelineLands.lean` and `Proofs/PipelineIR.lean`.

The model mirrors `filterAlias` as repaired by `fixes/C02-end-alias.patch` (the alias of an `END`
node is ignored). `end_alias_defect` below is the witness against the unrepaired function.
-/
namespace EgVerif.C02
open EgVerif.Pipeline EgVerif.Pipeline.Spec

/-! ## Validation is sound and complete -/

/-- **Soundness + completeness of validation.** `Spec.Validate` accepts a spec exactly when: every
filter spec is acceptable (urlname, registered kind), no filter is called `END`, filter names are
unique, and for every real flow node (whatever precedes it) the filter is declared, every mapped
result is declared by the filter's kind and every jump has exactly one admissible continuation
(`targets … = 1`, spelled out in `targets_eq_one_iff`). -/
theorem validate_iff (kinds : List (String × List String)) (p : PSpec) :
    validate kinds p = true ↔ ValidSpec kinds p := by
  unfold validate
  rw [Bool.and_eq_true, validate_eq_valid_flow, flowOk_iff, validateFilters_iff]
  constructor
  · rintro ⟨⟨h1, h2⟩, h3⟩
    exact ⟨fun f hf => ⟨(h1 f hf).1, (h1 f hf).2.1⟩, fun f hf => (h1 f hf).2.2.1, h2, h3⟩
  · rintro ⟨h1, h2, h3, h4⟩
    exact ⟨⟨fun f hf => ⟨(h1 f hf).1, (h1 f hf).2, h2 f hf, by simp⟩, h3⟩, h4⟩

/-- "exactly one admissible continuation": the target is the built-in `END` and no later real node is
called `END`, or it is not `END` and exactly one later real (non-`END`) node has that name. -/
theorem targets_eq_one_iff (t : String) (later : List Node) :
    targets t later = 1 ↔
      (t = END ∧ later.filter (isTarget t) = []) ∨ (t ≠ END ∧ ∃ m, later.filter (isTarget t) = [m]) := by
  unfold targets
  by_cases h : t = END
  · simp [h, List.filter_eq_nil_iff]
  · simp [h, List.length_eq_one_iff]

/-- The model's validation and the executable specification agree on every spec: the flow parts are the
same check (`validate_eq_valid_flow`), the filter parts are the same conjunction, one with the `seen`
list, one with `nodupB`. -/
theorem validate_eq_valid (kinds : List (String × List String)) (p : PSpec) :
    validate kinds p = Spec.valid kinds p := by
  rw [validate, validate_eq_valid_flow, Spec.valid]
  congr 1
  rw [Bool.eq_iff_iff, validateFilters_iff, Bool.and_eq_true, List.all_eq_true, nodupB_iff]
  simp only [Bool.and_eq_true, decide_eq_true_eq, List.not_mem_nil, not_false_eq_true, and_true, and_assoc]

/-- The executable specification the judge evaluates on the implementation's accept / reject
decisions is the same predicate. -/
theorem valid_iff (kinds : List (String × List String)) (p : PSpec) :
    Spec.valid kinds p = true ↔ ValidSpec kinds p :=
  validate_eq_valid kinds p ▸ validate_iff kinds p

/-- A validated spec's *effective* flow (the given one, or the one synthesised from the filters)
has a unique continuation for every jump. -/
theorem jumpsOK_of_validate {kinds : List (String × List String)} {p : PSpec}
    (h : validate kinds p = true) : JumpsOK (effFlow p) := by
  have hv := (validate_iff kinds p).mp h
  unfold effFlow
  by_cases he : p.flow = []
  · rw [if_pos he]
    intro pre n suf hsplit _ r t hmem
    have hn : n ∈ p.filters.map (fun f => (⟨f.1, "", "", []⟩ : Node)) := by
      rw [hsplit]; simp
    obtain ⟨f, _, rfl⟩ := List.mem_map.mp hn
    cases hmem
  · rw [if_neg he]
    intro pre n suf hsplit hend r t hmem
    obtain ⟨k, _, hk⟩ := hv.flow_ok pre n suf hsplit hend
    exact (hk r t hmem).2

/-! ## The runtime loop refines the reference machine -/

/-- **Refinement (central theorem).** For every validated spec, every assignment of results to
filter invocations and every stats prefix, the Go loop (`doHandle` over the bound flow) computes
exactly the run of the reference small-step machine: same invocations (node, alias, bound filter,
kind, namespace, result) in the same order, same returned result, same `sawEnd`. In particular the
machine is never stuck on a validated flow. -/
theorem run_refines_ref (kinds : List (String × List String)) (p : PSpec)
    (h : validate kinds p = true) (res : Nat → String) (tr : List Stat) :
    Spec.runFlow (kindOf p.filters) res (effFlow p) tr =
      some (doHandle (kindOf p.filters) res (effFlow p) tr) :=
  runFlow_eq _ res _ (jumpsOK_of_validate h) tr

/-- `Pipeline.Handle` on a validated spec returns what the reference machine returns. -/
theorem handle_refines_ref (kinds : List (String × List String)) (p : PSpec)
    (h : validate kinds p = true) (res : Nat → String) :
    (Spec.runFlow (mkPipe p).kind res (mkPipe p).flow []).map (fun o => (o.1, o.2.1)) =
      some (handle res (mkPipe p)) := by
  simp only [mkPipe, run_refines_ref kinds p h res [], handle, Option.map_some]

/-- The same at the level of flows: unique continuations are all the refinement needs. -/
theorem run_refines_ref_flow (kind : String → String) (res : Nat → String) (flow : List Node)
    (h : JumpsOK flow) (tr : List Stat) :
    Spec.runFlow kind res flow tr = some (doHandle kind res flow tr) :=
  runFlow_eq kind res flow h tr

/-! ## Properties of every run (valid flow or not) -/

/-- Stats only grow: a flow appends its invocations to the stats it was given. -/
theorem stats_extend (kind : String → String) (res : Nat → String) (flow : List Node) (stats : List Stat) :
    ∃ new, (doHandle kind res flow stats).2.1 = stats ++ new := by
  obtain ⟨new, h⟩ := doHandle_trace kind res flow stats
  exact ⟨new, h.eq⟩

/-- **Forward only**: the node indices of the invocations of one flow strictly increase — filters run
in flow order, no node runs twice, no jump goes backward. -/
theorem forward_only (kind : String → String) (res : Nat → String) (flow : List Node) (stats : List Stat) :
    ∃ new, (doHandle kind res flow stats).2.1 = stats ++ new ∧
      new.Pairwise (fun a b => a.idx < b.idx) := by
  obtain ⟨new, h⟩ := doHandle_trace kind res flow stats
  exact ⟨new, h.eq, h.mono⟩

/-- **Each in its configured namespace**: every invocation is an execution of the real node at its
index: it is recorded under that node's alias, runs the filter instance bound to the node's filter
name (and records its kind) and runs with the node's namespace active (`""` ⇒ `DEFAULT`); its result
is the one the filter returned for that invocation. -/
theorem namespace_per_node (kind : String → String) (res : Nat → String) (flow : List Node)
    (stats : List Stat) :
    ∃ new, (doHandle kind res flow stats).2.1 = stats ++ new ∧
      (∀ s ∈ new, ∃ n, flow[s.idx]? = some n ∧ n.filter ≠ END ∧ s.name = n.name ∧
        s.filter = n.filter ∧ s.kind = kind n.filter ∧ s.ns = useNs n.ns) ∧
      (∀ k (hk : k < new.length), new[k].result = res (stats.length + k)) := by
  obtain ⟨new, h⟩ := doHandle_trace kind res flow stats
  refine ⟨new, h.eq, fun s hs => ?_, h.results⟩
  obtain ⟨_, n, hn, rest⟩ := h.statOf s hs
  exact ⟨n, hn, rest⟩

/-- **The pipeline result is the result of the last filter run** (`""` if the flow ran none). -/
theorem result_is_last_run (kind : String → String) (res : Nat → String) (flow : List Node)
    (stats : List Stat) :
    ∃ new, (doHandle kind res flow stats).2.1 = stats ++ new ∧
      (doHandle kind res flow stats).1 = lastResult new := by
  obtain ⟨new, h⟩ := doHandle_trace kind res flow stats
  exact ⟨new, h.eq, h.last⟩

/-- **Nothing runs after END**: a filter whose result is unmapped (absent / mapped to `""`) or
mapped to `END` is the last one of the flow to run — every invocation that is followed by another
one returned `""` or a result mapped to a real target name. -/
theorem nothing_after_end (kind : String → String) (res : Nat → String) (flow : List Node)
    (stats : List Stat) :
    ∃ new, (doHandle kind res flow stats).2.1 = stats ++ new ∧
      ∀ k (hk : k + 1 < new.length), ∃ n, flow[new[k].idx]? = some n ∧
        (new[k].result = "" ∨ ∃ t, n.jumpIf.lookup new[k].result = some t ∧ t ≠ "" ∧ t ≠ END) := by
  obtain ⟨new, h⟩ := doHandle_trace kind res flow stats
  exact ⟨new, h.eq, h.cont⟩

/-- An `END` node that is reached ends the pipeline: on a validated flow the run is the reference
run, which stops at `END` nodes; and a flow that reports `sawEnd = false` ran to the end of the flow
with a last result `""`. -/
theorem open_flow_result_empty (kinds : List (String × List String)) (p : PSpec)
    (h : validate kinds p = true) (res : Nat → String) (stats : List Stat)
    (he : (doHandle (kindOf p.filters) res (effFlow p) stats).2.2 = false) :
    (doHandle (kindOf p.filters) res (effFlow p) stats).1 = "" :=
  doHandle_open_result _ res _ (jumpsOK_of_validate h) stats he

/-! ## before / main / after -/

/-- `HandleWithBeforeAfter` on three flows with unique continuations is the reference composition:
before, then main unless before ended, then after unless one of them ended; all invocations go to
one stats list; the result is the result of the last filter that ran in any of the three. -/
theorem beforeAfter_spec_flows (res : Nat → String) (p : Pipe) (before after : Option Pipe)
    (hp : JumpsOK p.flow) (hb : ∀ b, before = some b → JumpsOK b.flow)
    (ha : ∀ a, after = some a → JumpsOK a.flow) :
    Spec.runBA res p before after = some (handleBA res p before after) := by
  unfold Spec.runBA handleBA
  obtain ⟨e1, g1⟩ := thenFlow_good res ("", [], false) before ⟨rfl, fun _ => rfl⟩ hb
  obtain ⟨e2, g2⟩ := thenFlow_good res _ (some p) g1 (fun q hq => by cases hq; exact hp)
  obtain ⟨e3, g3⟩ := thenFlow_good res _ after g2 ha
  rw [e1, e2, e3]
  simp only [Option.map_some, g3.1]

/-- **before / after around the main flow**, for validated specs. -/
theorem beforeAfter_spec (kinds : List (String × List String)) (main : PSpec) (before after : Option PSpec)
    (hm : validate kinds main = true) (hb : ∀ b, before = some b → validate kinds b = true)
    (ha : ∀ a, after = some a → validate kinds a = true) (res : Nat → String) :
    Spec.runBA res (mkPipe main) (before.map mkPipe) (after.map mkPipe) =
      some (handleBA res (mkPipe main) (before.map mkPipe) (after.map mkPipe)) := by
  apply beforeAfter_spec_flows
  · exact jumpsOK_of_validate hm
  · intro b hb'
    obtain ⟨b0, h0, rfl⟩ := Option.map_eq_some_iff.mp hb'
    exact jumpsOK_of_validate (hb b0 h0)
  · intro a ha'
    obtain ⟨a0, h0, rfl⟩ := Option.map_eq_some_iff.mp ha'
    exact jumpsOK_of_validate (ha a0 h0)

theorem jumpsOK_gfPipe {kinds : List (String × List String)} {q : PSpec} (h : validate kinds q = true) :
    ∀ b, gfPipe q = some b → JumpsOK b.flow := by
  intro b hb
  unfold gfPipe at hb
  split at hb
  · cases hb
  · cases hb
    exact jumpsOK_of_validate h

/-- **GlobalFilter**: a validated GlobalFilter spec around a validated pipeline behaves as the
reference composition, where a before / after pipeline exists only if its flow is non-empty. -/
theorem globalFilter_spec (kinds : List (String × List String)) (main before after : PSpec)
    (hm : validate kinds main = true) (hg : gfValidate kinds before after = true) (res : Nat → String) :
    Spec.runBA res (mkPipe main) (gfPipe before) (gfPipe after) =
      some (gfHandle res (mkPipe main) before after) := by
  rw [gfValidate, Bool.and_eq_true] at hg
  exact beforeAfter_spec_flows res _ _ _ (jumpsOK_of_validate hm) (jumpsOK_gfPipe hg.1) (jumpsOK_gfPipe hg.2)

/-- **The `globalfilter` judge's executable spec accepts the model** (`Driver/C02.lean`, mode `gf`: accept /
reject is judged with `Spec.valid` on both parts, the runs with `Spec.runBA … (gfPipe before) (gfPipe after)`):
the model's validation decision is the spec's on every pair of parts, and for validated specs the spec's run
is defined and equals the model's `gfHandle`, for every result assignment. -/
theorem globalFilter_judge_accepts_model (kinds : List (String × List String)) (main before after : PSpec)
    (res : Nat → String) :
    gfValidate kinds before after = (Spec.valid kinds before && Spec.valid kinds after) ∧
    (validate kinds main = true → gfValidate kinds before after = true →
      Spec.runBA res (mkPipe main) (gfPipe before) (gfPipe after) = some (gfHandle res (mkPipe main) before after)) := by
  refine ⟨by unfold gfValidate; rw [validate_eq_valid, validate_eq_valid], fun hm hg => ?_⟩
  exact globalFilter_spec kinds main before after hm hg res

/-- **An END anywhere stops all three**: once a flow ended the pipeline, the later flows do not run. -/
theorem end_stops_all (res : Nat → String) (p : Pipe) (b : Pipe) (after : Option Pipe)
    (he : (doHandle b.kind res b.flow []).2.2 = true) :
    handleBA res p (some b) after = doHandle b.kind res b.flow [] := by
  unfold handleBA
  cases after <;> simp [thenFlow, he]

theorem end_in_main_stops_after (res : Nat → String) (p : Pipe) (a : Pipe)
    (he : (doHandle p.kind res p.flow []).2.2 = true) :
    handleBA res p none (some a) = doHandle p.kind res p.flow [] := by
  unfold handleBA
  simp [thenFlow, he]

/-! ## Stats order = execution order; reused filter instances; END inside before / after -/

/-- **Stats order = execution order, across all three flows.** In the one stats list that
`HandleWithBeforeAfter` (hence `GlobalFilter.Handle`) serializes into the tag, the k-th entry is the
k-th filter invocation of the request (`res k`), whatever the flows are: before, main and after append in
this order and each flow appends in execution order (last clause of `namespace_per_node`). For every flow,
valid or not. -/
theorem stats_order_is_execution_order (res : Nat → String) (p : Pipe) (before after : Option Pipe) :
    ∀ k (hk : k < (handleBA res p before after).2.1.length),
      ((handleBA res p before after).2.1)[k].result = res k := by
  unfold handleBA
  exact thenFlow_statsInOrder res _ after (thenFlow_statsInOrder res _ (some p)
    (thenFlow_statsInOrder res _ before (fun k hk => absurd hk (by simp))))

/-- **A filter referenced by several flow nodes is one instance.** Two invocations whose flow nodes name
the same filter ran the same bound instance of the same kind — whatever their aliases and namespaces are. -/
theorem reused_filter_same_instance (kind : String → String) (res : Nat → String) (flow : List Node)
    (stats : List Stat) :
    ∃ new, (doHandle kind res flow stats).2.1 = stats ++ new ∧
      ∀ s1 ∈ new, ∀ s2 ∈ new, ∀ n1 n2, flow[s1.idx]? = some n1 → flow[s2.idx]? = some n2 →
        n1.filter = n2.filter → s1.filter = s2.filter ∧ s1.kind = s2.kind := by
  obtain ⟨new, h⟩ := doHandle_trace kind res flow stats
  refine ⟨new, h.eq, fun s1 h1 s2 h2 n1 n2 e1 e2 hf => ?_⟩
  obtain ⟨_, m1, hm1, _, _, hf1, hk1, _⟩ := h.statOf s1 h1
  obtain ⟨_, m2, hm2, _, _, hf2, hk2, _⟩ := h.statOf s2 h2
  cases e1.symm.trans hm1
  cases e2.symm.trans hm2
  exact ⟨by rw [hf1, hf2, hf], by rw [hk1, hk2, hf]⟩

/-- **`END` as the first node of a GlobalFilter's before flow stops everything**: no filter of the before
flow, the main pipeline or the after flow runs; the result is empty. -/
theorem gf_end_first_in_before_stops_all (res : Nat → String) (main : Pipe) (before after : PSpec)
    (n : Node) (rest : List Node) (hf : before.flow = n :: rest) (hn : n.filter = END) :
    gfHandle res main before after = ("", [], true) := by
  have hne : ¬ before.flow = [] := by rw [hf]; exact List.cons_ne_nil _ _
  have hd : doHandle (mkPipe before).kind res (mkPipe before).flow [] = ("", [], true) := by
    simp only [mkPipe, effFlow, hf, doHandle, List.cons_ne_nil, if_false]
    exact loop_cons_end (Or.inl rfl) hn
  unfold gfHandle handleBA
  simp only [gfPipe, hne, if_false, thenFlow, hd]
  by_cases ha : after.flow = [] <;> simp [ha]

/-- **`END` as the first node of the after flow** ends the request without running anything more: the
stats stay those of the main pipeline. The returned result is the after flow's own (empty) result —
every `doHandle` starts from `result = ""` — which for a validated main flow that did not end is what the
main flow carried anyway (`open_flow_result_empty`). -/
theorem gf_end_first_in_after_keeps_main (res : Nat → String) (main : Pipe) (after : PSpec)
    (n : Node) (rest : List Node) (hf : after.flow = n :: rest) (hn : n.filter = END)
    (hopen : (doHandle main.kind res main.flow []).2.2 = false) :
    gfHandle res main ⟨[], []⟩ after =
      ("", (doHandle main.kind res main.flow []).2.1, true) := by
  unfold gfHandle handleBA
  have hd : ∀ st, doHandle (kindOf after.filters) res (n :: rest) st = ("", st, true) :=
    fun st => loop_cons_end (Or.inl rfl) hn
  simp only [gfPipe, if_false, if_true, thenFlow, hopen, mkPipe, effFlow, hf, List.cons_ne_nil]
  generalize doHandle main.kind res main.flow [] = o at hopen ⊢
  obtain ⟨r, st, e⟩ := o
  simp only at hopen
  subst hopen
  simp [hd]

/-! ## Flow synthesis (`flow` empty ⇒ the filters in declaration order) -/

private def kindsEx' : List (String × List String) := [("K", ["r1", "r2"])]

/-- Regenerated skeleton of `Pipeline.reload` / `GlobalFilter.reload` (by role: FLOW = the local stored into
`p.flow`, RAW = range variable over `p.spec.Filters`, SPEC = `filters.NewSpec(…, RAW)`): FLOW starts as the
spec's flow, is replaced by an empty slice when that is empty, and gets exactly one node
`FlowNode{FilterName: SPEC.Name()}` per filter spec, in the loop over the filter specs, exactly when the spec's
flow is empty — there is no other write; `p.flow = FLOW` follows the loop; the binding loop binds each non-END
node to the instance registered under its `FilterName` (instances are registered under their own name);
a GlobalFilter creates its before / after pipeline exactly when that part's flow is non-empty. This is what
`effFlow` / `kindOf` / `gfPipe` mirror. -/
theorem reload_skeleton_facts :
    Gen.FactsC02.extractionFailed = false ∧
    Gen.FactsC02.reloadFlowWrites =
      ["FLOW := P.spec.Flow",
       "if len(FLOW) == 0 { FLOW = make([]FlowNode, 0, len(P.spec.Filters))",
       "range P.spec.Filters { if len(P.spec.Flow) == 0 { FLOW = append(FLOW, FlowNode{FilterName: SPEC.Name()})"] ∧
    Gen.FactsC02.reloadStoreAfterLoop = true ∧
    Gen.FactsC02.reloadBinding = ["if NODE.FilterName != BuiltInFilterEnd { NODE.filter = P.filters[NODE.FilterName] }"] ∧
    Gen.FactsC02.reloadRegistersByName = 1 ∧
    Gen.FactsC02.gfReloadCreates =
      ["len(GF.spec.BeforePipeline.Flow) != 0 => CreateAndUpdateBeforePipelineForSpec",
       "len(GF.spec.AfterPipeline.Flow) != 0 => CreateAndUpdateAfterPipelineForSpec"] :=
  ⟨rfl, rfl, rfl, rfl, rfl, rfl⟩

theorem effFlow_synth (fs : List (String × String)) : effFlow ⟨fs, []⟩ = fs.map synthNode := by
  simp [effFlow, synthNode]

/-- **The synthesised flow validates**: a spec without a flow is accepted as soon as its filter specs are
(`validateFilters`), and so is the same spec with the synthesised flow written out explicitly. -/
theorem synth_flow_validates (kinds : List (String × List String)) (fs : List (String × String))
    (h : validateFilters kinds fs [] = true) :
    validate kinds ⟨fs, []⟩ = true ∧ validate kinds ⟨fs, fs.map synthNode⟩ = true := by
  refine ⟨by simp [validate, h, scan], ?_⟩
  rw [validate, h, Bool.true_and, validate_eq_valid_flow, flowOk_iff]
  -- a synthesised node names a declared filter and has no `jumpIf`
  intro pre n suf e _
  have hn : n ∈ fs.map synthNode := by
    rw [show fs.map synthNode = pre ++ n :: suf from e]
    exact List.mem_append_right _ List.mem_cons_self
  obtain ⟨f, hm, rfl⟩ := List.mem_map.mp hn
  obtain ⟨k, hk⟩ := Option.isSome_iff_exists.mp (lookup_self_of_mem hm)
  exact ⟨k, hk, fun r t h => by cases h⟩

/-- **The synthesised flow executes every filter exactly once, in declaration order**: with a validated
filter list and no flow, a request whose filters all return `""` runs node k = filter k for k = 0 … n-1 (each
index once, increasing), each under its own name, bound to its own instance, in the default namespace; the
result is `""`. (A non-empty result ends the pipeline there: the synthesised nodes have no `jumpIf` —
`nothing_after_end`.) -/
theorem synth_flow_runs_every_filter_once_in_order (kinds : List (String × List String))
    (fs : List (String × String)) (h : validateFilters kinds fs [] = true)
    (res : Nat → String) (hres : ∀ k, res k = "") :
    handle res (mkPipe ⟨fs, []⟩) = ("", synthStats (kindOf fs) fs 0) ∧
    (handle res (mkPipe ⟨fs, []⟩)).2.map (·.filter) = fs.map (·.1) ∧
    (handle res (mkPipe ⟨fs, []⟩)).2.map (·.idx) = List.range fs.length := by
  have hf := (validateFilters_iff kinds fs []).mp h
  have hE : ∀ f ∈ fs, f.1 ≠ END := fun f hm => (hf.1 f hm).2.2.1
  have hl := loop_synth (kindOf fs) res hres fs 0 [] hE
  have hh : handle res (mkPipe ⟨fs, []⟩) = ("", synthStats (kindOf fs) fs 0) := by
    simp only [handle, mkPipe, effFlow_synth, doHandle, hl, List.nil_append]
  refine ⟨hh, ?_, ?_⟩
  · rw [hh]; exact synthStats_filters _ fs 0
  · rw [hh]; simp only [synthStats_idx _ fs 0]; exact (List.range_eq_range' (n := fs.length)).symm

/-- non-vacuity: three validated filters, no flow -/
example : validateFilters kindsEx' [("v", "K"), ("a", "K"), ("p", "K")] [] = true ∧
    (handle (fun _ => "") (mkPipe ⟨[("v", "K"), ("a", "K"), ("p", "K")], []⟩)).2.map (fun s => (s.idx, s.filter)) =
      [(0, "v"), (1, "a"), (2, "p")] := by decide +kernel

/-! ## Validation is needed; the repaired `filterAlias` is needed -/

private def kindsEx : List (String × List String) := [("K", ["r1", "r2"])]

/-- a later alias that occurs twice: `a --r1--> x`, and both `b` and `c` are called `x` -/
private def dupSpec : PSpec :=
  ⟨[("a", "K"), ("b", "K"), ("c", "K")],
   [⟨"a", "", "", [("r1", "x")]⟩, ⟨"b", "x", "", []⟩, ⟨"c", "x", "n1", []⟩]⟩

/-- **Negative**: without validation the runtime can mis-execute. The flow `dupSpec` is rejected by
validation; the reference machine has no run for it (the target is not unique), yet the runtime loop
silently jumps to the first of the two nodes. -/
theorem unvalidated_can_misexecute :
    validate kindsEx dupSpec = false ∧
    Spec.runFlow (kindOf dupSpec.filters) (fun k => if k = 0 then "r1" else "") dupSpec.flow [] = none ∧
    ((doHandle (kindOf dupSpec.filters) (fun k => if k = 0 then "r1" else "") dupSpec.flow []).2.1.map
      (fun s => (s.idx, s.name, s.filter))) = [(0, "a", "a"), (1, "x", "b"), (2, "x", "c")] := by
  decide +kernel

/-- `filterAlias` as it is in the unrepaired tree: the alias wins also on `END` nodes. -/
private def oldName (n : Node) : String := if n.alias ≠ "" then n.alias else n.filter

/-- the loop with the unrepaired `filterAlias` (only `Node.name` replaced) -/
private def oldLoop (kind : String → String) (res : Nat → String) :
    List Node → Nat → String → String → List Stat → String × List Stat × Bool
  | [], _, result, _, stats => (result, stats, false)
  | n :: rest, i, result, next, stats =>
    if next ≠ "" ∧ next ≠ oldName n then oldLoop kind res rest (i + 1) result next stats
    else if n.filter = END then (result, stats, true)
    else
      let r := res stats.length
      let stats' := stats ++ [⟨i, oldName n, n.filter, kind n.filter, useNs n.ns, r⟩]
      if r = "" then oldLoop kind res rest (i + 1) r "" stats'
      else
        let nx := (n.jumpIf.lookup r).getD ""
        if nx = "" ∨ nx = END then (r, stats', true)
        else oldLoop kind res rest (i + 1) r nx stats'

/-- `a --r1--> x`; an `END` node carrying the alias `x` stands before the real node `x` -/
private def endAliasSpec : PSpec :=
  ⟨[("a", "K"), ("b", "K")],
   [⟨"a", "", "", [("r1", "x")]⟩, ⟨"END", "x", "", []⟩, ⟨"b", "x", "", []⟩]⟩

/-- **Genuine defect (repaired by `fixes/C02-end-alias.patch`).** The spec `endAliasSpec` is accepted by
validation (the only later real node called `x` is `b`, the `END` node is not counted), the reference
machine and the repaired loop jump to `b`; the unrepaired loop stops at the aliased `END` node and `b`
never runs. The harness replays this input on the real code (`corpus/C02/pipeline.jsonl`). -/
theorem end_alias_defect :
    validate kindsEx endAliasSpec = true ∧
    ((doHandle (kindOf endAliasSpec.filters) (fun k => if k = 0 then "r1" else "") endAliasSpec.flow []).2.1.map
      (fun s => (s.idx, s.filter))) = [(0, "a"), (2, "b")] ∧
    ((oldLoop (kindOf endAliasSpec.filters) (fun k => if k = 0 then "r1" else "") endAliasSpec.flow 0 "" "" []).2.1.map
      (fun s => (s.idx, s.filter))) = [(0, "a")] := by
  decide +kernel

/-! ## Facts regenerated from the source on every run -/

/-- The constants the model hard-codes are the ones in the source, and the modelled functions have
the shape the model assumes: one filter invocation, one namespace switch and one `filterAlias()` per
loop iteration; `HandleWithBeforeAfter` runs three flows, `Handle` one; `Validate` goes through
`ValidateJumpIf` (which names nodes with `filterAlias()`) and the reserved-name check;
`GlobalFilter.Handle` delegates to `HandleWithBeforeAfter` and its `Validate` validates both specs. -/
theorem source_facts :
    Gen.FactsC02.extractionFailed = false ∧
    Gen.FactsC02.endName = END ∧ Gen.FactsC02.defaultNamespace = DEFAULT ∧
    Gen.FactsC02.urlNamePattern = "^[A-Za-z0-9\\-_\\.~]{1,253}$" ∧
    Gen.FactsC02.doHandleFilterCalls = 1 ∧ Gen.FactsC02.doHandleUseNamespaceCalls = 1 ∧
    Gen.FactsC02.doHandleAliasCalls = 1 ∧
    Gen.FactsC02.hwbaDoHandleCalls = 3 ∧ Gen.FactsC02.handleDoHandleCalls = 1 ∧
    Gen.FactsC02.validateCallsValidateJumpIf = 1 ∧ Gen.FactsC02.validateCallsIsBuiltIn = 1 ∧
    Gen.FactsC02.validateJumpIfAliasCalls = 1 ∧
    Gen.FactsC02.gfHandleCallsHWBA = 1 ∧ Gen.FactsC02.gfValidateCalls = 2 :=
  ⟨rfl, rfl, rfl, rfl, rfl, rfl, rfl, rfl, rfl, rfl, rfl, rfl, rfl, rfl⟩

/-! ## Regenerated tie by translation (notes/IR.md, `harness/factextract/facts_c02_ir.go`)

`Gen.FactsC02IR.*IR` are translated on every run from the current bodies of the Go functions by the
go/ast micro-translator; each is the model function on every input. The translated loops, and with them
`doHandle`, `Handle` and `Validate` (same names, namespace `EgVerif.Pipeline`), are dealt with in
`Proofs/PipelineIR.lean`. A changed comparison, branch, constant, loop exit or counter update in the source
changes the generated definition and breaks the theorem of that function. -/

/-- `FlowNode.filterAlias` (as repaired: the alias of an `END` node is ignored). -/
theorem filterAlias_regenerated_from_source (n : Node) :
    Gen.FactsC02IR.extractionFailed = false ∧ Gen.FactsC02IR.filterAliasIR n = n.name := by
  refine ⟨rfl, ?_⟩
  unfold Gen.FactsC02IR.filterAliasIR Node.name
  by_cases h1 : n.alias = "" <;> by_cases h2 : n.filter = END <;> simp [h1, h2]

/-- `isBuiltInFilter` (the reserved-name test of `Spec.Validate`). -/
theorem isBuiltInFilter_regenerated_from_source (name : String) :
    Gen.FactsC02IR.extractionFailed = false ∧ Gen.FactsC02IR.isBuiltInFilterIR name = decide (name = END) :=
  ⟨rfl, Pipeline.isBuiltInFilter_regenerated_from_source name⟩

/-- `Context.UseNamespace` (`""` ⇒ `DEFAULT`), whatever namespace was active before. -/
theorem useNamespace_regenerated_from_source (ns0 ns : String) :
    Gen.FactsC02IR.extractionFailed = false ∧ Gen.FactsC02IR.useNamespaceIR ns0 ns = useNs ns :=
  ⟨rfl, Pipeline.useNamespace_regenerated_from_source ns0 ns⟩

/-- `Pipeline.doHandle`: the translated loop (`result, next, sawEnd`, the stats slice, `continue` / `break`,
the `JumpIf` lookup, one `UseNamespace` + one filter invocation + one stat per executed node) is the
model's `doHandle`, whatever namespace is active on entry. -/
theorem doHandle_regenerated_from_source (kind : String → String) (res : Nat → String) (ns0 : String)
    (flow : List Node) (stats : List Stat) :
    Gen.FactsC02IR.extractionFailed = false ∧
      Gen.FactsC02IR.doHandleIR kind res ns0 flow stats = doHandle kind res flow stats :=
  ⟨rfl, Pipeline.doHandle_regenerated_from_source kind res ns0 flow stats⟩

/-- `Pipeline.Handle`: returned result and the stats behind the tag. -/
theorem handle_regenerated_from_source (res : Nat → String) (p : Pipe) :
    Gen.FactsC02IR.extractionFailed = false ∧ Gen.FactsC02IR.handleIR res p = handle res p :=
  ⟨rfl, Pipeline.handle_regenerated_from_source res p⟩

/-- `Pipeline.HandleWithBeforeAfter`: returned result and the stats behind the tag are those of the
model's `handleBA` (before unless nil; main unless ended; after unless ended or nil). -/
theorem handleWithBeforeAfter_regenerated_from_source (res : Nat → String) (p : Pipe)
    (before after : Option Pipe) :
    Gen.FactsC02IR.extractionFailed = false ∧
      Gen.FactsC02IR.handleBAIR res p before after =
        ((handleBA res p before after).1, (handleBA res p before after).2.1) := by
  refine ⟨rfl, ?_⟩
  unfold Gen.FactsC02IR.handleBAIR handleBA
  -- both sides branch on the same tests: which of `before` / `after` exist, and the `sawEnd` of each
  -- flow that ran; `ob`, `o` are the outcomes of the before flow and of the main flow
  cases before with
  | none =>
    generalize ho : doHandle p.kind res p.flow [] = o
    obtain ⟨r, st, e⟩ := o
    cases after <;> cases e <;> simp [thenFlow, ho, Gen.FactsC02IR.optPipe]
  | some b =>
    simp only [Gen.FactsC02IR.optPipe, Option.getD_some, Option.isSome_some, if_true, thenFlow]
    generalize doHandle b.kind res b.flow [] = ob
    obtain ⟨rb, stb, eb⟩ := ob
    cases eb with
    | true => cases after <;> simp
    | false =>
      generalize doHandle p.kind res p.flow stb = o
      obtain ⟨r, st, e⟩ := o
      cases after <;> cases e <;> simp

/-- `Spec.ValidateJumpIf(specs)`: the translated backward loop (index `len-1 … 0`, the `validTargets`
map as an association list, the inner `range node.JumpIf`, the three `panic`s, `validTargets[alias]++`)
returns normally exactly when the model's `scan` succeeds — for every `specs` table. -/
theorem validateJumpIf_regenerated_from_source (kinds : List (String × List String)) (s : PSpec)
    (specs : List (String × String)) :
    Gen.FactsC02IR.extractionFailed = false ∧
      Gen.FactsC02IR.validateJumpIfIR kinds s specs = (scan specs kinds s.flow).isSome := by
  refine ⟨rfl, ?_⟩
  have h := validateJumpIf_regenerated_from_source_loop kinds s specs s.flow.length
    [(END, 1)] [END] (Nat.le_refl _) (by simp [scan]) ctrRel_init
  unfold Gen.FactsC02IR.validateJumpIfIR
  have hf : ((s.flow.length : Int) - 1 - 0 + 1).toNat = s.flow.length := by omega
  rw [hf]
  rw [← h]
  unfold okSum
  dsimp only
  generalize Gen.FactsC02IR.validateJumpIfIR_loop1 kinds s specs [(END, 1)] ((s.flow.length : Int) - 1) s.flow.length = x
  cases x <;> rfl

/-- Go iterates `node.JumpIf` (a map) in an unspecified order; the translated inner loop gives the same
answer for every order of the entries, whenever the counter represents a multiset of names (which the
outer loop maintains). -/
theorem validateJumpIf_order_independent (kinds : List (String × List String)) (s : PSpec)
    (specs : List (String × String)) (m : List (String × Int)) (vt : List String) (hm : CtrRel m vt)
    (node : Node) (spec : Option String) (results : List String) (l1 l2 : List (String × String))
    (hp : l1.Perm l2) :
    Gen.FactsC02IR.validateJumpIfIR_loop2 kinds s specs m node spec results l1 =
      Gen.FactsC02IR.validateJumpIfIR_loop2 kinds s specs m node spec results l2 := by
  rw [validateJumpIf_regenerated_from_source_loop_inner kinds s specs m vt hm,
    validateJumpIf_regenerated_from_source_loop_inner kinds s specs m vt hm, hp.all_eq]

/-- `Spec.Validate`: the translated function (filter loop with `filters.NewSpec`, reserved and duplicate
name checks building the `specs` map, `ValidateJumpIf`, resilience loop; `panic` = rejected through the
deferred `recover`) accepts exactly when the model's `validate` accepts and every resilience entry is
accepted by `resilience.NewPolicy`. -/
theorem validate_regenerated_from_source (kinds : List (String × List String)) (s : PSpec) (resil : List Bool) :
    Gen.FactsC02IR.extractionFailed = false ∧
      Gen.FactsC02IR.validateIR kinds s resil = (validate kinds s && resil.all id) :=
  ⟨rfl, Pipeline.validate_regenerated_from_source kinds s resil⟩

/-- `GlobalFilter.Handle`: panics (`none`) iff the handler is not a pipeline; otherwise it is
`HandleWithBeforeAfter` with the loaded before / after pipelines — with the pipelines `reload` stores
(`gfPipe`), the model's `gfHandle`. -/
theorem gfHandle_regenerated_from_source (res : Nat → String) (handler bp ap : Option Pipe)
    (main : Pipe) (before after : PSpec) :
    Gen.FactsC02IR.extractionFailed = false ∧
      Gen.FactsC02IR.gfHandleIR res handler bp ap = handler.map (fun p => handleBA res p bp ap) ∧
      Gen.FactsC02IR.gfHandleIR res (some main) (gfPipe before) (gfPipe after) =
        some (gfHandle res main before after) := by
  have h : ∀ handler bp ap, Gen.FactsC02IR.gfHandleIR res handler bp ap =
      handler.map (fun p => handleBA res p bp ap) := by
    intro handler bp ap
    unfold Gen.FactsC02IR.gfHandleIR
    cases handler <;> cases bp <;> cases ap <;> simp [Gen.FactsC02IR.optPipe]
  refine ⟨rfl, h handler bp ap, ?_⟩
  rw [h]
  rfl

/-- `globalfilter.Spec.Validate`. -/
theorem gfValidate_regenerated_from_source (kinds : List (String × List String)) (before after : PSpec) :
    Gen.FactsC02IR.extractionFailed = false ∧
      Gen.FactsC02IR.gfValidateIR kinds before after = gfValidate kinds before after := by
  refine ⟨rfl, ?_⟩
  unfold Gen.FactsC02IR.gfValidateIR gfValidate
  cases validate kinds before <;> cases validate kinds after <;> rfl

/-! ## Non-vacuity: concrete validated specs meeting the hypotheses -/

/-- validator → adaptor → proxy with a jump over the adaptor *and over an END node*, an `END` mapping,
a reused filter under an alias and two namespaces. -/
private def okSpec : PSpec :=
  ⟨[("v", "K"), ("a", "K"), ("p", "K")],
   [⟨"v", "", "", [("r1", "END"), ("r2", "px")]⟩, ⟨"a", "", "n1", []⟩, ⟨"END", "", "", []⟩,
    ⟨"p", "px", "n2", [("r1", "END")]⟩, ⟨"a", "again", "", []⟩]⟩

example : validate kindsEx okSpec = true := by decide +kernel
example : ValidSpec kindsEx okSpec := (validate_iff _ _).mp (by decide +kernel)

/-- `v` returns `r2`: jump to `px` (node 3) skipping node 1 and the END node 2; then node 4. -/
example : (handle (fun k => if k = 0 then "r2" else "") (mkPipe okSpec)).2.map
    (fun s => (s.idx, s.name, s.filter, s.ns, s.result)) =
    [(0, "v", "v", "DEFAULT", "r2"), (3, "px", "p", "n2", ""), (4, "again", "a", "DEFAULT", "")] := by decide +kernel

/-- all results `""`: nodes 0, 1 run, then the END node stops the pipeline. -/
example : (handle (fun _ => "") (mkPipe okSpec)).2.map (fun s => s.idx) = [0, 1] := by decide +kernel

/-- before ends (unmapped result `zz`) ⇒ main and after do not run, result `zz`. -/
example : (handleBA (fun _ => "zz") (mkPipe okSpec) (some (mkPipe okSpec)) (some (mkPipe okSpec))).1 = "zz" ∧
    (handleBA (fun _ => "zz") (mkPipe okSpec) (some (mkPipe okSpec)) (some (mkPipe okSpec))).2.1.length = 1 := by
  decide +kernel

/-- the regenerated definitions compute on the same concrete spec: `Validate` accepts it (and rejects it
when a resilience entry is bad, or when the flow has a duplicated target); the translated loop visits
nodes 0, 3, 4 on `r2`. -/
example : Gen.FactsC02IR.validateIR kindsEx okSpec [true] = true ∧
    Gen.FactsC02IR.validateIR kindsEx okSpec [true, false] = false ∧
    Gen.FactsC02IR.validateIR kindsEx dupSpec [] = false ∧
    Gen.FactsC02IR.validateJumpIfIR kindsEx okSpec okSpec.filters = true := by decide +kernel

example : (Gen.FactsC02IR.doHandleIR (kindOf okSpec.filters) (fun k => if k = 0 then "r2" else "") "zz"
    okSpec.flow []).2.1.map (fun s => (s.idx, s.name, s.ns)) =
    [(0, "v", "DEFAULT"), (3, "px", "n2"), (4, "again", "DEFAULT")] := by decide +kernel

example : Gen.FactsC02IR.gfHandleIR (fun _ => "") none none none = none := by decide +kernel

/-- reuse + stats order on the concrete spec: filter `a` runs at node 1 and (alias `again`) at node 4 —
same instance `a`, different stat names; the tag order is the execution order. -/
example : (handle (fun k => if k = 2 then "zz" else "") (mkPipe okSpec)).2.map (fun s => (s.idx, s.name, s.filter)) =
    [(0, "v", "v"), (1, "a", "a")] ∧
    (handle (fun k => if k = 0 then "r2" else "") (mkPipe okSpec)).2.map (fun s => (s.name, s.filter, s.kind)) =
    [("v", "v", "K"), ("px", "p", "K"), ("again", "a", "K")] := by decide +kernel

/-- END first in a GlobalFilter's before flow: nothing runs -/
example : gfHandle (fun _ => "r1") (mkPipe okSpec) ⟨[("v", "K")], [⟨"END", "", "", []⟩, ⟨"v", "", "", []⟩]⟩ ⟨[], []⟩ =
    ("", [], true) := by decide +kernel

/-- a spec without a flow: one node per filter in spec order -/
example : (handle (fun _ => "") (mkPipe ⟨[("v", "K"), ("a", "K")], []⟩)).2.map (fun s => s.filter) = ["v", "a"] := by
  decide +kernel

/-! ### Where a jump lands, declaratively

"A non-empty result jumps to exactly the node named by `jumpIf`, skipping every node in between; `""`
runs the very next node" holds inside the definition of the reference machine `Spec.run` (and reaches
`doHandle` through `run_refines_ref`, for validated flows). The two theorems below state it about
`doHandle` itself, for **every** flow — validated or not — and every assignment of results. Proof by
induction on the loop: `Proofs/PipelineLands.lean`. -/

/-- **Where control goes after each filter.** For consecutive invocations `new[k]`, `new[k+1]` of one flow:
* the first invocation of the flow is node 0;
* if `new[k]` returned `""`, the next invocation is the **next flow node** (`idx + 1`);
* if it returned `r ≠ ""`, then `jumpIf` of its node maps `r` to a real target `t` (not `""`, not `END`),
  the next invocation is recorded under the name `t`, lies strictly later, and **no node in between is
  named `t`** — it is the first later node named `t`; with `forward_only` (indices strictly increase
  along `new`) none of the nodes in between runs. -/
theorem jump_lands_on_target (kind : String → String) (res : Nat → String) (flow : List Node)
    (stats : List Stat) :
    ∃ new, (doHandle kind res flow stats).2.1 = stats ++ new ∧
      (∀ h : 0 < new.length, new[0].idx = 0) ∧
      ∀ k (hk : k + 1 < new.length), ∃ n, flow[new[k].idx]? = some n ∧
        (new[k].result = "" → new[k + 1].idx = new[k].idx + 1) ∧
        (new[k].result ≠ "" → ∃ t, n.jumpIf.lookup new[k].result = some t ∧ t ≠ "" ∧ t ≠ END ∧
          new[k + 1].name = t ∧ new[k].idx < new[k + 1].idx ∧
          ∀ j, new[k].idx < j → j < new[k + 1].idx → ∀ m, flow[j]? = some m → m.name ≠ t) := by
  obtain ⟨new, heq, hfirst, hl⟩ := doHandle_lands kind res flow stats
  refine ⟨new, heq, fun h => ?_, fun k hk => lands_follows hl k hk⟩
  cases new with
  | nil => exact absurd h (Nat.lt_irrefl 0)
  | cons s tl => exact hfirst.2.1 rfl

/-- **Why a flow stops where it stops.** The last invocation of a flow is followed by nothing only because
the flow is over or an `END` node comes next (result `""`), because its result is unmapped or mapped to
`END` (`nothing_after_end`), or — impossible on a validated flow, where every target occurs later — because
no later node carries the target's name. In particular a taken jump whose target exists later *does* run it. -/
theorem last_invocation_explained (kind : String → String) (res : Nat → String) (flow : List Node)
    (stats : List Stat) :
    ∃ new, (doHandle kind res flow stats).2.1 = stats ++ new ∧
      (new = [] → ∀ n, flow[0]? = some n → n.filter = END) ∧
      ∀ k (hk : k + 1 = new.length), ∃ n, flow[new[k].idx]? = some n ∧
        (new[k].result = "" → ∀ m, flow[new[k].idx + 1]? = some m → m.filter = END) ∧
        (∀ t, new[k].result ≠ "" → n.jumpIf.lookup new[k].result = some t → t ≠ "" → t ≠ END →
          ∀ j, new[k].idx < j → ∀ m, flow[j]? = some m → m.name ≠ t) := by
  obtain ⟨new, heq, hfirst, hl⟩ := doHandle_lands kind res flow stats
  refine ⟨new, heq, fun h => ?_, fun k hk => lands_final hl k hk⟩
  subst h
  exact hfirst.1 rfl

/-- Non-vacuity (`okSpec`): `v` returns `r2` ↦ `px`: the next invocation is node 3, named `px`; nodes 1
(`a`) and 2 (`END`) in between are not named `px` and do not run; `px` returns `""` ↦ node 4 runs next. -/
example : (doHandle (kindOf okSpec.filters) (fun k => if k = 0 then "r2" else "") (effFlow okSpec) []).2.1.map
    (fun s => (s.idx, s.name, s.result)) = [(0, "v", "r2"), (3, "px", ""), (4, "again", "")] ∧
    ((effFlow okSpec)[0]?.map (fun n => n.jumpIf.lookup "r2")) = some (some "px") ∧
    ((effFlow okSpec).map (·.name)) = ["v", "a", "END", "px", "again"] := by decide +kernel

/-- Non-vacuity of the `sawEnd = false` hypotheses (`open_flow_result_empty`,
`gf_end_first_in_after_keeps_main`): a validated flow that runs to its end without meeting `END` — here
through the jump over the `END` node — reports `sawEnd = false` and result `""`; and the same flow does
report `sawEnd = true` when the `END` node is reached. -/
example : validate kindsEx okSpec = true ∧
    (doHandle (kindOf okSpec.filters) (fun k => if k = 0 then "r2" else "") (effFlow okSpec) []).2.2 = false ∧
    (doHandle (kindOf okSpec.filters) (fun k => if k = 0 then "r2" else "") (effFlow okSpec) []).1 = "" ∧
    (doHandle (kindOf okSpec.filters) (fun _ => "") (effFlow okSpec) []).2.2 = true := by decide +kernel
example : (doHandle (mkPipe okSpec).kind (fun k => if k = 0 then "r2" else "") (mkPipe okSpec).flow []).2.2 = false ∧
    gfHandle (fun k => if k = 0 then "r2" else "") (mkPipe okSpec) ⟨[], []⟩ ⟨[("v", "K")], [⟨"END", "", "", []⟩, ⟨"v", "", "", []⟩]⟩ =
      ("", (doHandle (mkPipe okSpec).kind (fun k => if k = 0 then "r2" else "") (mkPipe okSpec).flow []).2.1, true) := by
  decide +kernel

end EgVerif.C02
