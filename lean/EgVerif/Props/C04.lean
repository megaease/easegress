import EgVerif.Proofs.LoadBalance
import EgVerif.Gen.FactsC04
import EgVerif.Proofs.LoadBalanceIR
import EgVerif.Proofs.LoadBalanceSwap
/-!
# C04 — load balancers pick only live pool members, fairly / stickily, never failing

Property theorems about `Model.LoadBalance` (mirror of `loadbalance.go` and of the balancer part of
`pool.go`, with the weighted-random repair of `fixes/C04-weighted-zero.patch`). They hold for **every**
server list (any length, any integer weights), every request key, every counter / random value the
environment can hand to a selection, every schedule of atomic steps. Lemmas about the model:
`Proofs/LoadBalance.lean` (one selection, one step of the pool), `Proofs/LoadBalanceSwap.lean` (prefixes of a run).

Environment contract used as hypotheses (trusted, exercised by the harness):
* `x.counter < 2^63` — the round-robin counter is a `uint64` converted with `int(counter)`;
  fairness is claimed for fewer than 2^63 selections per balancer;
* `x.rnd < randBound lb` — `rand.Intn(n)` returns a value in `[0, n)`.
-/
namespace EgVerif.C04
open EgVerif.LoadBalance

/-- the `math/rand` and `uint64` contract for one selection -/
def Contract (lb : LB) (x : Sel) : Prop :=
  x.counter < 9223372036854775808 ∧
    ((lb.policy = .random ∨ lb.policy = .weightedRandom) → (x.rnd : Int) < randBound lb)

/-- Every policy: the server returned is a member of the balancer's (current, immutable) list. -/
theorem choose_mem (lb : LB) (x : Sel) {s : Server} (h : choose lb x = .srv s) : s ∈ lb.servers := by
  by_cases he : lb.servers = []
  · rw [choose_nil lb x he] at h; cases h
  · rcases choose_spec lb x he with hp | ⟨s', hs', h'⟩
    · rw [hp] at h; cases h
    · rw [h'] at h; cases h; exact hs'

/-- A selection yields "no server" exactly when the list is empty. -/
theorem nil_iff_empty (lb : LB) (x : Sel) : choose lb x = .nil ↔ lb.servers = [] := by
  refine ⟨fun h => ?_, choose_nil lb x⟩
  by_contra he
  rcases choose_spec lb x he with hp | ⟨s, _, hs⟩
  · rw [h] at hp; cases hp
  · rw [h] at hs; cases hs

example : choose (newLB "ipHash" [⟨"a", 0, []⟩, ⟨"b", 0, []⟩]) { ip := [49] } = .srv ⟨"a", 0, []⟩ := by decide +kernel
example : choose (newLB "random" []) {} = .nil := by decide +kernel

/-- **No policy panics**, for any server list whatsoever (hence for every pool `Validate` accepts and
for every list service discovery can publish), given the environment contract. -/
theorem no_panic (lb : LB) (x : Sel) (hc : Contract lb x) : choose lb x ≠ .panic := by
  obtain ⟨hcnt, hrnd⟩ := hc
  unfold choose
  split_ifs with h0
  · exact Res.noConfusion
  · have hpos : 0 < lb.servers.length := Nat.pos_of_ne_zero h0
    cases hp : lb.policy with
    | roundRobin =>
      simp only
      rw [rr_index hcnt]
      exact index_ne_panic (Nat.mod_lt _ hpos)
    | random =>
      have := hrnd (Or.inl hp)
      simp only [randBound, hp] at this
      exact index_ne_panic (by omega)
    | weightedRandom =>
      have := hrnd (Or.inr hp)
      simp only [randBound, hp] at this
      exact weightedChoose_no_panic _ _ this
    -- the two hash policies: an index `hash % length`
    | _ => exact index_ne_panic (Nat.mod_lt _ hpos)

/-- The statement's form: a pool accepted by `ServerPoolSpec.Validate` never panics, whatever
policy name it carries, on its static list … -/
theorem no_panic_of_valid (sps : PoolSpec) (_hv : validate sps = true) (x : Sel)
    (hc : Contract (newLB sps.policy sps.servers) x) :
    choose (newLB sps.policy sps.servers) x ≠ .panic := no_panic _ x hc

/-- … and on every list published by `useService` (weights set by discovery are not validated). -/
theorem no_panic_discovery (sps : PoolSpec) (insts : List Instance) (x : Sel)
    (hc : Contract (newLB sps.policy (useService sps insts)) x) :
    choose (newLB sps.policy (useService sps insts)) x ≠ .panic := no_panic _ x hc

/-- The code as found does **not** satisfy this: a pool with all weights zero passes `Validate`
and the first weighted-random selection panics (`rand.Intn(0)`). Replayed on the real code by the
harness (corpus/C04/lb.jsonl). -/
theorem unfixed_panics :
    let sps : PoolSpec := { servers := [⟨"http://10.0.0.1:8000", 0, []⟩], policy := "weightedRandom" }
    validate sps = true ∧ chooseUnfixed (newLB sps.policy sps.servers) {} = .panic := by decide +kernel

example : Contract (newLB "weightedRandom" [⟨"a", 0, []⟩, ⟨"b", 0, []⟩]) { rnd := 1 } := by
  refine ⟨by decide, fun _ => by decide⟩

/-- weightedRandom never picks a zero-weight (or negative-weight) server when some weight is
positive — for arbitrary integer weights (static or set by discovery). -/
theorem weighted_never_zero (ss : List Server) (x : Sel) (hex : ∃ s ∈ ss, 0 < s.weight) {s : Server}
    (h : choose ⟨.weightedRandom, ss⟩ x = .srv s) : 0 < s.weight := by
  unfold choose at h
  split_ifs at h with h0
  rcases weightedChoose_spec ss x.rnd with hp | ⟨s', _, hw, h'⟩
  · rw [hp] at h; cases h
  · rw [h'] at h; cases h; exact hw ((totalWeight_pos_iff ss).mpr hex)

/-- When no weight is positive the (repaired) policy degrades to a uniform choice over the list. -/
theorem weighted_no_positive_uniform (ss : List Server) (x : Sel) (h : ∀ s ∈ ss, s.weight ≤ 0) :
    choose ⟨.weightedRandom, ss⟩ x = choose ⟨.random, ss⟩ x := by
  have ht : totalWeight ss ≤ 0 := Int.not_lt.mp fun hp =>
    have ⟨s, hs, hw⟩ := (totalWeight_pos_iff ss).mp hp
    Int.not_lt.mpr (h s hs) hw
  unfold choose weightedChoose
  rw [if_pos ht]

example : choose ⟨.weightedRandom, [⟨"a", 0, []⟩, ⟨"b", 3, []⟩, ⟨"c", 0, []⟩]⟩ { rnd := 0 } =
    .srv ⟨"b", 3, []⟩ := by decide +kernel

theorem rr_count (k n j : Nat) (hn : 0 < n) (hj : j < n) :
    ((List.range k).filter (fun i => i % n == j)).length = k / n + (if j < k % n then 1 else 0) := by
  change _ = rrCount k n j
  induction k with
  | zero => simp [rrCount]
  | succ k ih =>
    rw [List.range_succ, List.filter_append, List.length_append, ih, rrCount_succ k n j hn hj]
    by_cases hk : k % n = j <;> simp [hk]

theorem count_mod_of_counters {α : Type} (f : α → Nat) {l : List α} {k : Nat}
    (h : l.map f = List.range' 0 k) (n j : Nat) (hn : 0 < n) (hj : j < n) :
    (l.filter (fun a => f a % n == j)).length = rrCount k n j := by
  rw [rrCount, ← rr_count k n j hn hj, List.range_eq_range', ← h, List.filter_map, List.length_map]
  rfl

/-- the closed form is ⌊k/n⌋ or ⌈k/n⌉ -/
theorem rrCount_floor_or_ceil (k n j : Nat) :
    rrCount k n j = k / n ∨ (k % n ≠ 0 ∧ rrCount k n j = k / n + 1) := by
  unfold rrCount
  split_ifs with h
  · right; exact ⟨by omega, rfl⟩
  · left; rfl

/-- One round-robin selection that obtained counter value `c` returns position `c % n`. -/
theorem rr_choose (ss : List Server) (x : Sel) (hc : x.counter < 9223372036854775808)
    (hpos : 0 < ss.length) :
    choose ⟨.roundRobin, ss⟩ x = .srv (ss[x.counter % ss.length]'(Nat.mod_lt _ hpos)) := by
  unfold choose
  have h0 : ¬ ss.length = 0 := by omega
  simp only [h0, if_false]
  rw [rr_index hc, index_natCast _ _ (Nat.mod_lt _ hpos)]

/-- **Fairness under any interleaving.** `sched` is the order in which any number of threads perform
their `atomic.AddUint64` on one balancer (`k = sched.length` selections, sequential or concurrent);
`done` is the list of (thread, value) pairs in *any* order of completion. Each position `j` of the
list is returned `k / n + [j < k % n]` times, i.e. ⌊k/n⌋ or ⌈k/n⌉ times, and every selection returns
the server at position `value % n`. -/
theorem rr_fair_any_interleaving (ss : List Server) (hpos : 0 < ss.length) (sched : List Nat)
    (hk : sched.length < 9223372036854775808) (done : List (Nat × Nat))
    (hperm : done.Perm (handOut sched 0)) (j : Nat) (hj : j < ss.length) :
    (done.filter (fun o => o.2 % ss.length == j)).length = rrCount sched.length ss.length j ∧
    (∀ o ∈ done, ∃ h : o.2 % ss.length < ss.length,
        choose ⟨.roundRobin, ss⟩ { counter := o.2 } = .srv ss[o.2 % ss.length]) := by
  constructor
  · rw [(hperm.filter _).length_eq]
    exact count_mod_of_counters Prod.snd (handOut_values sched 0) ss.length j hpos hj
  · intro o ho
    have hv := List.mem_map_of_mem (f := Prod.snd) (hperm.subset ho)
    rw [handOut_values] at hv
    have := List.mem_range'_1.mp hv
    exact ⟨Nat.mod_lt _ hpos, rr_choose ss { counter := o.2 } (by simp only; omega) hpos⟩

/-- three threads, seven selections over three servers, completions reordered: 3 / 2 / 2 -/
example :
    let done := [(2, 6), (0, 0), (1, 1), (0, 3), (2, 2), (1, 5), (1, 4)]
    done.Perm (handOut [0, 1, 2, 0, 1, 1, 2] 0) ∧
      (done.filter (fun o => o.2 % 3 == 0)).length = 3 ∧ rrCount 7 3 0 = 3 ∧ rrCount 7 3 2 = 2 := by
  decide +kernel

/-- Beyond the hypothesis the claim is false in the model too: `int(counter)` goes negative. -/
example : choose ⟨.roundRobin, [⟨"a", 0, []⟩, ⟨"b", 0, []⟩, ⟨"c", 0, []⟩]⟩
    { counter := 9223372036854775808 } = .panic := by decide +kernel

/-- ipHash: the choice is a function of the client IP and the list only. -/
theorem ip_hash_sticky (ss : List Server) (x y : Sel) (h : x.ip = y.ip) :
    choose ⟨.ipHash, ss⟩ x = choose ⟨.ipHash, ss⟩ y := by
  unfold choose; simp only [h]

/-- headerHash: the choice is a function of the header value and the list only. -/
theorem header_hash_sticky (ss : List Server) (x y : Sel) (h : x.hdr = y.hdr) :
    choose ⟨.headerHash, ss⟩ x = choose ⟨.headerHash, ss⟩ y := by
  unfold choose; simp only [h]

/-- the executable `sticky` check used by the judge accepts every run of the model -/
theorem hash_sticky (ss : List Server) (keys : List (List Nat)) (f : Res → Int) :
    sticky (keys.map (fun k => (k, f (choose ⟨.ipHash, ss⟩ { ip := k })))) = true :=
  sticky_map keys _

/-- FNV-1 32-bit test vectors (the values Go's `fnv.New32` gives for `""`, `"a"`, `"foobar"`,
`"1.2.3.4"`). -/
theorem fnv1_vectors :
    fnv1 [] = 2166136261 ∧ fnv1 [97] = 84696446 ∧ fnv1 [102, 111, 111, 98, 97, 114] = 837857890 ∧
      fnv1 [49, 46, 50, 46, 51, 46, 52] = 1184937821 := by decide +kernel

/-- `Validate` accepts exactly: some source of servers, and weights all positive or none positive. -/
theorem validate_spec (sps : PoolSpec) :
    validate sps = true ↔
      (sps.serviceName ≠ "" ∨ sps.servers ≠ []) ∧
      ((∀ s ∈ sps.servers, ¬ 0 < s.weight) ∨ (∀ s ∈ sps.servers, 0 < s.weight)) := by
  rw [validate]
  -- in terms of the number `g` of servers with a positive weight among the `n` servers
  generalize hg : (sps.servers.filter _).length = g
  have hlen : g ≤ sps.servers.length := hg ▸ List.length_filter_le _ _
  have hz : g = 0 ↔ ∀ s ∈ sps.servers, ¬ 0 < s.weight := by
    simp only [← hg, List.length_eq_zero_iff, List.filter_eq_nil_iff, decide_eq_true_eq, gt_iff_lt]
  have hf : g = sps.servers.length ↔ ∀ s ∈ sps.servers, 0 < s.weight := by
    simp only [← hg, List.length_filter_eq_length_iff, decide_eq_true_eq, gt_iff_lt]
  rw [← hz, ← hf, ← List.length_eq_zero_iff.ne]
  generalize sps.servers.length = n at *
  by_cases h1 : sps.serviceName = "" ∧ n = 0
  · rw [if_pos h1]
    exact iff_of_false Bool.false_ne_true fun h => h.1.elim (· h1.1) (· h1.2)
  · rw [if_neg h1]
    dsimp only
    by_cases h2 : g > 0 ∧ g < n
    · rw [if_pos h2]
      exact iff_of_false Bool.false_ne_true fun h => by have := h.2; omega
    · rw [if_neg h2]
      exact iff_of_true rfl ⟨not_and_or.mp h1, by omega⟩

/-- `useService` publishes exactly the tagged instances (in map order), or the static list when no
instance carries one of the pool's tags. -/
theorem use_service_spec (sps : PoolSpec) (insts : List Instance) :
    useService sps insts = currentList sps insts := by
  unfold useService currentList qualifies
  have := filterMap_ite (fun i : Instance => sps.serverTags.any (fun t => i.tags.contains t))
    (fun i => (⟨i.url, i.weight, i.tags⟩ : Server)) insts
  simp only [this]
  cases hf : insts.filter (fun i => sps.serverTags.any (fun t => i.tags.contains t)) <;> simp

/-- The iteration order of Go's instance map only permutes the published list. -/
theorem use_service_perm (sps : PoolSpec) {a b : List Instance} (h : a.Perm b) :
    (useService sps a).Perm (useService sps b) := by
  have hp := h.filter (fun i => sps.serverTags.any (fun t => i.tags.contains t))
  rw [use_service_spec, use_service_spec]
  unfold currentList
  dsimp only
  rw [hp.isEmpty_eq]
  split_ifs
  · exact .refl _
  · exact hp.map _

example : useService ⟨"svc", ["v2"], [⟨"static", 0, []⟩], ""⟩
    [⟨"i1", ["v1"], 0⟩, ⟨"i2", ["v1", "v2"], 5⟩] = [⟨"i2", 5, ["v1", "v2"]⟩] := by decide +kernel
example : useService ⟨"svc", ["v3"], [⟨"static", 0, []⟩], ""⟩
    [⟨"i1", ["v1"], 0⟩, ⟨"i2", ["v1", "v2"], 5⟩] = [⟨"static", 0, []⟩] := by decide +kernel

/-- **Replacement is linearizable.** For every interleaving `evs` of atomic loads, picks (fetch-add +
choice on the loaded balancer) and publications of new lists, every selection result was computed by
`choose` on **one** published generation — the initial list or one of the stored ones, never a
mixture — and a returned server is a member of that generation's list. -/
theorem swap_linearizable (evs : List Ev) : ∀ (p : Pool), ∀ o ∈ run p evs,
    ∃ lb ∈ p.gens.map (·.1) ++ (stores evs).map (newLB p.policy),
      (∃ x, o.res = choose lb x) ∧ ∀ s, o.res = .srv s → s ∈ lb.servers := by
  intro p o ho
  obtain ⟨pre, t, x, post, rfl, h⟩ := mem_run ho
  obtain ⟨lb, hlb, hres⟩ := pick_gen p pre post t x o h
  exact ⟨lb, List.mem_of_getElem? hlb, ⟨_, hres⟩, fun s hs => choose_mem lb _ (hres ▸ hs)⟩

/-- two threads, a publication between thread 0's load and its pick: thread 0 still gets a member of
the old list, thread 1 (loaded afterwards) a member of the new one. -/
example : (run (Pool.init "roundRobin" [⟨"old", 0, []⟩])
    [.load 0, .store [⟨"new", 0, []⟩], .load 1, .pick 0 {}, .pick 1 {}]).map (·.res) =
    [.srv ⟨"old", 0, []⟩, .srv ⟨"new", 0, []⟩] := by decide +kernel

/-- `doHandle` fails a request for lack of a server (503 `internalError`) only when the current list
is empty, and otherwise sends it to `url ++ path` of a member of the list. -/
theorem doHandle_spec (lb : LB) (x : Sel) (path : String) (hc : Contract lb x) :
    (doHandleTarget lb x path = .unavailable ↔ lb.servers = []) ∧
    (∀ u, doHandleTarget lb x path = .send u → ∃ s ∈ lb.servers, u = s.url ++ path) ∧
    doHandleTarget lb x path ≠ .panic := by
  rcases choose_of_ne_panic (no_panic lb x hc) with ⟨he, hch⟩ | ⟨s, hs, hch⟩
  · simp [doHandleTarget, hch, he]
  · simp only [doHandleTarget, hch]
    simp
    exact ⟨List.ne_nil_of_mem hs, s, hs, rfl⟩

/-- The modelling assumptions, as syntactic facts of the current working tree. -/
theorem source_facts :
    Gen.FactsC04.extractionFailed = false ∧
    -- NewLoadBalancer switches on exactly the names `Policy.ofString` knows, default = round robin
    Gen.FactsC04.policyConsts = ["roundRobin", "random", "weightedRandom", "ipHash", "headerHash"] ∧
    Gen.FactsC04.newLBCases = ["LoadBalancePolicyRoundRobin|\"\" => newRoundRobinLoadBalancer",
      "LoadBalancePolicyRandom => newRandomLoadBalancer",
      "LoadBalancePolicyWeightedRandom => newWeightedRandomLoadBalancer",
      "LoadBalancePolicyIPHash => newIPHashLoadBalancer",
      "LoadBalancePolicyHeaderHash => newHeaderHashLoadBalancer",
      "default => newRoundRobinLoadBalancer"] ∧
    Gen.FactsC04.policyEnum = ["", "roundRobin", "random", "weightedRandom", "ipHash", "headerHash"] ∧
    -- every ChooseServer starts with the empty-list guard
    Gen.FactsC04.nilGuarded.length = 5 ∧
    -- the only explicit panic is the end of the weighted loop (modelled: `weightedLoop [] _`)
    Gen.FactsC04.panicSites = ["WeightedRandomLoadBalancer.ChooseServer:1"] ∧
    Gen.FactsC04.panicCallsInFile = 1 ∧
    -- round robin: one atomic fetch-add, index `int(counter) % len`
    Gen.FactsC04.rrFetchAdds = 1 ∧ Gen.FactsC04.rrIndexExpr = true ∧
    -- the repair is present: `rand.Intn(lb.totalWeight)` is guarded by `lb.totalWeight <= 0`, non-positive
    -- weights are skipped by the loop and by the constructor's sum
    Gen.FactsC04.weightedZeroGuarded = true ∧ Gen.FactsC04.weightedLoopSkipsNonPositive = true ∧
    Gen.FactsC04.weightedSumLoop = ["if server.Weight > 0 { lb.totalWeight += server.Weight }"] ∧
    -- FNV-1, not FNV-1a
    Gen.FactsC04.fnvNew32Calls = 2 ∧ Gen.FactsC04.fnvNew32aCalls = 0 ∧
    -- balancers are immutable after construction (except the counter)
    Gen.FactsC04.postConstructionWrites = 0 ∧
    -- one atomic Load per LoadBalancer(), one Store site, one choice per doHandle, nil ⇒ 503 internalError
    Gen.FactsC04.poolLoadsInLoadBalancer = 1 ∧ Gen.FactsC04.poolStoresInFile = 1 ∧
    Gen.FactsC04.poolStoresInCreate = 1 ∧ Gen.FactsC04.doHandleChoices = 1 ∧
    Gen.FactsC04.doHandleNilReturn = "serverPoolError{http.StatusServiceUnavailable, resultInternalError}" :=
  ⟨rfl, rfl, rfl, rfl, rfl, rfl, rfl, rfl, rfl, rfl, rfl, rfl, rfl, rfl, rfl, rfl, rfl, rfl, rfl, rfl⟩

/-! ### Regenerated tie by translation (`notes/IR.md`)

`Gen.FactsC04IR.*IR` are re-translated on every run from the current bodies of the five `ChooseServer`
methods and `ServerPoolSpec.Validate` (go/ast → Lean, `harness/factextract/irlib.go`; `rand.Intn(n)`
guarded by `n > 0`, the weighted loop / the counting loop as generated structural recursion); each is
the model function on every input. What the generated loops compute: `Proofs/LoadBalanceIR.lean`. -/

theorem chooseRandom_regenerated_from_source (ss : List Server) (x : Sel) :
    Gen.FactsC04IR.extractionFailed = false ∧ Gen.FactsC04IR.chooseRandomIR ss x = choose ⟨.random, ss⟩ x := by
  refine ⟨by decide, ?_⟩
  unfold Gen.FactsC04IR.chooseRandomIR choose
  by_cases h : ss.length = 0 <;> simp [h]

theorem chooseRoundRobin_regenerated_from_source (ss : List Server) (x : Sel) :
    Gen.FactsC04IR.extractionFailed = false ∧
      Gen.FactsC04IR.chooseRoundRobinIR ss x = choose ⟨.roundRobin, ss⟩ x := by
  refine ⟨by decide, ?_⟩
  simp only [Gen.FactsC04IR.chooseRoundRobinIR, choose, beq_iff_eq, Int.natCast_eq_zero, Nat.add_sub_cancel]

theorem chooseWeighted_regenerated_from_source (ss : List Server) (x : Sel) :
    Gen.FactsC04IR.extractionFailed = false ∧
      Gen.FactsC04IR.chooseWeightedIR ss x = choose ⟨.weightedRandom, ss⟩ x := by
  refine ⟨by decide, ?_⟩
  unfold Gen.FactsC04IR.chooseWeightedIR choose weightedChoose
  by_cases h : ss.length = 0
  · simp [h]
  · by_cases hw : totalWeight ss ≤ 0
    · simp [h, hw]
    · simp only [h, hw, Int.not_le.mp hw, beq_iff_eq, Int.natCast_eq_zero, if_false, decide_true, decide_false,
        if_true, Bool.false_eq_true, gt_iff_lt]
      exact LoadBalance.chooseWeighted_regenerated_from_source_loop ss x ss x.rnd

theorem chooseIPHash_regenerated_from_source (ss : List Server) (x : Sel) :
    Gen.FactsC04IR.extractionFailed = false ∧ Gen.FactsC04IR.chooseIPHashIR ss x = choose ⟨.ipHash, ss⟩ x := by
  refine ⟨by decide, ?_⟩
  simp only [Gen.FactsC04IR.chooseIPHashIR, choose, hashIndex, beq_iff_eq, Int.natCast_eq_zero, List.nil_append,
    Int.toNat_natCast, Int.natCast_mod]

theorem chooseHeaderHash_regenerated_from_source (ss : List Server) (x : Sel) :
    Gen.FactsC04IR.extractionFailed = false ∧
      Gen.FactsC04IR.chooseHeaderHashIR ss x = choose ⟨.headerHash, ss⟩ x := by
  refine ⟨by decide, ?_⟩
  simp only [Gen.FactsC04IR.chooseHeaderHashIR, choose, hashIndex, beq_iff_eq, Int.natCast_eq_zero, List.nil_append,
    Int.toNat_natCast, Int.natCast_mod]

theorem validate_regenerated_from_source (sps : PoolSpec) :
    Gen.FactsC04IR.extractionFailed = false ∧ Gen.FactsC04IR.validateIR sps = validate sps :=
  ⟨by decide, LoadBalance.validate_regenerated_from_source sps⟩

/-! `Gen.FactsC04IRb`, `Gen.FactsC04IRp`: `NewLoadBalancer`, the five constructors, `createLoadBalancer`,
`LoadBalancer()` and `useService`, re-translated from their bodies on every run. -/

theorem newLoadBalancer_regenerated_from_source (policy : String) (ss : List Server) :
    Gen.FactsC04IRb.extractionFailed = false ∧ Gen.FactsC04IRb.newLoadBalancerIR policy ss = newLB policy ss := by
  refine ⟨by decide, ?_⟩
  -- with the constructor pushed into the model's `if` chain the two sides are the same chain
  simp only [Gen.FactsC04IRb.newLoadBalancerIR, newLB, Policy.ofString, Bool.or_eq_true, beq_iff_eq,
    apply_ite (LB.mk · ss)]

/-- every constructor stores the very list it is handed (so `lb.Servers` *is* the published list), and
the weighted one sums the positive weights only -/
theorem constructors_regenerated_from_source (ss : List Server) :
    Gen.FactsC04IRb.extractionFailed = false ∧
    Gen.FactsC04IRb.newRandomIR ss = (ss, 0) ∧ Gen.FactsC04IRb.newRoundRobinIR ss = (ss, 0) ∧
    Gen.FactsC04IRb.newIPHashIR ss = (ss, 0) ∧ Gen.FactsC04IRb.newHeaderHashIR ss = (ss, 0) ∧
    Gen.FactsC04IRb.newWeightedIR ss = (ss, totalWeight ss) := by
  refine ⟨by decide, rfl, rfl, rfl, rfl, ?_⟩
  simp [Gen.FactsC04IRb.newWeightedIR, newWeighted_regenerated_from_source_loop]

/-- `createLoadBalancer` publishes exactly one fresh balancer = `NewLoadBalancer(spec or {}, servers)`
(the model's `step (.store ss)`); `LoadBalancer()` returns the value of its one atomic load. -/
theorem createLoadBalancer_regenerated_from_source (lbspec : Option String) (ss : List Server) (cur : LB) :
    Gen.FactsC04IRp.extractionFailed = false ∧
    Gen.FactsC04IRp.createLoadBalancerIR lbspec ss = some (newLB (lbspec.getD "") ss) ∧
    Gen.FactsC04IRp.loadBalancerIR cur = cur := by
  refine ⟨by decide, ?_, rfl⟩
  simp only [Gen.FactsC04IRp.createLoadBalancerIR, createLoadBalancer_regenerated_from_source_loop]
  cases lbspec <;> rfl

/-- up to the order of the published list (which no clause of the property constrains): `srt` is an
arbitrary re-ordering, e.g. a `sort.Slice`, should the code contain one -/
theorem useService_regenerated_from_source (srt : List Server → List Server) (hsrt : ∀ l, (srt l).Perm l)
    (sps : PoolSpec) (insts : List Instance) :
    Gen.FactsC04IRp.extractionFailed = false ∧
      (Gen.FactsC04IRp.useServiceIR srt sps insts).Perm (useService sps insts) :=
  ⟨by decide, LoadBalance.useService_regenerated_from_source srt hsrt sps insts⟩

example : Gen.FactsC04IRp.useServiceIR id ⟨"svc", ["v2"], [⟨"static", 0, []⟩], ""⟩
    [⟨"i1", ["v1"], 0⟩, ⟨"i2", ["v1", "v2"], 5⟩] = [⟨"i2", 5, ["v1", "v2"]⟩] ∧
  Gen.FactsC04IRb.newLoadBalancerIR "bogus" [] = ⟨.roundRobin, []⟩ ∧
  Gen.FactsC04IRb.newWeightedIR [⟨"a", 2, []⟩, ⟨"b", -1, []⟩, ⟨"c", 3, []⟩] = ([⟨"a", 2, []⟩, ⟨"b", -1, []⟩, ⟨"c", 3, []⟩], 5) := by
  decide +kernel

/-! ### round robin across list replacement

The statement's fairness clause is about "the n servers"; when discovery replaces the list while
selectors run there are several lists. The exact claim that holds: **fairness per generation** — the
selections made on one published balancer (however they interleave with loads, selections on other
generations and further publications) obtained that balancer's counter values `0, 1, …, k−1`, so position
`j` of *its* list was chosen `⌊k/n⌋` or `⌈k/n⌉` times. Across generations nothing is promised (every new
balancer restarts at position 0). -/
theorem rr_fair_per_generation (policy : String) (ss0 : List Server) (evs : List Ev) (g : Nat) :
    let outs := onGen g (run (Pool.init policy ss0) evs)
    outs.map (·.counter) = List.range' 0 outs.length ∧
    ∀ (n j : Nat), 0 < n → j < n →
      (outs.filter (fun o => o.counter % n == j)).length = rrCount outs.length n j := by
  simp only
  have hc := gen_counters g evs (Pool.init policy ss0)
  have h0 : ctr (Pool.init policy ss0).gens g = 0 := by
    cases g <;> rfl
  rw [h0] at hc
  exact ⟨hc, count_mod_of_counters Out.counter hc⟩

/-- two generations interleaved: thread 0 stays on the old list (3 picks: counters 0,1,2), thread 1 on
the new one (2 picks: counters 0,1) -/
example :
    let evs : List Ev := [.load 0, .pick 0 {}, .store [⟨"x", 0, []⟩, ⟨"y", 0, []⟩], .load 1, .pick 1 {}, .pick 0 {},
      .pick 1 {}, .pick 0 {}]
    (onGen 0 (run (Pool.init "" [⟨"a", 0, []⟩, ⟨"b", 0, []⟩]) evs)).map (·.counter) = [0, 1, 2] ∧
    (onGen 1 (run (Pool.init "" [⟨"a", 0, []⟩, ⟨"b", 0, []⟩]) evs)).map (·.counter) = [0, 1] := by
  decide +kernel

/-- **Selection uses the LAST reported tagged instances with their LAST weights.** After any history of
discovery reports the balancer's list is `currentList` of the *last* report alone — nothing of an earlier
report survives (no remembered weights, no remembered membership); so every selection returns a member
of it, and weightedRandom never returns an instance whose last reported weight is not positive when some
last reported weight is. (The *order* of the list is that of the map iteration: round-robin fairness is
per generation and the hash policies are functions of (key, list) — a re-sorted list is a different but
equally admissible generation; the judge compares lists as multisets.) -/
theorem use_service_history_last_report (sps : PoolSpec) (rs : List (List Instance)) (r : List Instance)
    (policy : String) (x : Sel) :
    afterReports sps (rs ++ [r]) = currentList sps r ∧
    (∀ s, choose (newLB policy (afterReports sps (rs ++ [r]))) x = .srv s → s ∈ currentList sps r) ∧
    (∀ s, (∃ t ∈ currentList sps r, 0 < t.weight) →
      choose ⟨.weightedRandom, afterReports sps (rs ++ [r])⟩ x = .srv s → 0 < s.weight) := by
  rw [afterReports_concat, use_service_spec]
  exact ⟨rfl, fun s hs => choose_mem _ x hs, fun s hex hs => weighted_never_zero _ x hex hs⟩

/-- an instance drained to weight 0 by the second report is not selected any more, whatever the first
report said -/
example :
    let sps : PoolSpec := ⟨"svc", ["v1"], [], "weightedRandom"⟩
    afterReports sps [[⟨"a", ["v1"], 5⟩, ⟨"b", ["v1"], 5⟩], [⟨"a", ["v1"], 0⟩, ⟨"b", ["v1"], 5⟩]] =
      [⟨"a", 0, ["v1"]⟩, ⟨"b", 5, ["v1"]⟩] ∧
    choose ⟨.weightedRandom, [⟨"a", 0, ["v1"]⟩, ⟨"b", 5, ["v1"]⟩]⟩ { rnd := 0 } = .srv ⟨"b", 5, ["v1"]⟩ := by
  decide +kernel

/-! ### *which* generation a selection uses

`swap_linearizable` above only places the balancer among all generations published at any time of the
run, and `rr_fair_per_generation` speaks about counters only. The theorems below determine the generation
and the server. Helper lemmas: `Proofs/LoadBalanceSwap.lean`. -/

/-- The generation's list as the judge indexes it: `(ss0 :: every list published in the run)[o.gen]`. -/
theorem selection_list_index (policy : String) (ss0 : List Server) (pre post : List Ev)
    (t : Nat) (x : Sel) (o : Out)
    (h : (step (after (Pool.init policy ss0) pre) (.pick t x)).2 = some o) :
    ∃ ss, (ss0 :: stores (pre ++ .pick t x :: post))[o.gen]? = some ss ∧
      o.res = choose (newLB policy ss) { x with counter := o.counter } := by
  obtain ⟨lb, hlb, hres⟩ := pick_gen (Pool.init policy ss0) pre post t x o h
  change ((ss0 :: stores _).map (newLB policy))[o.gen]? = some lb at hlb
  rw [List.getElem?_map, Option.map_eq_some_iff] at hlb
  obtain ⟨ss, hss, rfl⟩ := hlb
  exact ⟨ss, hss, hres⟩

/-- **A selection uses the list that was current at its thread's latest load.** Split the run at any
pick of thread `t` (`evs = pre ++ pick t x :: post`). If that pick yields an output `o` (it is then the
element of `run … evs` right after the outputs of `pre`), thread `t` loaded in `pre`; with `pre1` the
events before its **latest** load, `o.gen` is the number of lists published in `pre1` and `o.res` is
`ChooseServer` of the balancer built from the last list published in `pre1` (the initial list if none),
evaluated with the counter fetched from that balancer. A list published after the load — in `pre2` or
`post` — cannot be the one used. -/
theorem selection_uses_generation_at_last_load (policy : String) (ss0 : List Server) (pre post : List Ev)
    (t : Nat) (x : Sel) (o : Out)
    (h : (step (after (Pool.init policy ss0) pre) (.pick t x)).2 = some o) :
    run (Pool.init policy ss0) (pre ++ .pick t x :: post) =
      run (Pool.init policy ss0) pre ++ o :: run (after (Pool.init policy ss0) (pre ++ [.pick t x])) post ∧
    ∃ pre1 pre2 ss, pre = pre1 ++ .load t :: pre2 ∧ NoLoad t pre2 ∧
      o.thread = t ∧ o.gen = (stores pre1).length ∧
      (ss0 :: stores pre1).getLast? = some ss ∧
      o.res = choose (newLB policy ss) { x with counter := o.counter } := by
  constructor
  · rw [List.append_cons, run_append, run_append]
    simp [run, h]
  obtain ⟨ss, hss, hres⟩ := selection_list_index policy ss0 pre [] t x o h
  rcases step_pick (after (Pool.init policy ss0) pre) t x with ⟨g, lb, c, hh, _, hs⟩ | hs <;>
    rw [hs] at h <;> cases h
  -- initially no thread holds a generation, so `t` has loaded
  rcases after_held t pre _ g hh with ⟨h0, _⟩ | ⟨pre1, pre2, rfl, hnl2, hg⟩
  · cases h0
  obtain rfl : g = (stores pre1).length := hg.trans (Nat.add_sub_cancel_left ..)
  refine ⟨pre1, pre2, ss, rfl, hnl2, rfl, rfl, ?_, hres⟩
  -- lists published after the load lie beyond index `(stores pre1).length`
  rw [stores_append, stores_append, List.append_assoc, ← List.cons_append,
    List.getElem?_append_left (Nat.lt_succ_self _)] at hss
  rw [List.getLast?_eq_getElem?, List.length_cons, Nat.add_sub_cancel]
  exact hss

/-- **Acceptance lemma for the judge's `windowOK`** (`Driver/C04.lean`, mode `swap`): the harness reports
for each selection the window `a … b` of generations that were current while it ran; the generation the
model's selection uses (`o.gen`, fixed at the thread's load) lies in every window that contains it, and
the url it returns (`none` for a nil server) comes from that generation's list — so `windowOK` accepts
the model's own behaviour, for every policy, schedule and window around `o.gen`. -/
theorem windowOK_of_run (policy : String) (ss0 : List Server) (pre post : List Ev)
    (t : Nat) (x : Sel) (o : Out)
    (h : (step (after (Pool.init policy ss0) pre) (.pick t x)).2 = some o)
    (hnp : o.res ≠ .panic) (a b : Nat) (ha : a ≤ o.gen) (hb : o.gen ≤ b) :
    windowOK ((ss0 :: stores (pre ++ .pick t x :: post)).map (fun l => l.map (·.url))) a b (resUrl o.res)
      = true := by
  obtain ⟨ss, hss, hres⟩ := selection_list_index policy ss0 pre post t x o h
  refine windowOK_of_gen _ a b o.gen (ss.map (·.url)) _ ha hb (by rw [List.getElem?_map, hss]; rfl) ?_
  rw [hres] at hnp ⊢
  rcases choose_of_ne_panic hnp with ⟨he, hch⟩ | ⟨s, hs, hch⟩ <;> rw [hch]
  · rw [show ss = [] from he]; rfl
  · exact List.contains_iff_mem.mpr (List.mem_map_of_mem (f := (·.url)) hs)

/-- **Round robin per generation, on servers** (strengthens `rr_fair_per_generation`, which is about
counters only and holds for every policy): under the round-robin policy every selection made on
generation `g` returns the server at position `counter % n` of **that generation's list** — so, with
`rr_fair_per_generation`, position `j` of generation `g`'s list is returned ⌊k/n⌋ or ⌈k/n⌉ times among the
`k` selections made on `g`, whatever loads, picks on other generations and publications are interleaved. -/
theorem rr_fair_per_generation_servers (policy : String) (hp : Policy.ofString policy = .roundRobin)
    (ss0 : List Server) (evs : List Ev) (g : Nat)
    (hk : (onGen g (run (Pool.init policy ss0) evs)).length < 9223372036854775808) :
    ∀ o ∈ onGen g (run (Pool.init policy ss0) evs),
      ∃ ss, (ss0 :: stores evs)[g]? = some ss ∧
        (ss = [] → o.res = .nil) ∧
        (∀ hn : 0 < ss.length, o.res = .srv (ss[o.counter % ss.length]'(Nat.mod_lt _ hn))) ∧
        ∀ j, j < ss.length →
          ((onGen g (run (Pool.init policy ss0) evs)).filter (fun o' => o'.counter % ss.length == j)).length
            = rrCount (onGen g (run (Pool.init policy ss0) evs)).length ss.length j := by
  intro o ho
  obtain ⟨hmem, hgen⟩ := List.mem_filter.mp ho
  have hfair := rr_fair_per_generation policy ss0 evs g
  -- the counter is below the number of selections on g
  have hcnt := List.mem_range'_1.mp (hfair.1 ▸ List.mem_map_of_mem (f := Out.counter) ho)
  obtain ⟨pre, t, x, post, rfl, h⟩ := mem_run hmem
  obtain ⟨ss, hss, hres⟩ := selection_list_index policy ss0 pre post t x o h
  rw [beq_iff_eq.mp hgen] at hss
  rw [newLB, hp] at hres
  refine ⟨ss, hss, fun he => ?_, fun hn => ?_, fun j hj => hfair.2 ss.length j (by omega) hj⟩
  · rw [hres, he]; rfl
  · rw [hres]
    exact rr_choose ss _ (by simp only; omega) hn

/-! Non-vacuity and sharpness. Two generations, a selection that spans the swap (thread 0 loads before the
publication and picks after it): it still returns a server of the **old** list; thread 1, which loads
after the publication, gets the new list. -/
private def sA : Server := ⟨"a", 1, []⟩
private def sB : Server := ⟨"b", 1, []⟩
private def sC : Server := ⟨"c", 1, []⟩
private def evSwap : List Ev := [.load 0, .store [sC], .load 1, .pick 0 {}, .pick 1 {}, .pick 0 {}]

example : (run (Pool.init "roundRobin" [sA, sB]) evSwap).map (fun o => (o.thread, o.gen, o.counter, o.res)) =
    [(0, 0, 0, .srv sA), (1, 1, 0, .srv sC), (0, 0, 1, .srv sB)] := by decide +kernel
example : (step (after (Pool.init "roundRobin" [sA, sB]) [.load 0, .store [sC], .load 1]) (.pick 0 {})).2
    = some ⟨0, 0, 0, .srv sA⟩ := by decide +kernel
/-- the window check is sharp: the spanning selection's server is *not* in generation 1 alone -/
example : windowOK [["a", "b"], ["c"]] 0 1 (some "a") = true ∧ windowOK [["a", "b"], ["c"]] 1 1 (some "a") = false := by
  decide +kernel
/-- `rr_fair_per_generation_servers` is false without the policy hypothesis: under "random" (with the
environment's `rnd = 0`) three selections on one generation all return position 0, while the counter-only
statement `rr_fair_per_generation` still holds for that run. -/
example : (run (Pool.init "random" [sA, sB]) [.load 0, .pick 0 {}, .pick 0 {}, .pick 0 {}]).map (·.res) =
    [.srv sA, .srv sA, .srv sA] ∧
    (run (Pool.init "random" [sA, sB]) [.load 0, .pick 0 {}, .pick 0 {}, .pick 0 {}]).map (·.counter) = [0, 1, 2] := by
  decide +kernel

/-! ### the `lb` judge's `useService:*` predicates accept the model -/

/-- **the spec's lists are the model's lists**, for every pool spec and every history of discovery reports: the
declarative `currentList` per report (what `specListsOK`, `selOK specLists`, `winSpec` are evaluated against)
is what the model's `useService` publishes (`agreeLists`, `winModel`) and what the history semantics
`afterReports` leaves after each prefix (`selModel`). Hence a run that agrees with the model satisfies the three
`useService:*` / `swap:*` list clauses, and vice versa. -/
theorem swap_spec_lists_are_model_lists (sps : PoolSpec) (gens : List (List Instance)) :
    sps.servers :: gens.map (useService sps) = sps.servers :: gens.map (currentList sps) ∧
    histLists sps gens = sps.servers :: gens.map (currentList sps) := by
  have h1 : gens.map (useService sps) = gens.map (currentList sps) :=
    List.map_congr_left (fun g _ => use_service_spec sps g)
  refine ⟨by rw [h1], ?_⟩
  unfold histLists
  rw [List.range_succ_eq_map, List.map_cons, List.map_map]
  congr 1
  apply List.ext_getElem
  · simp
  · intro i h1 h2
    simp only [List.length_map, List.length_range] at h1 h2
    simp only [List.getElem_map, List.getElem_range, Function.comp, Nat.succ_eq_add_one]
    rw [List.take_add_one, List.getElem?_eq_getElem h2, Option.toList_some, afterReports_concat,
      use_service_spec]

/-- **`selOK` and `wSelOK` accept the model**: whatever list every report left (`ls`), whatever the policy, and
whatever selection inputs (`xs[i]` = the selections made after report `i`), the strings the model's `choose`
produces on those lists satisfy the judge's two selection predicates — provided no selection panicked
(`no_panic` under `Contract`) and, for `wSelOK`, `shown` tells servers of one list apart only up to weight
positivity (true for the harness' `url|weight`). -/
theorem selOK_accepts_model (shown : Server → String) (policy : String) (ls : List (List Server))
    (xs : List (List Sel))
    (hnp : ∀ i x, x ∈ xs.getD i [] → choose (newLB policy (ls.getD i [])) x ≠ .panic) :
    selOK shown ls (xs.mapIdx (fun i l => l.map (fun x => showRes shown (choose (newLB policy (ls.getD i [])) x))))
      = true := by
  unfold selOK
  simp only [List.all_eq_true, List.mem_range, List.length_mapIdx]
  intro i _ e he
  obtain ⟨x, hx, rfl⟩ := mem_getD_mapIdx_map _ xs he
  rcases choose_of_ne_panic (hnp i x hx) with ⟨hnil, hc⟩ | ⟨s, hs, hc⟩ <;> rw [hc]
  · rw [show ls.getD i [] = [] from hnil]
    rfl
  · have hs : s ∈ ls.getD i [] := hs
    rw [if_neg (by rw [List.isEmpty_iff]; exact List.ne_nil_of_mem hs)]
    exact List.contains_iff_mem.mpr (List.mem_map_of_mem hs)

theorem wSelOK_accepts_model (shown : Server → String) (ls : List (List Server)) (xs : List (List Sel))
    (hnp : ∀ i x, x ∈ xs.getD i [] → choose ⟨.weightedRandom, ls.getD i []⟩ x ≠ .panic) :
    wSelOK shown true ls
      (xs.mapIdx (fun i l => l.map (fun x => showRes shown (choose ⟨.weightedRandom, ls.getD i []⟩ x)))) = true := by
  unfold wSelOK
  rw [Bool.not_true, Bool.false_or, List.all_eq_true]
  intro i _
  dsimp only
  by_cases hany : (ls.getD i []).any (fun s => decide (s.weight > 0)) = true
  · rw [hany, Bool.not_true, Bool.false_or, List.all_eq_true]
    intro e he
    obtain ⟨x, hx, rfl⟩ := mem_getD_mapIdx_map _ xs he
    obtain ⟨t, ht, hw⟩ := List.any_eq_true.mp hany
    have hex : ∃ s ∈ ls.getD i [], 0 < s.weight := ⟨t, ht, of_decide_eq_true hw⟩
    rcases choose_of_ne_panic (hnp i x hx) with ⟨hnil, _⟩ | ⟨s, hs, hc⟩
    · rw [show ls.getD i [] = [] from hnil] at ht
      cases ht
    · have hpos := weighted_never_zero _ x hex hc
      rw [hc]
      exact List.any_eq_true.mpr ⟨s, List.mem_filter.mpr ⟨hs, decide_eq_true hpos⟩, beq_self_eq_true _⟩
  · rw [Bool.not_eq_true] at hany
    rw [hany]
    rfl

/-- the selection predicates are not vacuous: after a report that drained `a` to weight 0, a selection of `a`
(known only from the earlier report) is refused by both -/
example :
    let ls : List (List Server) := [[⟨"a", 5, []⟩], [⟨"a", 0, []⟩, ⟨"b", 5, []⟩]]
    let shown : Server → String := fun s => s.url ++ "|" ++ toString s.weight
    selOK shown ls [["a|5"], ["a|5"]] = false ∧ wSelOK shown true ls [["a|5"], ["a|0"]] = false ∧
    selOK shown ls [["a|5"], ["b|5", "a|0"]] = true ∧ wSelOK shown true ls [["a|5"], ["b|5"]] = true := by
  decide +kernel

end EgVerif.C04
