import EgVerif.Proofs.SpecGuards
import EgVerif.Gen.FactsC13
import EgVerif.Proofs.SpecGuardsIR
import EgVerif.Spec.SpecGuards
/-!
# C13 — configs accepted by validation instantiate and serve requests without panicking

`KValid` is what validation accepts, `KInitOK` / `KHandleOK` are the conjunctions of the negated
guards of every panic site reachable from Init / Inherit / InjectResiliencePolicy / Handle
(`Model/SpecGuards.lean`). All theorems hold for **every** document tree and **every** oracle.

Where the unchanged (or repaired) code really satisfies the property the theorem is
`valid_implies_init_ok_K`; where it does not (open known findings) the negation is proved with a
concrete witness and the positive statement is kept as `…_partial` with the excluding hypothesis.
-/
namespace EgVerif.C13
open EgVerif.SpecGuards

theorem all_imp {α} {p q : α → Bool} {l : List α} (h : ∀ a ∈ l, p a = true → q a = true)
    (hl : l.all p = true) : l.all q = true := by
  rw [List.all_eq_true] at hl ⊢
  exact fun a ha => h a ha (hl a ha)

theorem smValid_init (o : Oracle) (j : J) : smValid o j = true → smInitOK o j = true :=
  fun h => (Bool.and_eq_true_iff.mp h).1

/-- ResponseAdaptor (repaired `Validate`): accepted ⇒ none of the four `Init` panics. -/
theorem valid_implies_init_ok_ResponseAdaptor (j : J) :
    respAdaptorValid j = true → respAdaptorInitOK j = true :=
  fun h => (Bool.and_eq_true_iff.mp h).2

/-- RequestAdaptor has no `Validate()`: the full statement
`reqAdaptorValid o j = true → reqAdaptorInitOK j = true` is FALSE (witness below, open finding
`panic:Init:RequestAdaptor.*`). Proved part: specs that leave `decompress` empty and use gzip. -/
theorem valid_implies_init_ok_RequestAdaptor_partial (o : Oracle) (j : J)
    (hd : j.sget "decompress" = "") (hc : j.sget "compress" = "" ∨ j.sget "compress" = "gzip") :
    reqAdaptorValid o j = true → reqAdaptorInitOK j = true := by
  intro _
  unfold reqAdaptorInitOK adaptorGuardsOK
  simpa [hd] using hc

private def oTrue : Oracle := ⟨fun _ => true, fun _ => some 1, fun _ => true, fun _ _ _ => true, fun _ => true⟩

/-- negation witness: `compress: zip` is accepted and panics in `Init`. -/
theorem requestAdaptor_violates :
    ∃ j, reqAdaptorValid oTrue j = true ∧ reqAdaptorInitOK j = false :=
  ⟨.obj [("name", .str "a"), ("kind", .str "RequestAdaptor"), ("compress", .str "zip")], by decide +kernel⟩

/-! ### RateLimiter (repaired `Policy.Validate`) -/

/-- `Policy.Validate` ⇒ the divisor of `acquirePermission` is not zero -/
theorem rlPolicyOK_periodNZ (o : Oracle) (p : J) : rlPolicyOK o p = true → rlPeriodNZ o p = true := by
  unfold rlPolicyOK rlPeriodNZ
  intro h
  simp only [Bool.and_eq_true, Bool.or_eq_true, decide_eq_true_eq, bne_iff_ne] at h ⊢
  exact h.2.imp_right fun h0 => by omega

theorem valid_implies_init_ok_RateLimiter (o : Oracle) (j : J) :
    rateLimiterValid o j = true → rateLimiterInitOK o j = true ∧ rateLimiterHandleOK o j = true := by
  unfold rateLimiterValid rateLimiterInitOK rateLimiterHandleOK
  intro h
  simp only [Bool.and_eq_true] at h
  refine ⟨all_imp (fun u _ hu => smValid_init o _ (Bool.and_eq_true_iff.mp hu).2) h.1.2, ?_⟩
  rw [List.all_eq_true]
  intro u _
  -- the policy a rule resolves to is one of the validated policies
  cases hf : rlFind j u with
  | none => rfl
  | some p => exact rlPolicyOK_periodNZ o p (List.all_eq_true.mp h.1.1 p (List.mem_of_find?_eq_some hf))

/-! ### Validator (repaired `Spec.Validate`) -/

theorem valid_implies_init_ok_Validator (o : Oracle) (j : J) :
    validatorValid o j = true → validatorHandleOK j = true := by
  intro h
  simp only [validatorValid, signatureOK, validatorHandleOK, Bool.and_eq_true, Bool.or_eq_true] at h ⊢
  exact h.2.imp_right fun hs => hs.2

/-! ### builders (repaired `builder.Spec.Validate`) -/

theorem valid_implies_init_ok_Builder (o : Oracle) (j : J) :
    builderValid o j = true → builderInitOK o j = true := by
  unfold builderValid builderInitOK
  intro h
  simp only [Bool.and_eq_true, Bool.or_eq_true] at h ⊢
  -- an empty template needs a source namespace; a non-empty one has been parsed
  rcases h.2 with ht | ht
  · exact .inl (by simpa [ht] using h.1.1.2)
  · exact .inr ht

/-! ### Proxy: every `regexp.MustCompile` of the request matchers is guarded by `format=regexp` -/

theorem matcherOK_init (o : Oracle) (f : J) : matcherOK o f = true → matcherInitOK o f = true := by
  intro h
  simp only [matcherOK, matcherInitOK, Bool.and_eq_true] at h ⊢
  exact ⟨all_imp (fun kv _ => smValid_init o kv.2) h.1.1.2,
    all_imp (fun u _ hu => smValid_init o _ (Bool.and_eq_true_iff.mp hu).2) h.1.2⟩

theorem poolOK_init (o : Oracle) (p : J) : poolOK o p = true → poolInitOK o p = true := by
  intro h
  simp only [poolOK, poolInitOK, Bool.and_eq_true, Bool.or_eq_true] at h ⊢
  exact h.1.1.1.1.1.1.1.imp_right (matcherOK_init o _)

theorem valid_implies_init_ok_Proxy (o : Oracle) (j : J) :
    proxyValid o j = true → proxyInitOK o j = true := by
  intro h
  simp only [proxyValid, proxyInitOK, Bool.and_eq_true, Bool.or_eq_true] at h ⊢
  exact ⟨all_imp (fun p _ => poolOK_init o p) h.1.1, h.2.imp_right fun hm => poolOK_init o _ hm.1.1⟩

/-- `filters.NewSpec` accepts ⇒ `Create`+`Init`/`Inherit` of the filter does not hit a modelled
guard — for every first-wave kind except RequestAdaptor (open finding). -/
theorem valid_implies_init_ok_filter (o : Oracle) (j : J) (hk : j.sget "kind" ≠ "RequestAdaptor") :
    filterValid o j = true → filterInitOK o j = true := by
  unfold filterValid kindValid filterInitOK
  intro h
  rw [Bool.and_eq_true] at h
  replace h := h.2
  dsimp only
  -- both sides are chains of `if`s over the kind that test the same four kinds first: walk them in step,
  -- with the kind a variable so that no string is compared
  generalize j.sget "kind" = k at hk h ⊢
  by_cases hP : (k == "Proxy") = true
  · rw [if_pos hP] at h ⊢
    exact valid_implies_init_ok_Proxy o j h
  rw [if_neg hP, if_neg (mt eq_of_beq hk)] at h ⊢
  by_cases hR : (k == "ResponseAdaptor") = true
  · rw [if_pos hR] at h ⊢
    exact valid_implies_init_ok_ResponseAdaptor j h
  rw [if_neg hR] at h ⊢
  by_cases hL : (k == "RateLimiter") = true
  · rw [if_pos hL] at h ⊢
    exact (valid_implies_init_ok_RateLimiter o j h).1
  rw [if_neg hL] at h ⊢
  -- of the remaining kinds only the builders have a guard; `h` still tests four other kinds before them
  split
  · next hB =>
    refine valid_implies_init_ok_Builder o j ?_
    rw [Bool.or_eq_true, beq_iff_eq, beq_iff_eq] at hB
    rcases hB with rfl | rfl <;> simpa using h
  · rfl

/-- … and `Handle` does not hit a modelled guard inside the filter — for every first-wave kind
(Fallback: repaired `Handle`; Proxy: repaired weightedRandom, 7c1d2bb). The remaining Handle
hazards are pipeline-level (`pipelineHandleOK`: namespace without request, Retry overflow). -/
theorem valid_implies_handle_ok_filter (o : Oracle) (j : J) :
    filterValid o j = true → filterHandleOK o j = true := by
  unfold filterValid filterHandleOK
  intro h
  rw [Bool.and_eq_true] at h
  by_cases hL : j.sget "kind" = "RateLimiter"
  · have hv : rateLimiterValid o j = true := by simpa [kindValid, hL] using h.2
    simpa [hL] using (valid_implies_init_ok_RateLimiter o j hv).2
  by_cases hV : j.sget "kind" = "Validator"
  · have hv : validatorValid o j = true := by simpa [kindValid, hV] using h.2
    simpa [hV] using valid_implies_init_ok_Validator o j hv
  · simp [hL, hV]

/-- Retry (repaired `RetryPolicy.Validate`): accepted ⇒ `0 ≤ randomizationFactor ≤ 1`, hence the
argument of `rand.Intn` is ≥ 1; that it also fits an int64 is `retry_valid_no_overflow` below. -/
theorem retry_factor_range (o : Oracle) (p : J) (m : Int) (e : Nat)
    (hf : p.get "randomizationFactor" = .num m e) :
    retryValid o p = true → 0 ≤ m ∧ m ≤ (10 : Int) ^ e := by
  unfold retryValid
  intro h
  simp only [Bool.and_eq_true, hf, decide_eq_true_eq] at h
  exact h.1.2

private def oBig : Oracle := ⟨fun _ => true, fun _ => some 7200000000000000000, fun _ => true, fun _ _ _ => true, fun _ => true⟩

/-- **Retry overflow, repaired** (`fixes/C13-retry-overflow.patch`): every accepted Retry policy keeps the
argument of `rand.Intn` in `RetryPolicy.Wrap` below 2^63 at every attempt — for every document and every
duration oracle. (Before the repair this was an open finding: `retry_overflow_unrepaired`.) -/
theorem retry_valid_no_overflow (o : Oracle) (p : J) :
    retryValid o p = true → retryNoOverflow o p = true := by
  unfold retryValid retryFits retryNoOverflow
  intro h
  simp only [Bool.and_eq_true] at h
  obtain ⟨⟨_, hrange⟩, hfit⟩ := h
  dsimp only at hfit ⊢
  -- `w`: the first wait, `k`: the number of growth steps
  generalize hw : (if durNs o (p.sget "waitDuration") ≤ 0 then (500000000 : Int) else _) = w at hfit ⊢
  replace hw : 0 ≤ w := by
    rw [← hw]
    split <;> omega
  generalize _ - 1 = k at hfit ⊢
  generalize (_ == "exponential") = grow at hfit ⊢
  cases hf : p.get "randomizationFactor" with
  | num m e =>
    simp only [hf, Bool.and_eq_true, decide_eq_true_eq] at hrange hfit
    cases grow
    · simp only [Bool.false_eq_true, if_false, decide_eq_true_eq] at hfit ⊢
      exact fits_core _ _ _ _ hw hrange.2 hfit
    · simp only [if_true, decide_eq_true_eq] at hfit ⊢
      -- the same inequality for the last wait `w * 1.5 ^ k`, up to the order of the factors
      simpa only [Int.mul_assoc, Int.mul_comm, Int.mul_left_comm] using
        fits_core _ _ _ _ (Int.mul_nonneg hw (Int.pow_nonneg (by omega))) hrange.2 hfit
  | _ => rfl

/-- the witness of the former open finding `C13-retry-overflow` (2000000h, factor 1): the repaired validation
rejects it; without the new conjunct it was accepted and `rand.Intn` got a negative argument. -/
theorem retry_overflow_unrepaired :
    ∃ p, retryValid oBig p = false ∧ retryFits oBig p = false ∧ retryNoOverflow oBig p = false :=
  ⟨.obj [("name", .str "r"), ("kind", .str "Retry"), ("waitDuration", .str "2000000h"),
         ("randomizationFactor", .num 1 0)], by decide +kernel⟩

/-- non-vacuity: an ordinary policy (here with the oracle's 1 ns wait and 200 exponential attempts) is accepted -/
example : retryValid oTrue (.obj [("name", .str "r"), ("kind", .str "Retry"), ("maxAttempts", .num 50 0),
    ("backOffPolicy", .str "exponential"), ("randomizationFactor", .num 5 1)]) = true := by decide +kernel

theorem pipeline_filters_valid (o : Oracle) (j : J) :
    pipelineValid o j = true → (j.aget "filters").all (filterValid o) = true := by
  unfold pipelineValid
  intro h
  simp only [Bool.and_eq_true] at h
  exact h.1.1.1.2

/-- Full statement `pipelineValid o j = true → pipelineInitOK o j = true` is FALSE (dangling /
wrong-kind `retryPolicy`, `circuitBreakerPolicy`; RequestAdaptor guards): witnesses below, open
findings. Proved: an accepted pipeline whose resilience references resolve
(`filterInjectOK`) and whose RequestAdaptors satisfy their guards instantiates without panic. -/
theorem valid_implies_init_ok_Pipeline_partial (o : Oracle) (j : J)
    (hinj : (j.aget "filters").all (filterInjectOK (j.aget "resilience")) = true)
    (hra : ∀ f ∈ j.aget "filters", f.sget "kind" = "RequestAdaptor" → adaptorGuardsOK f = true) :
    pipelineValid o j = true → pipelineInitOK o j = true := by
  intro h
  unfold pipelineInitOK
  rw [Bool.and_eq_true]
  refine ⟨all_imp (fun f hf hv => ?_) (pipeline_filters_valid o j h), hinj⟩
  by_cases hk : f.sget "kind" = "RequestAdaptor"
  · unfold filterInitOK reqAdaptorInitOK
    simp [hk, hra f hf hk]
  · exact valid_implies_init_ok_filter o f hk hv

/-- Handle: every filter of an accepted pipeline is free of modelled filter-level Handle guards.
(`pipelineHandleOK` as a whole is FALSE in general: namespace / Retry overflow witnesses.) -/
theorem valid_implies_handle_ok_Pipeline_partial (o : Oracle) (j : J) :
    pipelineValid o j = true → (j.aget "filters").all (filterHandleOK o) = true := by
  intro h
  exact all_imp (fun f _ => valid_implies_handle_ok_filter o f) (pipeline_filters_valid o j h)

/-- **Retry-overflow hazard closed at pipeline level** (repaired validation): in an accepted pipeline every
Proxy pool's retry policy — whichever resilience entry the name resolves to — satisfies `retryNoOverflow`;
the former Handle hazard `Retry.waitDuration-overflow` cannot fail for an accepted document. -/
theorem valid_implies_retry_ok_Pipeline (o : Oracle) (j : J) :
    pipelineValid o j = true → (j.aget "filters").all (filterRetryOK o (j.aget "resilience")) = true := by
  intro h
  simp only [pipelineValid, Bool.and_eq_true, List.all_eq_true] at h
  simp only [filterRetryOK, proxyRetryOK, poolRetryOK, Bool.or_eq_true, List.all_eq_true]
  refine fun f _ => .inr fun pl _ => ?_
  split
  · next q hq =>
    -- the entry the name resolves to is one of the validated policies
    have hpv := h.2 q (List.mem_reverse.mp (List.mem_of_find?_eq_some hq))
    by_cases hk : q.sget "kind" = "Retry"
    · have hv : metaOK q = true ∧ retryValid o q = true := by simpa [policyValid, hk] using hpv
      simp [retry_valid_no_overflow o q hv.2]
    · simp [hk]
  · rfl

private def proxyDangling : J :=
  .obj [("filters", .arr [.obj [("name", .str "a"), ("kind", .str "Proxy"),
    ("pools", .arr [.obj [("retryPolicy", .str "nope"),
      ("servers", .arr [.obj [("url", .str "http://127.0.0.1:1")]])]])]])]

/-- negation witness: `retryPolicy: nope` with no such policy is accepted, panics in Inject. -/
theorem pipeline_inject_violates :
    pipelineValid oTrue proxyDangling = true ∧ pipelineInitOK oTrue proxyDangling = false := by decide +kernel

private def nsPipeline : J :=
  .obj [("flow", .arr [.obj [("filter", .str "a"), ("namespace", .str "ns1")]]),
        ("filters", .arr [.obj [("name", .str "a"), ("kind", .str "Mock"), ("rules", .arr [])]])]

/-- negation witness: a flow node with a namespace nobody filled is accepted; the filter's
unchecked `GetInputRequest().(*httpprot.Request)` panics. -/
theorem pipeline_namespace_violates :
    pipelineValid oTrue nsPipeline = true ∧ pipelineHandleOK oTrue nsPipeline = false := by decide +kernel

theorem globalFilter_parts_valid (o : Oracle) (j : J) (h : globalFilterValid o j = true) :
    pipelineValid o (j.get "beforePipeline") = true ∧ pipelineValid o (j.get "afterPipeline") = true := by
  unfold globalFilterValid at h
  rwa [Bool.and_eq_true] at h

/-- Full statement `globalFilterValid o j = true → globalFilterInitOK o j = true` is FALSE for the same
reasons as for Pipeline (open findings: Proxy resilience references, RequestAdaptor guards; witness
below). Proved: an accepted GlobalFilter instantiates (`Init` / `Inherit` → `reload`) without hitting a
modelled guard when, in every part **that is instantiated** (non-empty flow), the resilience references
resolve and the RequestAdaptors satisfy their guards. A part with an empty flow is never instantiated,
whatever its filters are. -/
theorem valid_implies_init_ok_GlobalFilter_partial (o : Oracle) (j : J)
    (hinj : ∀ k ∈ ["beforePipeline", "afterPipeline"], gfActive (j.get k) = true →
      ((j.get k).aget "filters").all (filterInjectOK ((j.get k).aget "resilience")) = true)
    (hra : ∀ k ∈ ["beforePipeline", "afterPipeline"], gfActive (j.get k) = true →
      ∀ f ∈ (j.get k).aget "filters", f.sget "kind" = "RequestAdaptor" → adaptorGuardsOK f = true) :
    globalFilterValid o j = true → globalFilterInitOK o j = true := by
  intro h
  -- a part is instantiated only when its flow is not empty; then it is a pipeline
  have part : ∀ k ∈ ["beforePipeline", "afterPipeline"],
      pipelineValid o (j.get k) = true → gfPartInitOK o (j.get k) = true := by
    intro k hk hv
    unfold gfPartInitOK
    cases hact : gfActive (j.get k)
    · rfl
    · exact valid_implies_init_ok_Pipeline_partial o _ (hinj k hk hact) (hra k hk hact) hv
  obtain ⟨hb, ha⟩ := globalFilter_parts_valid o j h
  unfold globalFilterInitOK
  rw [Bool.and_eq_true]
  exact ⟨part _ (.head _) hb, part _ (.tail _ (.head _)) ha⟩

/-- Handle: every filter of every part of an accepted GlobalFilter is free of modelled filter-level
Handle guards (the flow-namespace / Retry-overflow hazards of `pipelineHandleOK` remain, as for Pipeline). -/
theorem valid_implies_handle_ok_GlobalFilter_partial (o : Oracle) (j : J) (h : globalFilterValid o j = true) :
    ((j.get "beforePipeline").aget "filters").all (filterHandleOK o) = true ∧
    ((j.get "afterPipeline").aget "filters").all (filterHandleOK o) = true :=
  (globalFilter_parts_valid o j h).imp (valid_implies_handle_ok_Pipeline_partial o _)
    (valid_implies_handle_ok_Pipeline_partial o _)

private def gfDangling (flow : List J) : J :=
  .obj [("beforePipeline", .obj [("flow", .arr flow), ("filters", .arr [.obj [("name", .str "a"), ("kind", .str "Proxy"),
    ("pools", .arr [.obj [("retryPolicy", .str "nope"),
      ("servers", .arr [.obj [("url", .str "http://127.0.0.1:1")]])]])]])])]

/-- negation witness + the role of the flow: the dangling `retryPolicy` is accepted; with a flow the
before pipeline is instantiated and `InjectResiliencePolicy` panics, without a flow nothing is instantiated. -/
theorem globalFilter_inject_violates :
    globalFilterValid oTrue (gfDangling [.obj [("filter", .str "a")]]) = true ∧
    globalFilterInitOK oTrue (gfDangling [.obj [("filter", .str "a")]]) = false ∧
    gfInitGuard oTrue (gfDangling [.obj [("filter", .str "a")]]) = some ("Inject", "Proxy.retryPolicy") ∧
    globalFilterValid oTrue (gfDangling []) = true ∧ globalFilterInitOK oTrue (gfDangling []) = true := by decide +kernel

/-- non-vacuity: an accepted GlobalFilter with both parts instantiated and all guards satisfied -/
example : globalFilterValid oTrue (.obj [
      ("beforePipeline", .obj [("flow", .arr [.obj [("filter", .str "a")]]),
        ("filters", .arr [.obj [("name", .str "a"), ("kind", .str "Mock"), ("rules", .arr [])]])]),
      ("afterPipeline", .obj [("flow", .arr [.obj [("filter", .str "b")], .obj [("filter", .str "END")]]),
        ("filters", .arr [.obj [("name", .str "b"), ("kind", .str "Fallback"), ("mockCode", .num 200 0)]])])]) = true ∧
    globalFilterInitOK oTrue (.obj [
      ("beforePipeline", .obj [("flow", .arr [.obj [("filter", .str "a")]]),
        ("filters", .arr [.obj [("name", .str "a"), ("kind", .str "Mock"), ("rules", .arr [])]])]),
      ("afterPipeline", .obj [("flow", .arr [.obj [("filter", .str "b")], .obj [("filter", .str "END")]]),
        ("filters", .arr [.obj [("name", .str "b"), ("kind", .str "Fallback"), ("mockCode", .num 200 0)]])])]) = true := by
  decide +kernel

/-- **An accepted HTTPServer spec builds its mux without panicking** (full statement, every document and
oracle): the only panic site of `mux.reload` is `regexp.MustCompile` in `Header.initHeaderRoute`, and
`format=regexp` on `Header.regexp` has already compiled that very string. -/
theorem valid_implies_init_ok_HTTPServer (o : Oracle) (j : J) :
    httpServerValid o j = true → httpServerInitOK o j = true := by
  intro h
  simp only [httpServerValid, hsRuleOK, hsPathOK, hsHeaderOK, Bool.and_eq_true, List.all_eq_true] at h
  simp only [httpServerInitOK, hsPathInitOK, List.all_eq_true]
  -- rule, path, header: at each level validation contains the check of the level below
  exact fun r hr p hp hd hh => (((h.1.2 r hr).2 p hp).1.2 hd hh).1.2

private def hsDoc (re : String) : J :=
  .obj [("port", .num 10080 0), ("keepAlive", .bool true), ("https", .bool false),
    ("rules", .arr [.obj [("host", .str "a.test"), ("paths", .arr [.obj [("pathPrefix", .str "/a"),
      ("rewriteTarget", .str "/r"), ("backend", .str "b0"),
      ("headers", .arr [.obj [("key", .str "X-A"), ("regexp", .str re)]])]])]])]

/-- non-vacuity, and the guard is the one that matters: with an oracle that refuses the header regexp the
same document is rejected. -/
example : httpServerValid oTrue (hsDoc "^1$") = true ∧ httpServerInitOK oTrue (hsDoc "^1$") = true ∧
    httpServerValid ⟨fun _ => false, fun _ => some 1, fun _ => true, fun _ _ _ => true, fun _ => true⟩ (hsDoc "(") = false := by
  decide +kernel

/-- **An accepted MQTTProxy spec starts its broker without panicking** (repaired: `Spec.Validate` of
`fixes/C13-mqttproxy-rules.patch` runs the very `getPipelineMap` that `newBroker` turns into a panic, after
checking that every rule has a `when`). Full statement, every document. -/
theorem valid_implies_init_ok_MQTTProxy (j : J) : mqttProxyValid j = true → mqttProxyInitOK j = true :=
  fun h => (Bool.and_eq_true_iff.mp h).2

/-- The code as found (no `Validate()` on the MQTTProxy spec) violates the property, three ways: a rule
without `when` (nil dereference in `getPipelineMap`), an unknown packet type and a repeated packet type
(`panic("create pipeline map failed …")` in `newBroker`) are all accepted. Replayed on the real code:
`corpus/C13/mqtt.jsonl` 9301–9303. -/
theorem mqttProxy_unrepaired_violates :
    (mqttProxyValidUnrepaired (.obj [("port", .num 0 0), ("rules", .arr [.obj [("pipeline", .str "p")]])]) = true ∧
      mqttRuleGuard [.obj [("pipeline", .str "p")]] [] = some "MQTTProxy.rules.when-missing") ∧
    (mqttProxyValidUnrepaired (.obj [("rules", .arr [.obj [("when", .obj [("packetType", .str "publish")])]])]) = true ∧
      mqttRuleGuard [.obj [("when", .obj [("packetType", .str "publish")])]] [] = some "MQTTProxy.rules.unknown-packet-type") ∧
    mqttRuleGuard [.obj [("when", .obj [("packetType", .str "Publish")])],
                   .obj [("when", .obj [("packetType", .str "Publish")])]] [] = some "MQTTProxy.rules.repeated-packet-type" := by
  decide +kernel

/-- non-vacuity: a proxy routing three packet types is accepted -/
example : mqttProxyValid (.obj [("port", .num 1883 0), ("rules", .arr [
    .obj [("when", .obj [("packetType", .str "Connect")]), ("pipeline", .str "auth")],
    .obj [("when", .obj [("packetType", .str "Publish")]), ("pipeline", .str "kafka")],
    .obj [("when", .obj [("packetType", .str "Subscribe")]), ("pipeline", .str "acl")]])]) = true := by decide +kernel

/-! ## Validation ⇒ no panic with BOTH sides regenerated from the source

The theorems above are statements about the hand-written predicates `…Valid` / `…InitOK` (where `…Valid`
contains the guard as a conjunct they are consistency projections). The theorems below are
about definitions **translated on every run** from the Go bodies (`Gen/FactsC13IR.lean`,
`harness/factextract/facts_c13_ir.go`): `validateIR_<Kind>` = the kind's `Validate()`, `panicsIR_<Kind>` = the
function containing the panic site. A change of either side changes a generated definition and breaks the
theorem of that kind. Proofs: `Proofs/SpecGuardsIR.lean` (same names, namespace `EgVerif.SpecGuards`). Each
repair has an `unrepaired_<Kind>` witness: the statement is false for the validation before the `fix:` commit. -/

open EgVerif.Gen.FactsC13IR in
/-- ResponseAdaptor: `Spec.Validate` accepts ⇒ `Init` does not panic; in fact `Validate` accepts **iff** `Init`
does not panic. -/
theorem validate_no_panic_ResponseAdaptor (s : RASpec) :
    Gen.FactsC13IR.extractionFailed = false ∧
    (validateIR_ResponseAdaptor s = true → panicsIR_ResponseAdaptor s = false) ∧
    validateIR_ResponseAdaptor s = !panicsIR_ResponseAdaptor s :=
  ⟨by decide, SpecGuards.validate_no_panic_ResponseAdaptor s, SpecGuards.validate_iff_no_panic_ResponseAdaptor s⟩

open EgVerif.Gen.FactsC13IR in
/-- RequestBuilder / ResponseBuilder: `Spec.Validate` accepts ⇒ `Builder.reload` (`template.Must`) does not
panic — for every spec and every answer of the template parser. -/
theorem validate_no_panic_Builder (s : BSpec) :
    Gen.FactsC13IR.extractionFailed = false ∧ (validateIR_Builder s = true → panicsIR_Builder s = false) :=
  ⟨by decide, SpecGuards.validate_no_panic_Builder s⟩

open EgVerif.Gen.FactsC13IR in
/-- Fallback **handles any request**: the response lookup at the head of `Handle` does not panic for any
request context (with or without a response in the context). -/
theorem no_panic_Fallback (q : ReqCtx) :
    Gen.FactsC13IR.extractionFailed = false ∧ panicsIR_Fallback q = false :=
  ⟨by decide, SpecGuards.no_panic_Fallback q⟩

open EgVerif.Gen.FactsC13IR in
/-- RateLimiter: tag `format=duration` + `Policy.Validate` ⇒ the refresh period `createRateLimiter` hands to
the limiter is positive, and every division of `acquirePermission` is by that period or by `LimitForPeriod`
(≥ 1: tag `minimum=1`, default 50). -/
theorem validate_no_panic_RLPolicy (p : RLPolicy) :
    Gen.FactsC13IR.extractionFailed = false ∧
    (tagOK_RLPolicy p = true → validateIR_RLPolicy p = true → 0 < refreshPeriodIR_RLPolicy p) ∧
    rlDivisors = ["rl.policy.LimitRefreshPeriod", "rl.policy.LimitRefreshPeriod", "rl.policy.LimitForPeriod"] :=
  ⟨by decide, SpecGuards.validate_no_panic_RLPolicy p, rfl⟩

open EgVerif.Gen.FactsC13IR in
/-- Validator: `Spec.Validate` accepts ⇒ the signer `CreateFromSpec` builds has a key store, so `Signer.Verify`
does not panic (for every request: the panic does not depend on it); wiring of reload / Handle as a fact. -/
theorem validate_no_panic_Validator (s : VSpec) :
    Gen.FactsC13IR.extractionFailed = false ∧ validatorWiring = true ∧
    (validateIR_Validator s = true → panicsIR_Validator s = false) :=
  ⟨by decide, by decide, SpecGuards.validate_no_panic_Validator s⟩

open EgVerif.Gen.FactsC13IR in
/-- MQTTProxy: `Spec.Validate` accepts ⇒ `getPipelineMap` neither dereferences nil nor returns an error, so
`newBroker` does not panic on it. -/
theorem validate_no_panic_MQTTProxy (s : MqttSpec) :
    Gen.FactsC13IR.extractionFailed = false ∧ newBrokerPanicsOnMapError = true ∧
    (validateIR_MQTTProxy s = true → panicsIR_MQTTProxy s = false) :=
  ⟨by decide, by decide, SpecGuards.validate_no_panic_MQTTProxy s⟩

open EgVerif.Gen.FactsC13IR in
/-- CircuitBreaker policy (sizes and admission test translated from `pkg/util/circuitbreaker`): for every
accepted policy, every window a result can be pushed into has ≥ 1 bucket — closed-state windows always, the
half-open window whenever a call is admitted in half-open state; `CountBasedWindow.Push` cannot index an empty
bucket slice. (`cb_min_sized_window_violates`: false for the seeded sizing `min(minimumNumberOfCalls, permitted)`.) -/
theorem cb_pushed_windows_have_buckets (p : CBLibPolicy) (h : p.accepted = true) :
    Gen.FactsC13IR.extractionFailed = false ∧ cbPushSites = 1 ∧
    (∀ e ∈ cbWindowSizesIR p, e.1 = "Closed" → 1 ≤ e.2) ∧
    (∀ n : Int, 0 ≤ n → cbHalfOpenAdmitIR p n = true → ∀ e ∈ cbWindowSizesIR p, e.1 = "HalfOpen" → 1 ≤ e.2) ∧
    (∀ e ∈ cbWindowSizesIR p, e.1 = "Closed" ∨ e.1 = "HalfOpen") :=
  ⟨by decide, by decide, SpecGuards.cb_pushed_windows_have_buckets p h⟩

/-- non-vacuity: the default policy and the boundary policy (1, 0, 0) are accepted -/
example : (CBLibPolicy.ofJ (.obj [])).accepted = true ∧ (⟨1, 0, 0⟩ : CBLibPolicy).accepted = true := by decide +kernel

/-- `ServerPool.handle` panics with "should not reach here" when a resilience wrapper hands it an error that is
neither `ErrShortCircuited` nor the handler's own `serverPoolError`. Regenerated fact: every `return` of the closure
`RetryPolicy.Wrap` builds returns `nil` or `err`, and a variable named `err` is only ever bound to `handler(ctx)` —
in particular a context that ends during the back-off wait returns the handler's last error, not `ctx.Err()`. -/
theorem retry_wrap_only_passes_handler_error :
    Gen.FactsC13IR.extractionFailed = false ∧
    Gen.FactsC13IR.retryWrapReturns = ["nil", "err", "err"] ∧
    Gen.FactsC13IR.retryWrapErrSources = ["handler(ctx)"] := by decide +kernel

open EgVerif.Gen.FactsC13IR in
/-- HTTPServer: the tracer `mux.reload` stores into the new instance is non-nil for every combination of old /
new tracing sections and every outcome of `tracing.New` (selection statements translated; `tracing.New` returns
nil exactly with an error: pattern fact) — `serveHTTP` and `close` cannot dereference a nil tracer. Validation
accepts sections `tracing.New` rejects (negative `sampleRate`: `tracingSpecOK`), so this does not follow from
validation. (`tracer_seeded_can_be_nil`: false for the seeded selection.) -/
theorem tracer_never_nil (sameSpec newOK oldNonNil : Bool) :
    Gen.FactsC13IR.extractionFailed = false ∧ tracingNewNilOnError = true ∧
    tracerNonNilIR_mux sameSpec newOK oldNonNil = true :=
  ⟨by decide, by decide, SpecGuards.tracer_never_nil sameSpec newOK oldNonNil⟩

/-- non-vacuity of `tracingSpecOK`: a negative sample rate is accepted, 1.5 is not -/
example : tracingSpecOK oTrue (.obj [("serviceName", .str "s"), ("zipkin", .obj [("serverURL", .str "http://z"), ("sampleRate", .num (-5) 1)])]) = true ∧
    tracingSpecOK oTrue (.obj [("zipkin", .obj [("serverURL", .str "http://z"), ("sampleRate", .num 15 1)])]) = false := by decide +kernel

open EgVerif.Gen.FactsC13IR in
/-- **Every one of these statements is false for the validation before its `fix:` commit** (34c5ca9, 3dbd6e1,
49d7036, e912cc4, 4536822, 4f68600): a spec / request the old validation accepted on which the translated
panic side panics. -/
theorem unrepaired_validations_violate :
    (∃ s : RASpec, panicsIR_ResponseAdaptor s = true) ∧
    (∃ s : BSpec, validateUnrepaired_Builder s = true ∧ panicsIR_Builder s = true) ∧
    (∃ q : ReqCtx, panicsUnrepaired_Fallback q = true) ∧
    (∃ p : RLPolicy, tagOK_RLPolicy p = true ∧ refreshPeriodIR_RLPolicy p = 0) ∧
    (∃ s : VSpec, validateUnrepaired_Validator s = true ∧ panicsIR_Validator s = true) ∧
    (∃ s : MqttSpec, panicsIR_MQTTProxy s = true) :=
  ⟨unrepaired_ResponseAdaptor, unrepaired_Builder, unrepaired_Fallback, unrepaired_RLPolicy, unrepaired_Validator,
   ⟨_, unrepaired_MQTTProxy.1⟩⟩

/-- The hand-written predicates over document trees (what the judge evaluates on every harness case) imply the
generated validations / exclude the generated panics on the corresponding records. -/
theorem handwritten_valid_implies_validateIR (o : Oracle) (j : J) :
    (respAdaptorValid j = true → Gen.FactsC13IR.validateIR_ResponseAdaptor (RASpec.ofJ j) = true) ∧
    (builderValid o j = true → Gen.FactsC13IR.validateIR_Builder (BSpec.ofJ o j) = true) ∧
    (rlPolicyOK o j = true → tagOK_RLPolicy (RLPolicy.ofJ o j) = true ∧
      Gen.FactsC13IR.validateIR_RLPolicy (RLPolicy.ofJ o j) = true) ∧
    (mqttProxyValid j = true → panicsIR_MQTTProxy (MqttSpec.ofJ j) = false) ∧
    (validatorValid o j = true → Gen.FactsC13IR.validateIR_Validator (VSpec.ofJ j) = true) ∧
    (cbValid o j = true → (CBLibPolicy.ofJ j).accepted = true) :=
  ⟨respAdaptorValid_implies_validateIR j, builderValid_implies_validateIR o j, rlPolicyOK_implies_validateIR o j,
   mqttProxyValid_implies_no_panicIR j, validatorValid_implies_validateIR o j, cbValid_implies_accepted o j⟩

/-- non-vacuity: accepted records on which the translated validations compute `true` -/
example : Gen.FactsC13IR.validateIR_ResponseAdaptor ⟨"gzip", "", "x"⟩ = true ∧
    Gen.FactsC13IR.validateIR_Builder ⟨"", "{{ .x }}", true⟩ = true ∧
    Gen.FactsC13IR.validateIR_RLPolicy ⟨"10ms", some 10000000⟩ = true ∧
    Gen.FactsC13IR.validateIR_Validator ⟨false, some ⟨2⟩⟩ = true ∧
    Gen.FactsC13IR.validateIR_MQTTProxy ⟨[some ⟨some ⟨"Publish"⟩, "p"⟩, some ⟨some ⟨"Connect"⟩, "q"⟩]⟩ = true := by
  decide +kernel

/-! ## The judges' executable specification accepts the model

Every C13 judge decides with `Spec/SpecGuards.judgeCore valid initOK nullElem obs` (`Driver/C13.lean`); the
lemmas below connect that function to the theorems. -/

/-- **spec accepts model**: if the implementation does what the model predicts for a document outside the
null stream — accepts exactly the valid documents and does not crash — and validity excludes the modelled Init
panics (the `valid ⇒ initOK` theorem of the kind), the judge answers agree ∧ spec. -/
theorem judge_accepts_model (valid initOK : Bool) (h : valid = true → initOK = true) (initPhase explained : Bool) :
    judgeCore valid initOK false ⟨valid, false, initPhase, explained⟩ = (true, true) := by
  cases valid
  · rfl
  · rw [h rfl]
    rfl

/-- instances for the objects whose `valid ⇒ initOK` is a full theorem: the expected class is `ok` or `rejected` -/
theorem judge_accepts_model_objects (o : Oracle) (j : J) (a b : Bool) :
    judgeCore (httpServerValid o j) (httpServerInitOK o j) false ⟨httpServerValid o j, false, a, b⟩ = (true, true) ∧
    judgeCore (mqttProxyValid j) (mqttProxyInitOK j) false ⟨mqttProxyValid j, false, a, b⟩ = (true, true) :=
  ⟨judge_accepts_model _ _ (valid_implies_init_ok_HTTPServer o j) a b,
   judge_accepts_model _ _ (valid_implies_init_ok_MQTTProxy j) a b⟩

/-- … and for every first-wave filter kind except RequestAdaptor (open finding) -/
theorem judge_accepts_model_filter (o : Oracle) (j : J) (hk : j.sget "kind" ≠ "RequestAdaptor") (a b : Bool) :
    judgeCore (filterValid o j) (filterInitOK o j) false ⟨filterValid o j, false, a, b⟩ = (true, true) :=
  judge_accepts_model _ _ (valid_implies_init_ok_filter o j hk) a b

/-- **an accepted document that crashes is always reported**: whatever the model says, `spec = false` -/
theorem judge_flags_accepted_crash (valid initOK nullElem initPhase explained : Bool) :
    (judgeCore valid initOK nullElem ⟨true, true, initPhase, explained⟩).2 = false := by
  cases valid <;> cases nullElem <;> rfl

/-- **converse for the guarded rows**: when a modelled Init guard fails for an accepted, valid document, the
judge agrees only with an Init-phase crash that the guard explains (and reports it as a violation); no crash, or
an unexplained one, is a disagreement between model and code. -/
theorem judge_guard_converse (nullElem : Bool) (hn : nullElem = false) :
    judgeCore true false nullElem ⟨true, false, false, false⟩ = (false, true) ∧
    judgeCore true false nullElem ⟨true, true, true, true⟩ = (true, false) ∧
    judgeCore true false nullElem ⟨true, true, true, false⟩ = (false, false) ∧
    judgeCore true false nullElem ⟨true, true, false, true⟩ = (false, false) := by
  subst hn; decide

/-- rejecting a valid document or accepting an invalid one is never agreed with -/
theorem judge_rejects_validation_mismatch (valid initOK : Bool) (o : JObs) (h : o.accepted ≠ valid) :
    (judgeCore valid initOK false o).1 = false := by
  unfold judgeCore
  rw [if_neg Bool.false_ne_true, if_pos (bne_iff_ne.mpr h)]

/-! ## The panic-site table, split by what is actually known about each site -/

/-- sites whose condition is a modelled guard (`.guard` rows) -/
def guardedSites : List (String × String × Nat) :=
  (guardTable.filter (·.2.1 == .guard)).map (·.1)
/-- sites argued unreachable / converted to errors in prose (`.allow` rows) — **not proved**, the prose is the claim -/
def allowedSites : List (String × String × Nat) :=
  (guardTable.filter (·.2.1 == .allow)).map (·.1)
/-- sites nobody instantiates (`.notCovered` rows) — honest gap -/
def notCoveredSites : List (String × String × Nat) :=
  (guardTable.filter (·.2.1 == .notCovered)).map (·.1)

/-- no stale entries: the table lists only sites that still exist. -/
theorem guard_table_exact : guardTable.map (·.1) = Gen.FactsC13.panicSites := by rfl

/-- every regenerated panic site is in exactly one of the three lists; their sizes -/
theorem guard_table_partition :
    Gen.FactsC13.extractionFailed = false ∧
    (∀ s ∈ Gen.FactsC13.panicSites, (guardedSites.contains s || allowedSites.contains s || notCoveredSites.contains s) = true) ∧
    (∀ s ∈ guardedSites, (allowedSites.contains s || notCoveredSites.contains s) = false) ∧
    (∀ s ∈ allowedSites, notCoveredSites.contains s = false) ∧
    (guardedSites.length, allowedSites.length, notCoveredSites.length) = (12, 17, 23) := by
  -- that sites of different classes differ is the one part that compares the strings of the table; in one
  -- evaluation, so that each string literal is unpacked once
  refine ⟨rfl, fun s hs => ?_, by decide +kernel⟩
  rw [← guard_table_exact, List.mem_map] at hs
  obtain ⟨⟨s, c, n⟩, he, rfl⟩ := hs
  -- the entry is in the list of its own class
  have hm := List.mem_map_of_mem (f := (·.1)) (List.mem_filter (p := (·.2.1 == c)) |>.mpr ⟨he, beq_self_eq_true c⟩)
  simp only [Bool.or_eq_true, List.contains_iff_mem]
  cases c
  · exact .inl (.inl hm)
  · exact .inl (.inr hm)
  · exact .inr hm

/-- **the guarded list, site by site** (only for these a theorem relates validation to the site):
Builder.reload ← `validate_no_panic_Builder` (both sides regenerated);
ResponseAdaptor.Init ← `validate_no_panic_ResponseAdaptor` (both sides regenerated);
Signer.Verify ← `validate_no_panic_Validator` (both sides regenerated + wiring fact);
ServerPool.handle ("should not reach here") ← `retry_wrap_only_passes_handler_error` (regenerated fact on the returns of `RetryPolicy.Wrap`);
newBroker ← `validate_no_panic_MQTTProxy` (both sides regenerated);
Header.initHeaderRoute ← `valid_implies_init_ok_HTTPServer`, StringMatcher.init / StringMatch.Init / URLRule.Init
← `smValid_init` / `matcherOK_init` / `poolOK_init` (hand-written model; `MustCompile` of a string the
`format=regexp` tag already compiled: tag regenerated, code side hand-modelled);
GlobalFilter.reload ← `valid_implies_init_ok_GlobalFilter_partial` (hand-written, partial);
ServerPool.InjectResiliencePolicy, RequestAdaptor.Init ← **open findings**: validation does NOT exclude the
panic (`pipeline_inject_violates`, `requestAdaptor_violates`). -/
theorem guarded_sites_listed :
    guardedSites =
      [("pkg/filters/builder/builder.go", "Builder.reload", 1),
       ("pkg/filters/proxy/pool.go", "ServerPool.InjectResiliencePolicy", 4),
       ("pkg/filters/proxy/pool.go", "ServerPool.handle", 1),
       ("pkg/filters/proxy/requestmatch.go", "StringMatcher.init", 1),
       ("pkg/filters/requestadaptor/requestadaptor.go", "RequestAdaptor.Init", 4),
       ("pkg/filters/responseadaptor/responseadaptor.go", "ResponseAdaptor.Init", 4),
       ("pkg/object/globalfilter/globalfilter.go", "GlobalFilter.reload", 2),
       ("pkg/object/httpserver/spec.go", "Header.initHeaderRoute", 1),
       ("pkg/object/mqttproxy/broker.go", "newBroker", 1),
       ("pkg/util/signer/signer.go", "Signer.Verify", 1),
       ("pkg/util/urlrule/urlrule.go", "StringMatch.Init", 1),
       ("pkg/util/urlrule/urlrule.go", "URLRule.Init", 1)] := by rfl

/-- every function with a `panic(` / `MustCompile(` / `template.Must(` in the anchored packages is
mapped (with its call count) to a modelled guard, an allow-list entry or an explicit not-covered entry. -/
theorem guard_table_complete :
    Gen.FactsC13.extractionFailed = false ∧
      ∀ s ∈ Gen.FactsC13.panicSites, (guardTable.lookup s).isSome = true := by
  refine ⟨rfl, fun s hs => ?_⟩
  rw [← guard_table_exact, List.mem_map] at hs
  obtain ⟨e, he, rfl⟩ := hs
  exact List.lookup_isSome_iff.mpr ⟨e, he, beq_self_eq_true _⟩

/-- the `jsonschema` tags of every modelled spec type are the ones the model was written against. -/
theorem spec_tags_as_modelled : Gen.FactsC13.specTags = modelledTags := by rfl

/-- the modelled types have exactly the `Validate()` methods (and receiver forms) the model mirrors. -/
theorem validate_methods_as_modelled : Gen.FactsC13.validateMethods = modelledValidate := by rfl

theorem kind_results_as_modelled : Gen.FactsC13.kindResults = kindResults := by rfl

/-- the allow-list's "converted to an error by recover" entries: the recover() is still there. -/
theorem recovers_present : Gen.FactsC13.recovers.all (·.2) = true := by decide +kernel

/-! ### non-vacuity: concrete accepted, non-trivial specs -/

private def exPipeline : J :=
  .obj [("resilience", .arr [.obj [("name", .str "r"), ("kind", .str "Retry"), ("maxAttempts", .num 2 0)]]),
        ("flow", .arr [.obj [("filter", .str "rl"), ("jumpIf", .obj [("rateLimited", .str "END")])],
                       .obj [("filter", .str "px")]]),
        ("filters", .arr [
          .obj [("name", .str "rl"), ("kind", .str "RateLimiter"), ("defaultPolicyRef", .str "p"),
                ("policies", .arr [.obj [("name", .str "p"), ("limitForPeriod", .num 1 0),
                                         ("limitRefreshPeriod", .str "1s")]]),
                ("urls", .arr [.obj [("url", .obj [("prefix", .str "/")])]])],
          .obj [("name", .str "px"), ("kind", .str "Proxy"),
                ("pools", .arr [.obj [("retryPolicy", .str "r"),
                  ("servers", .arr [.obj [("url", .str "http://127.0.0.1:1")]])]])]])]

example : pipelineValid oTrue exPipeline = true ∧ pipelineInitOK oTrue exPipeline = true ∧
    pipelineHandleOK oTrue exPipeline = true := by decide +kernel

example : respAdaptorValid (.obj [("compress", .str "gzip")]) = true := by decide +kernel
example : respAdaptorValid (.obj [("compress", .str "zip")]) = false := by decide +kernel

end EgVerif.C13
