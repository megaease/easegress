import EgVerif.Proofs.BrokerSessions
import EgVerif.Proofs.BrokerSessionsFine
import EgVerif.Gen.FactsC16
import EgVerif.Gen.FactsC16Locks
import EgVerif.Proofs.BrokerSessionsIR
import EgVerif.Proofs.SessionQoSIR
import EgVerif.Proofs.BrokerSessionsWatch
/-!
# C16 — MQTT sessions survive reconnect and client-id takeover as cleanSession dictates

Theorems about `Model/BrokerSessions.lean` (atomic-step model of `handleConn`/`setSession`,
`readLoop`'s deferred cleanup, `closeAndDelSession`, `removeClient`, `deleteSession`,
`SessionManager`) **with `fixes/C16-takeover-teardown.patch` applied** (`step true`).
A history is any finite sequence of enabled atomic steps (`Reach`): every interleaving of
the connections' programs, the asynchronous `go oldClient.close()`, admin deletes and watch
events. Nothing is bounded. `unrepaired_violates` is the witness that the code without the
patch (`step false`) breaks the property.

Partial (see notes/C16.md): the atomic-step granularity is trusted; `subscribe`/`unsubscribe`
are enabled only for the registered live connection (a superseded connection is assumed not
to send further packets).
-/
namespace EgVerif.C16
open EgVerif.BrokerSessions

/-- states reachable by the repaired code from the empty broker -/
inductive Reach : St → Prop
  | init : Reach BrokerSessions.init
  | step {s s' : St} (a : Act) : Reach s → step true s a = some s' → Reach s'

theorem reach_inv {s : St} (r : Reach s) : Inv s := by
  induction r with
  | init => exact inv_init
  | step a _ hs ih => exact inv_step ih hs

/-- **Invariant `CurrentConnIntact`**: the connection registered for the id, while it is live
and has finished its re-subscription, has *its* session in the session map, that session is
open, and every topic of it is routed by the TopicManager. -/
def CurrentConnIntact (s : St) : Prop :=
  ∀ k, s.client = some k → (s.conn k).disc = false → (s.conn k).pc = Pc.running →
    s.sessMap = some (s.conn k).sess ∧ (s.sess (s.conn k).sess).closed = false ∧
    ∀ f ∈ (s.sess (s.conn k).sess).topics, f ∈ s.topicMgr

theorem intact_of_inv {s : St} (h : Inv s) : CurrentConnIntact s := by
  intro k hc hd hr
  have hsm := h.owns k hc hd (by simp [hr, Pc.active])
  exact ⟨hsm, (h.openS _ hsm).1, h.routed k hc hd hr⟩

theorem currentConnIntact {s : St} (r : Reach s) : CurrentConnIntact s := intact_of_inv (reach_inv r)

/-- No `Session.close()` ever hits a closed session (Go: `close of closed channel` panic). -/
theorem no_double_close {s : St} (r : Reach s) : s.doubleClose = false := (reach_inv r).noDouble

/-- **takeover_teardown_safe.** Let connection `k` be registered for the id and live. No step
of the teardown of *another* connection `j` (its read loop noticing the end, the teardown in
`closeAndDelSession`, `close`, `removeClient`, the write-loop error path, the asynchronous
`go oldClient.close()`), taken at any point, changes the registration, the session map, any
session object, the persisted copy, the pending delete events, the TopicManager entries or
`k`'s own record. -/
theorem takeover_teardown_safe {s s' : St} {k j : Nat} {a : Act}
    (hc : s.client = some k) (hj : j ≠ k) (hlive : (s.conn k).disc = false)
    (ha : IsTeardownOf j a) (hs : step true s a = some s') :
    s'.client = some k ∧ s'.sessMap = s.sessMap ∧ s'.sess = s.sess ∧ s'.db = s.db ∧
    s'.watch = s.watch ∧ s'.topicMgr = s.topicMgr ∧ s'.conn k = s.conn k := by
  have f := superseded_frame hc hj hlive ha hs
  exact ⟨f.client.trans hc, f.sessMap, f.sess, f.db, f.watch, f.topicMgr, f.conn⟩

/-- all-or-nothing execution of a list of steps -/
def runAll : St → List Act → Option St
  | s, [] => some s
  | s, a :: rest => (step true s a).bind (fun s' => runAll s' rest)

theorem runAll_cons_eq_some {s s' : St} {a : Act} {l : List Act} :
    runAll s (a :: l) = some s' ↔ ∃ s1, step true s a = some s1 ∧ runAll s1 l = some s' := by
  simp only [runAll]
  cases step true s a <;> simp

theorem runAll_append {s : St} {l₁ l₂ : List Act} :
    runAll s (l₁ ++ l₂) = (runAll s l₁).bind (fun s' => runAll s' l₂) := by
  induction l₁ generalizing s with
  | nil => simp [runAll]
  | cons a r ih =>
    simp only [List.cons_append, runAll]
    cases step true s a with
    | none => simp
    | some s1 => simp [ih]

theorem reach_runAll {s s' : St} {l : List Act} (r : Reach s) (h : runAll s l = some s') : Reach s' := by
  induction l generalizing s with
  | nil => simp [runAll] at h; subst h; exact r
  | cons a rest ih =>
    obtain ⟨s1, hs, h⟩ := runAll_cons_eq_some.mp h
    exact ih (Reach.step a r hs) h

def OthersTeardown (k : Nat) (l : List Act) : Prop := ∀ a ∈ l, ∃ j, j ≠ k ∧ IsTeardownOf j a

theorem frame_run {k : Nat} {l : List Act} (hl : OthersTeardown k l) {s s' : St}
    (hc : s.client = some k) (hlive : (s.conn k).disc = false) (h : runAll s l = some s') :
    SameForCurrent s s' k := by
  induction l generalizing s with
  | nil =>
    simp [runAll] at h; subst h
    exact sameForCurrent_refl _ _
  | cons a rest ih =>
    obtain ⟨s1, hs, h⟩ := runAll_cons_eq_some.mp h
    obtain ⟨j, hj, ha⟩ := hl a (List.mem_cons_self ..)
    have f1 := superseded_frame hc hj hlive ha hs
    exact sameForCurrent_trans f1 (ih (fun b hb => hl b (List.mem_cons_of_mem _ hb)) (f1.client.trans hc)
      (by rw [f1.conn]; exact hlive) h)

/-- the session a CONNECT finds: the one in the local map, else the persisted copy -/
def storedSession (s : St) : Option (List Nat × Bool) :=
  match s.sessMap with
  | some r => some ((s.sess r).topics, (s.sess r).clean)
  | none => s.db

theorem connect_reuses {s : St} {k : Nat} {F : List Nat}
    (hst : storedSession s = some (F, false)) :
    let s1 := connectLocked true s k false
    (s1.sess (s1.conn k).sess).topics = F ∧ (s1.sess (s1.conn k).sess).clean = false ∧
    (s1.conn k).disc = (s.conn k).disc ∧ s1.topicMgr = s.topicMgr := by
  obtain ⟨hsm', hse', _, _, hdb', htm', _⟩ := takeoverMark_rest s
  obtain ⟨r, g2, gtop, gcl, -, -, -, gconn, gtm, -⟩ :=
    getSess_stored (s := { takeoverMark s with client := some k }) ((storedSess_congr hsm' hse' hdb').trans hst)
  simp only [connectLocked, setSession, g2, gcl, Bool.not_false, Bool.and_self, if_true, setConn, upd_same]
  exact ⟨gtop, trivial, (congrArg Conn.disc (congrFun gconn k)).trans (takeoverMark_conn s k).2.2.1, gtm.trans htm'⟩

theorem runAll_append_eq_some {s s' : St} {l₁ l₂ : List Act} :
    runAll s (l₁ ++ l₂) = some s' ↔ ∃ s1, runAll s l₁ = some s1 ∧ runAll s1 l₂ = some s' := by
  rw [runAll_append]
  cases runAll s l₁ <;> simp

/-- **reconnect_restores.** The stored session of the id (local map, else persisted copy) is
a persistent one with topics `F`; a new connection `k` connects with cleanSession=false. For
*every* placement `t₁ t₂ t₃` of teardown steps of other connections (the old connection's read
loop noticing its end before, between or after the new connection's steps): after
`connectLocked; t₁; storeSess; t₂; resubscribe; t₃` connection `k` is registered with a session
holding exactly the topics `F`, that session is the one in the session map and is open, and
every topic of `F` is routed to the id again. -/
theorem reconnect_restores {s s' : St} (r : Reach s) {k : Nat} {F : List Nat} {t₁ t₂ t₃ : List Act}
    (hst : storedSession s = some (F, false)) (hfresh : (s.conn k).disc = false)
    (h₁ : OthersTeardown k t₁) (h₂ : OthersTeardown k t₂) (h₃ : OthersTeardown k t₃)
    (hrun : runAll s (Act.connectLocked k false :: (t₁ ++ Act.storeSess k :: (t₂ ++
      Act.resubscribe k :: t₃))) = some s') :
    s'.client = some k ∧ s'.sessMap = some (s'.conn k).sess ∧
    (s'.sess (s'.conn k).sess).topics = F ∧ (s'.sess (s'.conn k).sess).closed = false ∧
    ∀ f ∈ F, f ∈ s'.topicMgr := by
  obtain ⟨s1, hs1, h⟩ := runAll_cons_eq_some.mp hrun
  obtain ⟨s2, hr1, h⟩ := runAll_append_eq_some.mp h
  obtain ⟨s3, hs3, h⟩ := runAll_cons_eq_some.mp h
  obtain ⟨s4, hr4, h⟩ := runAll_append_eq_some.mp h
  obtain ⟨s5, hs5, hr6⟩ := runAll_cons_eq_some.mp h
  have hinv := reach_inv r
  -- connectLocked: `k` holds the stored session
  simp only [step] at hs1
  split at hs1 <;> cases hs1
  obtain ⟨reg, _⟩ := connectLocked_registered hinv k false
  obtain ⟨htop, _, hdisc, _⟩ := connect_reuses (k := k) hst
  have g1 : Holds (connectLocked true s k false) k _ F :=
    ⟨reg.client, hdisc.trans hfresh, rfl, reg.sessMap, htop, reg.opened⟩
  have g2 := holds_frame g1 (frame_run h₁ g1.client g1.live hr1)
  -- storeSess
  simp only [step] at hs3
  split at hs3 <;> cases hs3
  have g3 : Holds (setPc (persist s2 (s2.conn k).sess) k Pc.stored) k _ F :=
    holds_congr g2 rfl rfl rfl (by simp [setPc, setConn, persist]) (by simp [setPc, setConn, persist])
  have g4 := holds_frame g3 (frame_run h₂ g3.client g3.live hr4)
  -- resubscribe: the topics of the session, `F`, are routed from here on
  simp only [step] at hs5
  split at hs5 <;> cases hs5
  have g5 : Holds (setPc { s4 with topicMgr := addAll s4.topicMgr (s4.sess (s4.conn k).sess).topics } k Pc.running)
      k _ F := holds_congr g4 rfl rfl rfl (by simp [setPc, setConn]) (by simp [setPc, setConn])
  have f6 := frame_run h₃ g5.client g5.live hr6
  have g6 := holds_frame g5 f6
  refine ⟨g6.client, g6.mine ▸ g6.inMap, g6.mine ▸ g6.topics, g6.mine ▸ g6.opened, fun f hf => ?_⟩
  rw [f6.topicMgr]
  exact mem_addAll.mpr (Or.inr (by rw [g4.mine, g4.topics]; exact hf))

/-- **clean_discards.** If the CONNECT asks for a clean session, or the stored session is a
clean one, the connection gets a new session without topics; the stored session is closed and
none of its topics is routed to the id any more. -/
theorem clean_discards {s : St} (r : Reach s) {k : Nat} {clean : Bool} {F : List Nat} {c : Bool}
    (hst : storedSession s = some (F, c)) (hcl : clean = true ∨ c = true) :
    let s1 := connectLocked true s k clean
    (s1.sess (s1.conn k).sess).topics = [] ∧ (s1.sess (s1.conn k).sess).clean = clean ∧
    (∀ f ∈ F, f ∉ s1.topicMgr) ∧ (∀ q, s.sessMap = some q → (s1.sess q).closed = true) := by
  obtain ⟨hsm', hse', hn', _, hdb', _⟩ := takeoverMark_rest s
  have hnot : (!clean && !c) = false := by rcases hcl with h | h <;> simp [h]
  obtain ⟨r0, g2, gtop, gcl, -, guniq, -, -, -, gn⟩ :=
    getSess_stored (s := { takeoverMark s with client := some k }) ((storedSess_congr hsm' hse' hdb').trans hst)
  simp only [connectLocked, setSession, g2, gcl, hnot, Bool.false_eq_true, if_false, if_true]
  refine ⟨by simp [newSession], by simp [newSession], fun f hf => ?_, fun q hq => ?_⟩
  · simp [newSession, closeSess, gtop, mem_delAll, hf]
  · -- the discarded session was allocated before, so it is not the new one
    cases guniq q (hsm'.trans hq)
    have hne : r0 ≠ (getSess { takeoverMark s with client := some k }).1.nextSess :=
      Nat.ne_of_lt (Nat.lt_of_lt_of_le ((reach_inv r).openS r0 hq).2 (Nat.le_trans (Nat.le_of_eq hn'.symm) gn))
    simp [newSession, closeSess, upd_other _ _ hne]

/-- **remove_only_if_disconnected.** `removeClient` unregisters only a connection whose
status flag is Disconnected; more generally the only steps that take the registration away
from a connection are a takeover, a delete event of the session store, or `removeClient`
on a disconnected client. -/
theorem remove_only_if_disconnected {s s' : St} {a : Act} {o : Nat}
    (hs : step true s a = some s') (hc : s.client = some o) (hc' : s'.client ≠ some o) :
    (∃ k cl, a = Act.connectLocked k cl) ∨ a = Act.watchFires ∨
    ((∃ k, a = Act.remove k) ∧ (s.conn o).disc = true) := by
  rcases (step_frame hs).2.1 with e | ⟨k, cl, e, _⟩ | ⟨_, e | ⟨hk, o', ho, hd⟩⟩
  · exact absurd (e.trans hc) hc'
  · exact Or.inl ⟨k, cl, e⟩
  · exact Or.inr (Or.inl e)
  · cases eq_of_client ho hc; exact Or.inr (Or.inr ⟨hk, hd⟩)

/-- **admin_delete_disconnects.** Deleting the session through the admin endpoint removes the
persisted copy and leaves a delete event pending (so `watchFires` is enabled); when the event
is handled, whichever connection is registered for the id is marked disconnected and is
unregistered. -/
theorem admin_delete_disconnects {s s1 : St} (h : step true s Act.adminDelete = some s1) :
    s1.db = none ∧ 0 < s1.watch ∧
    ∀ {s2 s3 : St} {o : Nat}, s2.client = some o → step true s2 Act.watchFires = some s3 →
      s3.client = none ∧ (s3.conn o).disc = true := by
  simp only [step] at h; cases h
  refine ⟨rfl, Nat.succ_pos _, ?_⟩
  intro s2 s3 o hc hs
  simp only [step] at hs
  split at hs <;> cases hs
  simp [deleteSession, hc, markDisc, setConn]

/-! ### The unrepaired code violates the property (witness) -/

/-- connection 0 connects (persistent session) and subscribes topic 7; connection 1 takes the
id over and finishes its re-subscription; then the read loop of connection 0 notices its end
and runs `closeAndDelSession`. -/
def witness : List Act :=
  [.connectLocked 0 false, .storeSess 0, .resubscribe 0, .subscribe 0 7,
   .connectLocked 1 false, .asyncClose 0, .storeSess 1, .resubscribe 1,
   .noticeEnd 0, .cleanup 0]

/-- Without the patch (`fixed = false`) connection 1 is still registered, live and running,
but its session has left the session map, is closed, and topic 7 is no longer routed. -/
theorem unrepaired_violates :
    let s := runActs false BrokerSessions.init witness
    s.client = some 1 ∧ (s.conn 1).disc = false ∧ (s.conn 1).pc = Pc.running ∧
    s.sessMap = none ∧ (s.sess (s.conn 1).sess).closed = true ∧ s.topicMgr = [] ∧
    (s.sess (s.conn 1).sess).topics = [7] := by decide

/-- The same history on the repaired code keeps everything. -/
theorem repaired_keeps :
    let s := runActs true BrokerSessions.init witness
    s.client = some 1 ∧ s.sessMap = some (s.conn 1).sess ∧
    (s.sess (s.conn 1).sess).closed = false ∧ s.topicMgr = [7] := by decide

/-- With a clean old session the unrepaired teardown also emits a delete event for the id,
whose handling unregisters and disconnects the *new* connection. -/
theorem unrepaired_delete_event :
    let s := runActs false BrokerSessions.init
      [.connectLocked 0 true, .storeSess 0, .resubscribe 0, .connectLocked 1 true, .asyncClose 0,
       .storeSess 1, .resubscribe 1, .noticeEnd 0, .cleanup 0, .watchFires]
    s.client = none ∧ (s.conn 1).disc = true := by decide

/-- `witness` is a history of the repaired code in which every step is enabled, so the state
it reaches is a `Reach` state that meets the hypotheses of `takeover_teardown_safe`
(`k = 1`, `j = 0`) and of `currentConnIntact`. -/
example : (runAll BrokerSessions.init witness).isSome = true := by decide

example : Reach ((runAll BrokerSessions.init witness).getD BrokerSessions.init) := by
  cases h : runAll BrokerSessions.init witness with
  | none => exact Reach.init
  | some s' => exact reach_runAll Reach.init h

/-- hypotheses of `reconnect_restores`: after connection 0 ended normally, its persistent
session with topic 7 is only in the persisted copy. -/
example :
    let s := runActs true BrokerSessions.init [.connectLocked 0 false, .storeSess 0, .resubscribe 0,
      .subscribe 0 7, .noticeEnd 0, .cleanup 0, .close 0, .remove 0]
    storedSession s = some ([7], false) ∧ s.sessMap = none ∧ s.client = none := by decide

/-- Facts regenerated from the source on every run: the repaired `closeAndDelSession` does
its teardown under the broker lock behind the ownership check, `setSession` unsubscribes a
discarded session's topics, registration and `setSession` sit in one locked section of
`handleConn`, `removeClient` deletes only a disconnected client, `deleteSession` holds the
lock. -/
theorem source_facts :
    Gen.FactsC16.extractionFailed = false ∧
    Gen.FactsC16.teardownUnderBrokerLock = true ∧
    Gen.FactsC16.teardownOwnershipCheck = true ∧
    Gen.FactsC16.setSessionUnsubscribesDiscarded = true ∧
    Gen.FactsC16.registrationAndSetSessionInOneLockedSection = true ∧
    Gen.FactsC16.removeClientChecksDisconnected = true ∧
    Gen.FactsC16.deleteSessionLocksFirst = true := by decide

/-! ### Finer step granularity

`FSt`/`FAct`/`fstep` (Model/BrokerSessions.lean, second half) split every coarse step wherever the
Go code holds no common lock between two effects: the broker lock is an explicit part of the
state (`Lk`), steps that do not take it (`subTM/subSess/unsubTM/unsubSess`, `storeSess`, `doStore`,
`resubSnap/resubIns`, `close/asyncClose/wClose`, `adminDelete`) interleave with the sub-steps of a
broker-locked section (`lockConn; lkGet; lkSnap; lkUnsub` and `tdHead|wErrHead; tdSnap; tdUnsub`),
and the persisted copy is written by a separate, unordered `doStore`. A SUBSCRIBE/UNSUBSCRIBE
packet *starts* only on the registered live connection but *finishes* unconditionally. -/

/-- states reachable by fine steps of the repaired code from the empty broker -/
inductive FReach : FSt → Prop
  | init : FReach finit
  | step {s s' : FSt} (a : FAct) : FReach s → fstep s a = some s' → FReach s'

/-- **reach_inv_fine.** Every state reachable by fine steps — including the states *inside* the
broker-locked sections — satisfies `FInv`: the registered live connection (whose own write loop is
not tearing it down) owns the session-map entry, that entry is open and allocated, no
`Session.close()` hits a closed session, and the holder of the broker lock has established what
its next sub-step relies on. -/
theorem reach_inv_fine {s : FSt} (r : FReach s) : FInv s := by
  induction r with
  | init => exact finv_init
  | step a _ hs ih => exact finv_step ih hs

theorem freach_runAllF {s s' : FSt} {l : List FAct} (r : FReach s) (h : runAllF s l = some s') : FReach s' := by
  induction l generalizing s with
  | nil => simp [runAllF] at h; subst h; exact r
  | cons a rest ih =>
    obtain ⟨s1, h1, h2⟩ := runAllF_cons_eq_some.mp h
    exact ih (FReach.step a r h1) h2

/-- `CurrentConnIntact` without its routing clause, at fine granularity, unconditionally: the
session of the registered, live, running connection is the one in the session map and is open. -/
theorem currentConn_session_fine {s : FSt} (r : FReach s) {k : Nat} (hc : s.base.client = some k)
    (hd : (s.base.conn k).disc = false) (hw : (s.fc k).wl = false) (hr : (s.base.conn k).pc = Pc.running) :
    s.base.sessMap = some (s.base.conn k).sess ∧ (s.base.sess (s.base.conn k).sess).closed = false := by
  have h := reach_inv_fine r
  have hsm := h.owns k hc hd hw (by simp [hr, Pc.active])
  exact ⟨hsm, (h.openS _ hsm).1⟩

theorem no_double_close_fine {s : FSt} (r : FReach s) : s.base.doubleClose = false := (reach_inv_fine r).noDouble

/-- **takeover_teardown_safe_fine.** Connection `k` is registered and live. No *fine* teardown step
of another connection `j` (read loop noticing the end; the three broker-locked sub-steps of
`closeAndDelSession` from the read loop's defer or from the write loop; `c.close()` from either;
`removeClient`; the asynchronous `go oldClient.close()`), taken at any point of any fine history,
changes the registration, the session map, any session object, the persisted copy, the pending
delete events, the TopicManager, the stores in flight, the broker lock or `k`'s own records. -/
theorem takeover_teardown_safe_fine {s s' : FSt} {k j : Nat} {a : FAct} (r : FReach s)
    (hc : s.base.client = some k) (hj : j ≠ k) (hlive : (s.base.conn k).disc = false)
    (ha : IsTeardownOfF j a) (hs : fstep s a = some s') :
    s'.base.client = some k ∧ s'.base.sessMap = s.base.sessMap ∧ s'.base.sess = s.base.sess ∧
    s'.base.db = s.base.db ∧ s'.base.watch = s.base.watch ∧ s'.base.topicMgr = s.base.topicMgr ∧
    s'.base.conn k = s.base.conn k ∧ s'.fc k = s.fc k ∧ s'.storeQ = s.storeQ ∧ s'.lock = s.lock := by
  have f := superseded_frame_fine (reach_inv_fine r) hc hj hlive ha hs
  exact ⟨f.base.client.trans hc, f.base.sessMap, f.base.sess, f.base.db, f.base.watch, f.base.topicMgr,
    f.base.conn, f.fc, f.storeQ, f.lock⟩

/-- **reconnect_restores_fine.** The stored session of the id is persistent with topics `F`; a new
connection `k` connects with cleanSession=false. For *every* placement `t₁ … t₅` of fine teardown
steps of other connections around `k`'s own fine steps — also inside `k`'s broker-locked section
and between its topic snapshot and the insertion into the TopicManager — connection `k` ends
registered and in its read loop, with a session holding exactly `F` that is the open one in the
session map, and every topic of `F` is routed. -/
theorem reconnect_restores_fine {s s' : FSt} (r : FReach s) {k : Nat} {F : List Nat}
    {t₁ t₂ t₃ t₄ t₅ : List FAct}
    (hst : storedSess s.base = some (F, false)) (hfresh : (s.base.conn k).disc = false)
    (h₁ : OthersTeardownF k t₁) (h₂ : OthersTeardownF k t₂) (h₃ : OthersTeardownF k t₃)
    (h₄ : OthersTeardownF k t₄) (h₅ : OthersTeardownF k t₅)
    (hrun : runAllF s (FAct.lockConn k false :: (t₁ ++ FAct.lkGet k :: (t₂ ++ FAct.storeSess k :: (t₃ ++
      FAct.resubSnap k :: (t₄ ++ FAct.resubIns k :: t₅))))) = some s') :
    s'.base.client = some k ∧ s'.base.sessMap = some (s'.base.conn k).sess ∧
    (s'.base.sess (s'.base.conn k).sess).topics = F ∧ (s'.base.sess (s'.base.conn k).sess).closed = false ∧
    (s'.base.conn k).pc = Pc.running ∧ ∀ f ∈ F, f ∈ s'.base.topicMgr := by
  obtain ⟨s1, hs1, h⟩ := runAllF_cons_eq_some.mp hrun
  obtain ⟨s2, hr1, h⟩ := runAllF_append_eq_some.mp h
  obtain ⟨s3, hs2, h⟩ := runAllF_cons_eq_some.mp h
  obtain ⟨s4, hr3, h⟩ := runAllF_append_eq_some.mp h
  obtain ⟨s5, hs4, h⟩ := runAllF_cons_eq_some.mp h
  obtain ⟨s6, hr5, h⟩ := runAllF_append_eq_some.mp h
  obtain ⟨s7, hs6, h⟩ := runAllF_cons_eq_some.mp h
  obtain ⟨s8, hr7, h⟩ := runAllF_append_eq_some.mp h
  obtain ⟨s9, hs8, hr9⟩ := runAllF_cons_eq_some.mp h
  -- `lockConn k false; t₁; lkGet k`: the stored session is reused, `k` holds it
  obtain ⟨hi2, hlock, hcl2, hd2, hsm2, hse2, hdb2, htm2⟩ := lockConn_frame (reach_inv_fine r) hfresh h₁ hs1 hr1
  have hi3 := finv_step hi2 hs2
  obtain ⟨q, g3⟩ : ∃ q, Holds s3.base k q F := by
    obtain ⟨q, g2, gtop, gcl, gsm, -, gclient, gconn, -, -⟩ :=
      getSess_stored ((storedSess_congr hsm2 hse2 hdb2).trans hst)
    simp only [fstep, hlock, if_true, g2, gcl] at hs2
    cases hs2
    exact ⟨q, gclient.trans hcl2, by simp [setConn, gconn, hd2], by simp [setConn], gsm, gtop, (hi3.openS q gsm).1⟩
  -- `t₂; storeSess k`
  obtain ⟨hi4, g4, -⟩ := holds_run_fine h₂ hi3 g3 hr3
  have hi5 := finv_step hi4 hs4
  simp only [fstep] at hs4
  split at hs4 <;> cases hs4
  have g5 : Holds (setPc s4.base k Pc.stored) k q F :=
    holds_congr g4 rfl rfl rfl (by simp [setPc, setConn]) (by simp [setPc, setConn])
  -- `t₃; resubSnap k`: the snapshot is `F`
  obtain ⟨hi6, g6, -⟩ := holds_run_fine h₃ hi5 g5 hr5
  have hi7 := finv_step hi6 hs6
  simp only [fstep] at hs6
  split at hs6 <;> cases hs6
  have hsnap7 : ((setFc s6 k { s6.fc k with snap := some (s6.base.sess (s6.base.conn k).sess).topics }).fc k).snap =
      some F := by simp [setFc, g6.mine, g6.topics]
  -- `t₄; resubIns k`: it survives the other teardowns and is inserted
  obtain ⟨hi8, g8, f7⟩ := holds_run_fine h₄ hi7 (s := setFc s6 k _) g6 hr7
  have hi9 := finv_step hi8 hs8
  simp only [fstep, (congrArg FConn.snap f7.fc).trans hsnap7] at hs8
  split at hs8 <;> cases hs8
  have g9 : Holds (setPc { s8.base with topicMgr := addAll s8.base.topicMgr F } k Pc.running) k q F :=
    holds_congr g8 rfl rfl rfl (by simp [setPc, setConn]) (by simp [setPc, setConn])
  -- `t₅`
  obtain ⟨-, g, f9⟩ := holds_run_fine h₅ hi9 g9 hr9
  refine ⟨g.client, g.mine ▸ g.inMap, g.mine ▸ g.topics, g.mine ▸ g.opened, ?_, fun f hf => ?_⟩
  · rw [f9.base.conn]; simp [setPc, setConn]
  · rw [f9.base.topicMgr]; exact mem_addAll.mpr (Or.inr hf)

/-- **Finding at fine granularity (`routing clause of CurrentConnIntact is false`).** Connection 0
is in the middle of a SUBSCRIBE for topic 7 (`topicMgr.subscribe` done, `session.subscribe` not
yet: client.go:360/365 share no lock) when connection 1 takes the id over reusing the session,
re-subscribes, and UNSUBSCRIBEs topic 7 completely; then connection 0's `session.subscribe` runs.
Connection 1 is registered, live and in its read loop, its session is the open one in the map —
and holds topic 7, which the TopicManager does not route. -/
def fineWitness : List FAct :=
  [.lockConn 0 false, .lkGet 0, .storeSess 0, .resubSnap 0, .resubIns 0,
   .subTM 0 7,
   .lockConn 1 false, .lkGet 1, .asyncClose 0, .storeSess 1, .resubSnap 1, .resubIns 1,
   .unsubTM 1 7, .unsubSess 1,
   .subSess 0]

theorem routing_fails_fine :
    (runAllF finit fineWitness).isSome = true ∧
    (let s := (runActsF finit fineWitness).base
     s.client = some 1 ∧ (s.conn 1).disc = false ∧ (s.conn 1).pc = Pc.running ∧
     s.sessMap = some (s.conn 1).sess ∧ (s.sess (s.conn 1).sess).closed = false ∧
     (s.sess (s.conn 1).sess).topics = [7] ∧ s.topicMgr = []) := by decide

/-- a fine history in which every step is enabled: connection 0 connects and subscribes 7;
connection 1 takes over *while connection 0's teardown is interleaved with its sub-steps*. The
state before `tdHead 0` meets the hypotheses of `takeover_teardown_safe_fine` (`k = 1`, `j = 0`). -/
def fineTakeover : List FAct :=
  [.lockConn 0 false, .lkGet 0, .storeSess 0, .doStore 0, .resubSnap 0, .resubIns 0,
   .subTM 0 7, .subSess 0, .doStore 0,
   .lockConn 1 false, .asyncClose 0, .lkGet 1, .noticeEnd 0, .storeSess 1, .tdHead 0, .resubSnap 1,
   .close 0, .resubIns 1, .remove 0]

example : (runAllF finit fineTakeover).isSome = true := by decide

example :
    let s := (runActsF finit fineTakeover).base
    s.client = some 1 ∧ (s.conn 1).pc = Pc.running ∧ s.sessMap = some (s.conn 1).sess ∧
    (s.sess (s.conn 1).sess).topics = [7] ∧ s.topicMgr = [7] ∧ s.db = some ([7], false) := by decide

example : FReach ((runAllF finit fineTakeover).getD finit) := by
  cases h : runAllF finit fineTakeover with
  | none => exact FReach.init
  | some s' => exact freach_runAllF FReach.init h

/-- hypotheses of `reconnect_restores_fine`: after connection 0 ended normally its persistent
session with topic 7 lives only in the persisted copy; the run of the theorem (with empty `tᵢ`) is
enabled. -/
example :
    let s := runActsF finit [.lockConn 0 false, .lkGet 0, .storeSess 0, .doStore 0, .resubSnap 0, .resubIns 0,
      .subTM 0 7, .subSess 0, .doStore 0, .noticeEnd 0, .tdHead 0, .tdSnap 0, .tdUnsub 0, .close 0, .remove 0]
    storedSess s.base = some ([7], false) ∧ s.base.sessMap = none ∧ s.base.client = none ∧ s.lock = Lk.free ∧
    (runAllF s [.lockConn 1 false, .lkGet 1, .storeSess 1, .resubSnap 1, .resubIns 1]).isSome = true := by decide

/-! ### The model's functions regenerated from the Go source by translation (`harness/factextract/facts_c16_ir.go`)

`Gen/FactsC16IR.lean` is translated from the bodies of the Go functions on every run; the theorems state that
the translation equals the corresponding part of the model for ALL states (proofs: `Proofs/BrokerSessionsIR.lean`). -/

/-- `SessionManager.delLocal` -/
theorem delLocal_regenerated_from_source (s : St) :
    Gen.FactsC16IR.extractionFailed = false ∧ Gen.FactsC16IR.delLocalIR s = Gen.FactsC16IR.delLocalM s :=
  ⟨by decide, BrokerSessions.delLocal_regenerated_from_source s⟩

/-- **`Client.closeAndDelSession`** = the `cleanup` step (ownership guard "is this still the current client",
fix 924acbc) followed by the `close` step: session map, persisted copy and subscriptions are torn down only if
no other connection is registered for the id. -/
theorem closeAndDel_regenerated_from_source (s : St) (k : Nat) :
    Gen.FactsC16IR.extractionFailed = false ∧
    Gen.FactsC16IR.closeAndDelIR s k = markDisc (teardown true s k) k :=
  ⟨by decide, BrokerSessions.closeAndDel_regenerated_from_source s k⟩

/-- `Broker.removeClient` = the state change of the `remove` step -/
theorem removeClient_regenerated_from_source (s : St) (k : Nat) (h : (s.conn k).pc = Pc.closed) :
    Gen.FactsC16IR.extractionFailed = false ∧
    step true s (.remove k) = some (setPc (Gen.FactsC16IR.removeClientIR s) k Pc.done) :=
  ⟨by decide, BrokerSessions.remove_step_regenerated_from_source s k h⟩

/-- `Broker.deleteSession` = the model's `deleteSession` (hypothesis: no `go oldClient.close()` still pending for
an already disconnected registered client — the model would additionally clear that no-op request;
`deleteSession_regenerated_from_source_gen` in Proofs states the general form without hypothesis). -/
theorem deleteSession_regenerated_from_source (s : St)
    (h : ∀ o, s.client = some o → (s.conn o).disc = true → (s.conn o).closeReq = false) :
    Gen.FactsC16IR.extractionFailed = false ∧ Gen.FactsC16IR.deleteSessionIR s = deleteSession s :=
  ⟨by decide, BrokerSessions.deleteSession_regenerated_from_source s h⟩

/-- **`Broker.setSession`**: which session object survives a (re)connect / takeover -/
theorem setSession_regenerated_from_source (s : St) (k : Nat) (clean : Bool) :
    Gen.FactsC16IR.extractionFailed = false ∧ Gen.FactsC16IR.setSessionIR s k clean = setSession true s k clean :=
  ⟨by decide, BrokerSessions.setSession_regenerated_from_source s k clean⟩

/-- non-vacuity: on the takeover state (connection 1 registered, connection 0 superseded) the generated
`closeAndDelSession` of connection 0 leaves session map and TopicManager alone; of connection 1 it clears them -/
example :
    let s := runActs true BrokerSessions.init [.connectLocked 0 false, .storeSess 0, .resubscribe 0, .subscribe 0 7,
      .connectLocked 1 false, .storeSess 1, .resubscribe 1]
    (Gen.FactsC16IR.closeAndDelIR s 0).sessMap = s.sessMap ∧ (Gen.FactsC16IR.closeAndDelIR s 0).topicMgr = [7] ∧
    (Gen.FactsC16IR.closeAndDelIR s 1).sessMap = none ∧ (Gen.FactsC16IR.closeAndDelIR s 1).topicMgr = [] := by decide

/-! #### The routing clause at fine granularity (partial) and refinement -/

/-- fine histories in which no SUBSCRIBE/UNSUBSCRIBE packet in flight is *finished* after its
connection has been superseded (`straddles`): the excluding hypothesis of `routing_fails_fine` -/
inductive FReachNS : FSt → Prop
  | init : FReachNS finit
  | step {s s' : FSt} (a : FAct) : FReachNS s → straddles s a = false → fstep s a = some s' → FReachNS s'

theorem freachNS_toFReach {s : FSt} (r : FReachNS s) : FReach s := by
  induction r with
  | init => exact FReach.init
  | step a _ _ hs ih => exact FReach.step a ih hs

theorem reach_routed_fine {s : FSt} (r : FReachNS s) : FRt s := by
  induction r with
  | init => exact frt_init
  | step a r0 hns hs ih => exact frt_step (reach_inv_fine (freachNS_toFReach r0)) ih hs hns

/-- **currentConnIntact_fine_partial.** (Full statement = the same for every `FReach` state; it is
FALSE, see `routing_fails_fine`.) In every state of a fine history without a straddling packet:
the registered, live connection in its read loop, whose write loop is not tearing it down, has
its session in the session map, open, and every topic of it is routed by the TopicManager or is
the topic of its *own* UNSUBSCRIBE in flight (between client.go:381 and :385). -/
theorem currentConnIntact_fine_partial {s : FSt} (r : FReachNS s) {k : Nat} (hc : s.base.client = some k)
    (hd : (s.base.conn k).disc = false) (hw : (s.fc k).wl = false) (hr : (s.base.conn k).pc = Pc.running) :
    s.base.sessMap = some (s.base.conn k).sess ∧ (s.base.sess (s.base.conn k).sess).closed = false ∧
    ∀ f ∈ (s.base.sess (s.base.conn k).sess).topics, f ∈ s.base.topicMgr ∨ (s.fc k).pend = some (false, f) := by
  obtain ⟨h1, h2⟩ := currentConn_session_fine (freachNS_toFReach r) hc hd hw hr
  exact ⟨h1, h2, (reach_routed_fine r).routed k hc hd hw hr⟩

/-- the witness of `routing_fails_fine` is excluded only by its last step -/
example : straddles (runActsF finit fineWitness.dropLast) (FAct.subSess 0) = true := by decide

/-- `fineTakeover` is a history without straddling packet (every step enabled, none straddles) -/
def nsRun : FSt → List FAct → Bool
  | _, [] => true
  | s, a :: rest => !straddles s a && (match fstep s a with | some s' => nsRun s' rest | none => false)

example : nsRun finit fineTakeover = true := by decide

/-- **coarse_history_is_fine.** Refinement: every state reachable by the coarse steps (`Reach`) is
the `base` of a state reachable by fine steps in which nothing is in flight — each coarse step is
the run `expandF` of its fine steps with nothing scheduled in between. Hence everything proved for
all fine histories holds for all coarse ones, and the coarse model adds no behaviour. -/
theorem coarse_history_is_fine {s : St} (r : Reach s) : ∃ fs, FReach fs ∧ fs.base = s ∧ Quiet fs := by
  induction r with
  | init => exact ⟨finit, FReach.init, rfl, rfl, rfl, fun _ => rfl⟩
  | step a _ hs ih =>
    obtain ⟨fs, fr, hb, q⟩ := ih
    subst hb
    obtain ⟨fs', hrun, hb', q'⟩ := coarse_refines q hs
    exact ⟨fs', freach_runAllF fr hrun, hb', q'⟩

/-- non-vacuity: the coarse `witness` history, expanded -/
example : ∃ fs, FReach fs ∧ fs.base.client = some 1 ∧ Quiet fs := by
  have hcl : (runAll BrokerSessions.init witness).map (·.client) = some (some 1) := by decide
  cases h : runAll BrokerSessions.init witness with
  | none => rw [h] at hcl; cases hcl
  | some s =>
    rw [h] at hcl
    obtain ⟨fs, fr, hb, q⟩ := coarse_history_is_fine (reach_runAll Reach.init h)
    exact ⟨fs, fr, by rw [hb]; exact Option.some.inj hcl, q⟩

/-! #### Lock scopes regenerated from the source (`harness/factextract/facts_c16_locks.go`) -/

def firstIdx (l : List (String × String)) (a : String × String) : Nat :=
  match l with
  | [] => 0
  | x :: r => if x == a then 0 else firstIdx r a + 1

/-- both accesses occur and the first `a` precedes the first `b` in control-flow order -/
def evBefore (l : List (String × String)) (a b : String × String) : Bool :=
  l.contains a && l.contains b && decide (firstIdx l a < firstIdx l b)

/-- **lock_scopes.** The lock-scope list the fine model assumes, regenerated from the working tree
on every run (`(locks held, access)`; a lock is named by the type embedding the mutex):

* `handleConn`: under the broker lock exactly the accesses to `b.clients`, `go oldClient.close()` and
  `setSession` (= `lockConn … lkUnsub`); without any lock, after it, `updateEGName` (`storeSess`), then
  `allSubscribes` (`resubSnap`) before `topicMgr.subscribe` (`resubIns`) before `readLoop`;
  `setSession` takes no lock itself, calls `sessMgr.get` first and `allSubscribes` before
  `topicMgr.unsubscribe`;
* `closeAndDelSession`: ownership check, `delLocal`, `delDB`, `allSubscribes`, `topicMgr.unsubscribe`
  all under the broker lock (`tdHead; tdSnap; tdUnsub`), `c.close()` after it without (`close`/`wClose`);
* `removeClient`, `deleteSession`: every access under the broker lock (one step each);
* `processSubscribe`/`processUnsubscribe`: no lock of their own; the TopicManager call precedes the
  Session call (`subTM; subSess`, `unsubTM; unsubSess`);
* `Session.subscribe/unsubscribe/updateEGName`: topics update and `store()` under the Session lock;
  `store()` hands the encoded value to a goroutine (`doStore` is a separate, later step);
  `allSubscribes` reads the topics under the Session lock; `Client.close` flips the status flag and
  closes `done` under the Client lock; the TopicManager methods work under the TopicManager lock;
  the SessionManager methods take no lock (sync.Map / store operations). -/
theorem lock_scopes :
    Gen.FactsC16Locks.extractionFailed = false ∧
    -- handleConn
    Gen.FactsC16Locks.handleConnRegions =
      [("", ["Broker.connectionValidation", "Client.readLoop", "Session.allSubscribes", "Session.updateEGName",
             "TopicManager.subscribe", "go Client.writeLoop"]),
       ("Broker", ["Broker.clients.len", "Broker.clients.load", "Broker.clients.store", "Broker.setSession",
                   "go Client.close"])] ∧
    evBefore Gen.FactsC16Locks.handleConnEvents ("Broker", "Broker.setSession") ("", "Session.updateEGName") = true ∧
    evBefore Gen.FactsC16Locks.handleConnEvents ("Broker", "Broker.clients.store") ("", "Session.updateEGName") = true ∧
    evBefore Gen.FactsC16Locks.handleConnEvents ("", "Session.allSubscribes") ("", "TopicManager.subscribe") = true ∧
    evBefore Gen.FactsC16Locks.handleConnEvents ("", "Session.updateEGName") ("", "Client.readLoop") = true ∧
    evBefore Gen.FactsC16Locks.handleConnEvents ("", "TopicManager.subscribe") ("", "Client.readLoop") = true ∧
    Gen.FactsC16Locks.setSessionRegions =
      [("", ["Session.allSubscribes", "Session.cleanSession", "Session.close", "SessionManager.get",
             "SessionManager.newSessionFromConn", "TopicManager.unsubscribe"])] ∧
    evBefore Gen.FactsC16Locks.setSessionEvents ("", "SessionManager.get") ("", "Session.allSubscribes") = true ∧
    evBefore Gen.FactsC16Locks.setSessionEvents ("", "Session.allSubscribes") ("", "TopicManager.unsubscribe") = true ∧
    -- closeAndDelSession, removeClient, deleteSession, Client.close
    Gen.FactsC16Locks.closeAndDelSessionRegions =
      [("", ["Client.close"]),
       ("Broker", ["Broker.clients.load", "Session.allSubscribes", "Session.cleanSession", "SessionManager.delDB",
                   "SessionManager.delLocal", "TopicManager.unsubscribe"])] ∧
    evBefore Gen.FactsC16Locks.closeAndDelSessionEvents ("Broker", "Session.allSubscribes")
      ("Broker", "TopicManager.unsubscribe") = true ∧
    evBefore Gen.FactsC16Locks.closeAndDelSessionEvents ("Broker", "TopicManager.unsubscribe") ("", "Client.close") = true ∧
    Gen.FactsC16Locks.removeClientRegions =
      [("Broker", ["Broker.clients.delete", "Broker.clients.load", "Client.disconnected"])] ∧
    Gen.FactsC16Locks.deleteSessionRegions =
      [("Broker", ["Broker.clients.delete", "Broker.clients.load", "Client.close", "Client.disconnected"])] ∧
    Gen.FactsC16Locks.clientCloseRegions.lookup "Client" =
      some ["Client.disconnected", "Client.done.close", "Client.statusFlag.atomicStore"] := by
  -- the region tables are compared literally; only the order facts and the lookup are evaluated
  refine ⟨rfl, rfl, ?_, ?_, ?_, ?_, ?_, rfl, ?_, ?_, rfl, ?_, ?_, rfl, rfl, ?_⟩ <;> decide +kernel

/-- `lock_scopes`, continued: packet processing (no lock of its own, TopicManager before Session) -/
theorem lock_scopes_packets :
    Gen.FactsC16Locks.extractionFailed = false ∧
    Gen.FactsC16Locks.processSubscribeRegions =
      [("", ["Client.writePacket", "Session.subscribe", "TopicManager.subscribe"])] ∧
    evBefore Gen.FactsC16Locks.processSubscribeEvents ("", "TopicManager.subscribe") ("", "Session.subscribe") = true ∧
    Gen.FactsC16Locks.processUnsubscribeRegions =
      [("", ["Client.writePacket", "Session.unsubscribe", "TopicManager.unsubscribe"])] ∧
    evBefore Gen.FactsC16Locks.processUnsubscribeEvents ("", "TopicManager.unsubscribe") ("", "Session.unsubscribe") = true := by
  refine ⟨rfl, rfl, ?_, rfl, ?_⟩ <;> decide +kernel

/-- `lock_scopes`, continued: the own-lock scopes of Session / TopicManager, the lock-free
SessionManager, the asynchronous store -/
theorem lock_scopes_inner :
    Gen.FactsC16Locks.extractionFailed = false ∧
    Gen.FactsC16Locks.sessionSubscribeRegions = [("Session", ["Session.store", "SessionInfo.Topics.store"])] ∧
    Gen.FactsC16Locks.sessionUnsubscribeRegions = [("Session", ["Session.store", "SessionInfo.Topics.delete"])] ∧
    Gen.FactsC16Locks.sessionAllSubscribesRegions = [("Session", ["SessionInfo.Topics.range"])] ∧
    Gen.FactsC16Locks.sessionUpdateEGNameRegions = [("Session", ["Session.store"])] ∧
    Gen.FactsC16Locks.sessionStoreRegions = [("", ["Session.encode", "go Session.storeCh.send"])] ∧
    Gen.FactsC16Locks.sessMgrGetRegions =
      [("", ["SessionManager.newSessionFromYaml", "storage.get", "sync.Map.Load", "sync.Map.Store"])] ∧
    Gen.FactsC16Locks.sessMgrDelLocalRegions = [("", ["Session.close", "sync.Map.LoadAndDelete"])] ∧
    Gen.FactsC16Locks.sessMgrDelDBRegions = [("", ["storage.delete"])] ∧
    Gen.FactsC16Locks.sessMgrNewSessionFromConnRegions = [("", ["sync.Map.Store"])] ∧
    evBefore Gen.FactsC16Locks.sessMgrDoStoreEvents ("", "SessionManager.storeCh.recv") ("", "storage.put") = true ∧
    Gen.FactsC16Locks.topicMgrSubscribeRegions = [("TopicManager", ["TopicManager.getLevels", "TopicManager.insert"])] ∧
    Gen.FactsC16Locks.topicMgrUnsubscribeRegions = [("TopicManager", ["TopicManager.remove"])] :=
  ⟨rfl, rfl, rfl, rfl, rfl, rfl, rfl, rfl, rfl, rfl, by decide +kernel, rfl, rfl⟩

/-- non-vacuity of `evBefore`: it is false for the reversed pair -/
example : evBefore Gen.FactsC16Locks.processSubscribeEvents ("", "Session.subscribe") ("", "TopicManager.subscribe") = false := by
  decide

/-- **`Broker.handleConn`** — the whole connect program (first packet, validation, the locked section with
the takeover mark / cap check / registration / `setSession`, CONNACK, `updateEGName`, re-subscription from the
session, `readLoop`): refused for any reason ⇒ the broker state is untouched; CONNACK cannot be written ⇒ exactly
`connectLocked`; otherwise `connectLocked`, then the tail `connectTail`. -/
theorem handleConn_regenerated_from_source (s : St) (k : Nat) (clean readOK isConnect valid connackOK : Bool)
    (nclients maxConn : Int) :
    Gen.FactsC16IR.extractionFailed = false ∧
    Gen.FactsC16IR.handleConnIR s k clean readOK isConnect valid connackOK nclients maxConn =
      if accepted s readOK isConnect valid nclients maxConn then
        (if connackOK then connectTail (connectLocked true s k clean) k else connectLocked true s k clean)
      else s :=
  ⟨by decide, BrokerSessions.handleConn_regenerated_from_source s k clean readOK isConnect valid connackOK nclients maxConn⟩

/-- …and the accepted, acknowledged path is the model's atomic steps `connectLocked k; storeSess k; resubscribe k`
executed one after the other (what the interleaving theorems then break up). -/
theorem handleConn_is_three_steps (s : St) (k : Nat) (clean : Bool) (h : (s.conn k).pc = Pc.new) :
    ((step true s (.connectLocked k clean)).bind (fun s1 => step true s1 (.storeSess k))).bind
        (fun s2 => step true s2 (.resubscribe k)) =
      some (Gen.FactsC16IR.handleConnIR s k clean true true true true 0 0) := by
  rw [BrokerSessions.handleConn_steps_regenerated_from_source s k clean h,
    BrokerSessions.handleConn_regenerated_from_source]
  simp [accepted]

/-! ### The QoS of restored subscriptions (`Model/SessionQoS.lean`)

The step model above tracks *filters*. "A client that reconnects with cleanSession=false gets its previous
subscriptions back" is about filter AND QoS: re-subscribing a filter at another QoS must survive the reconnect
(seeded changes C15-m4, C16-m5: the session was persisted only when the set, resp. the number, of filters changed). -/

open EgVerif.SessionQoS in
/-- **Reconnect restores filter and QoS — every history.** After ANY history of SUBSCRIBE packets (any filters,
any QoS, re-subscriptions at another QoS included), UNSUBSCRIBE packets and persistent reconnects, the persisted
copy equals the live map and the routing table agrees with it; hence one more normal end + CONNECT with
cleanSession=false restores, in the session, in the persisted copy and in the TopicManager, exactly the live
subscriptions at disconnect — filter and QoS. -/
theorem reconnect_restores_qos (evs : List SessionQoS.Ev) :
    let s := evRun Q.init evs
    (step (step s .dropPersistent) .resume).live = s.live ∧
    (step (step s .dropPersistent) .resume).db = s.live ∧
    (∀ f, EgVerif.Topic.alGet f (step (step s .dropPersistent) .resume).tm = EgVerif.Topic.alGet f s.live) ∧
    s.db = s.live ∧ (∀ f, EgVerif.Topic.alGet f s.tm = EgVerif.Topic.alGet f s.live) := by
  intro s
  have inv := inv_evRun evs inv_init
  obtain ⟨h1, h2, h3⟩ := SessionQoS.reconnect_restores inv
  exact ⟨h1, h2, h3, inv.db, inv.tm⟩

open EgVerif.SessionQoS in
/-- **…and that QoS is the one last asked for**: after any such history, the QoS of a filter in the live session
(hence in the persisted copy and the routing table) is that of the latest SUBSCRIBE naming it, unless a later
UNSUBSCRIBE removed it; reconnects do not matter. This is the check the judge applies to every observed snapshot
(`qosCheck` in `Driver/C16.lean`). -/
theorem qos_is_last_subscribed (evs : List SessionQoS.Ev) (f : Nat) :
    EgVerif.Topic.alGet f (evRun Q.init evs).live = wantedAll (fun _ => none) evs f ∧
    EgVerif.Topic.alGet f (evRun Q.init evs).tm = wantedAll (fun _ => none) evs f ∧
    EgVerif.Topic.alGet f (evRun Q.init evs).db = wantedAll (fun _ => none) evs f := by
  have h := live_eq_wanted evs (fun _ => none) inv_init (fun _ => rfl) f
  have inv := inv_evRun evs inv_init
  exact ⟨h, by rw [inv.tm f, h], by rw [inv.db, h]⟩

/-- `Session.subscribe` regenerated from source: all filters written with their QoS, then stored unconditionally -/
theorem sessSubscribe_regenerated_from_source (fs : List (Nat × Nat)) (live db : SessionQoS.TMap) :
    Gen.FactsC16IR.extractionFailed = false ∧
    Gen.FactsC16IR.sessSubscribeIR (fs.map Prod.fst) (fs.map Prod.snd) live db = SessionQoS.sessSubscribe fs live :=
  ⟨by decide, SessionQoS.sessSubscribe_regenerated_from_source fs live db⟩

/-- `Session.unsubscribe` regenerated from source -/
theorem sessUnsubscribe_regenerated_from_source (fs : List Nat) (live db : SessionQoS.TMap) :
    Gen.FactsC16IR.extractionFailed = false ∧
    Gen.FactsC16IR.sessUnsubscribeIR fs live db = SessionQoS.sessUnsubscribe fs live :=
  ⟨by decide, SessionQoS.sessUnsubscribe_regenerated_from_source fs live db⟩

/-- `Session.allSubscribes` regenerated from source -/
theorem allSubscribes_regenerated_from_source (live : SessionQoS.TMap) :
    Gen.FactsC16IR.extractionFailed = false ∧ Gen.FactsC16IR.allSubscribesIR live = SessionQoS.allSubs live :=
  ⟨by decide, SessionQoS.allSubscribes_regenerated_from_source live⟩

/-- non-vacuity: subscribe 7@0, re-subscribe 7@1 (same filter set!), 9@0, unsubscribe 9, reconnect: topic 7 is
restored with QoS 1 everywhere -/
example :
    let s := SessionQoS.evRun SessionQoS.Q.init
      [.subscribe [(7, 0)], .subscribe [(7, 1), (9, 0)], .unsubscribe [9], .reconnect]
    s.live = [(7, 1)] ∧ s.db = [(7, 1)] ∧ s.tm = [(7, 1)] := by decide

/-! ### The origin of delete events

`OSt` / `ostep` (end of `Model/BrokerSessions.lean`) add to the coarse model the ORIGIN of every queued delete
event of the session store: the teardown of a connection (`delDB` of a clean session) or the admin endpoint.
`ostep false` is the CURRENT code (every delivered event runs `deleteSession`; this is what the judge
replays); `ostep true` is the PROPOSED repair `fixes/C16-own-delete-event.patch`, which is NOT applied to
/repo — the theorems about it are labelled "proposed repair" and say what the patch would and would not
achieve. The clause of C16 "the teardown of the superseded connection, whenever it happens, never removes the
new connection's … registration" FAILS on the current code: `stale_teardown_event_disconnects_new_connection`
(known finding `C16-own-delete-event`). -/

/-- states of the model with origins reachable from the empty broker; `fixed = false`: the current code,
`fixed = true`: with the proposed repair (the takeover-teardown patch is in either way) -/
inductive OReach (fixed : Bool) : OSt → Prop
  | init : OReach fixed oinit
  | step {s s' : OSt} (a : Act) : OReach fixed s → ostep fixed s a = some s' → OReach fixed s'

theorem oreach_inv {fixed : Bool} {s : OSt} (r : OReach fixed s) : OInv fixed s := by
  induction r with
  | init => exact oinv_init fixed
  | step a _ hs ih => exact oinv_step ih hs

/-- **origin_queue_sound.** In every reachable state (current code and proposed repair): the ghost queue
lists exactly the events in flight; the counter of the proposed repair never exceeds the number of queued
teardown-origin events (and is 0 in the current code); the connection whose teardown emitted a queued event
has ended (it is past its read loop or disconnected); and the base state still satisfies the invariant of
the coarse model — the registered, live, re-subscribed connection has its open session in the session map
with all its topics routed, and no `Session.close()` hit a closed session. -/
theorem origin_queue_sound {fixed : Bool} {s : OSt} (r : OReach fixed s) :
    s.origins.length = s.base.watch ∧ s.own ≤ countT s.origins ∧ (fixed = false → s.own = 0) ∧
    (∀ j, Origin.teardownOf j ∈ s.origins → ended s.base j) ∧
    (∀ k, s.base.client = some k → (s.base.conn k).disc = false → (s.base.conn k).pc = Pc.running →
      s.base.sessMap = some (s.base.conn k).sess ∧ (s.base.sess (s.base.conn k).sess).closed = false ∧
      ∀ f ∈ (s.base.sess (s.base.conn k).sess).topics, f ∈ s.base.topicMgr) ∧
    s.base.doubleClose = false := by
  have h := oreach_inv r
  exact ⟨h.len, h.ownLe, h.ownZero, h.tdEnded, intact_of_inv h.inv, h.inv.noDouble⟩

/-- takeover racing with the teardown: connection 0 (clean session) ends, its teardown runs (`delDB` ⇒ a delete
event) but its `c.close()` / `removeClient` are still pending; connection 1 takes the id over and
subscribes; then the event fires. -/
def staleTakeover : List Act :=
  [.connectLocked 0 true, .storeSess 0, .resubscribe 0, .noticeEnd 0, .cleanup 0,
   .connectLocked 1 true, .storeSess 1, .resubscribe 1, .subscribe 1 7, .close 0, .remove 0, .watchFires]

/-- plain reconnect: connection 0 is completely gone before connection 1 connects -/
def staleReconnect : List Act :=
  [.connectLocked 0 true, .storeSess 0, .resubscribe 0, .noticeEnd 0, .cleanup 0, .close 0, .remove 0,
   .connectLocked 1 true, .storeSess 1, .resubscribe 1, .subscribe 1 7, .watchFires]

/-- **The current code violates the property** (witness; every step of both runs is enabled): the event that
fires last was emitted by connection 0's own teardown (`teardownOf 0`), connection 1 is registered, live and
in its read loop — and the event disconnects and unregisters connection 1. Known finding
`C16-own-delete-event`, judge sig `stale-teardown-event:new-connection-disconnected`. This is the negation
witness of the unconditional form of `teardown_event_never_disconnects_partial`. -/
theorem stale_teardown_event_disconnects_new_connection :
    (∀ l ∈ [staleTakeover, staleReconnect],
      ((orunAll false oinit l.dropLast).map (fun s =>
        decide (s.origins = [Origin.teardownOf 0] ∧ s.base.client = some 1 ∧ (s.base.conn 1).disc = false ∧
          (s.base.conn 1).pc = Pc.running))) = some true ∧
      ((orunAll false oinit l).map (fun s =>
        decide (s.base.client = none ∧ (s.base.conn 1).disc = true))) = some true) := by decide

/-- a **stale delivery**: the step delivers a teardown-origin delete event of connection `j` while ANOTHER
connection is registered under the id — one that registered after `j`'s teardown emitted the event -/
def staleDelivery (s : OSt) : Act → Bool
  | .watchFires =>
    match s.origins, s.base.client with
    | Origin.teardownOf j :: _, some k => k != j
    | _, _ => false
  | _ => false

/-- histories of the CURRENT code in which no teardown-origin delete event is delivered after a later
connection registered under the id -/
inductive OReachNoStale : OSt → Prop
  | init : OReachNoStale oinit
  | step {s s' : OSt} (a : Act) : OReachNoStale s → staleDelivery s a = false → ostep false s a = some s' →
      OReachNoStale s'

theorem noStale_reach {s : OSt} (r : OReachNoStale s) : OReach false s := by
  induction r with
  | init => exact OReach.init
  | step a _ _ hs ih => exact OReach.step a ih hs

/-- **teardown_event_own_connection_harmless** — any delivered event (current code: every event). The event at
the head of the queue was emitted by connection `j`'s teardown; `j` has ended. `deleteSession` touches nothing
but the registration and the registered connection's flags: session map, session objects, persisted copy,
TopicManager and the record of every connection that is not the registered one stay. So when `j` itself is
still the registered one (or nobody is), the event changes nothing that matters — the defect needs ANOTHER
connection to be registered by then. -/
theorem teardown_event_own_connection_harmless {fixed : Bool} {s s' : OSt} (r : OReach fixed s) {j : Nat}
    {rest : List Origin} (ho : s.origins = Origin.teardownOf j :: rest)
    (hs : ostep fixed s Act.watchFires = some s') :
    ended s.base j ∧ s'.base.sessMap = s.base.sessMap ∧ s'.base.sess = s.base.sess ∧ s'.base.db = s.base.db ∧
    s'.base.topicMgr = s.base.topicMgr ∧ ∀ k, s.base.client ≠ some k → s'.base.conn k = s.base.conn k := by
  have hi := oreach_inv r
  refine ⟨hi.tdEnded j (by rw [ho]; simp), ?_⟩
  obtain ⟨_, hc⟩ := watchFires_cases hs
  rcases hc with ⟨_, _, e⟩ | ⟨_, e⟩
  · subst e; exact ⟨rfl, rfl, rfl, rfl, fun _ _ => rfl⟩
  · subst e
    obtain ⟨h1, h2, h3, h4, _, h6⟩ := deleteSession_frame s.base
    exact ⟨h1, h2, h3, h4, h6⟩

/-- **teardown_event_never_disconnects_partial** — the CURRENT code, with the excluding hypothesis spelled
out: the history (and the step at hand) delivers no teardown-origin delete event after a later connection
registered under the id (`staleDelivery … = false`). Then the delivery of a teardown-origin event of
connection `j` is harmless: `j` has ended (it is past its read loop, or disconnected); the session map, every
session object, the persisted copy and the TopicManager are untouched; the record of every connection other
than `j` is untouched and none of them is registered; and every connection that is registered, live and
between registration and the end of its read loop (`alive`) before the step still is afterwards.

The unconditional statement is FALSE for the current code: `stale_teardown_event_disconnects_new_connection`
(known finding `C16-own-delete-event`). -/
theorem teardown_event_never_disconnects_partial {s s' : OSt} (r : OReachNoStale s) {j : Nat} {rest : List Origin}
    (ho : s.origins = Origin.teardownOf j :: rest) (hno : staleDelivery s Act.watchFires = false)
    (hs : ostep false s Act.watchFires = some s') :
    ended s.base j ∧ s'.base.sessMap = s.base.sessMap ∧ s'.base.sess = s.base.sess ∧ s'.base.db = s.base.db ∧
    s'.base.topicMgr = s.base.topicMgr ∧
    (∀ k, k ≠ j → s'.base.conn k = s.base.conn k ∧ s.base.client ≠ some k) ∧
    (∀ k, alive s.base k → alive s'.base k) := by
  obtain ⟨hend, h1, h2, h3, h4, h6⟩ := teardown_event_own_connection_harmless (noStale_reach r) ho hs
  -- the delivery is not stale: nobody but `j` is registered
  have hcl : ∀ k, s.base.client = some k → k = j := by
    intro k hk
    simp only [staleDelivery, ho, hk, bne_eq_false_iff_eq] at hno
    exact hno
  refine ⟨hend, h1, h2, h3, h4, ?_, ?_⟩
  · intro k hk
    have hnk : s.base.client ≠ some k := fun e => hk (hcl k e)
    exact ⟨h6 k hnk, hnk⟩
  · intro k ha
    cases hcl k ha.1
    exact absurd ha (not_alive_of_ended hend)

/-- **teardown_event_hits_alive_only_if_stale** — the current code, every reachable state: if the event at the
head of the queue is a teardown-origin event of `j` and a connection `k` is registered, live and active, then
`k ≠ j` — the delivery IS a stale one. So the stale delivery is the ONLY way the echo of a teardown can
disconnect a live connection. -/
theorem teardown_event_hits_alive_only_if_stale {fixed : Bool} {s : OSt} (r : OReach fixed s) {j k : Nat}
    {rest : List Origin} (ho : s.origins = Origin.teardownOf j :: rest) (ha : alive s.base k) :
    k ≠ j ∧ staleDelivery s Act.watchFires = true := by
  have hend : ended s.base j := (oreach_inv r).tdEnded j (by rw [ho]; simp)
  have hkj : k ≠ j := fun e => not_alive_of_ended hend (e ▸ ha)
  refine ⟨hkj, ?_⟩
  simp [staleDelivery, ho, ha.1, hkj]

/-- **admin_event_disconnects_victim** — "deleting a session through the admin endpoint disconnects that
client", current code AND proposed repair, every reachable state. The delete event at the head of the queue
stems from an admin delete issued while connection `v` was registered. After its handling `v` is not the
registered live connection — in the current code because the event is delivered (`deleteSession`); in the
proposed repair also when it is taken for an expected echo and dropped (which happens only when a
teardown-origin event is queued behind it; then `v` had already gone). -/
theorem admin_event_disconnects_victim {fixed : Bool} {s s' : OSt} (r : OReach fixed s) {v : Nat} {rest : List Origin}
    (ho : s.origins = Origin.admin (some v) :: rest) (hs : ostep fixed s Act.watchFires = some s') :
    ¬ (s'.base.client = some v ∧ (s'.base.conn v).disc = false ∧ (s'.base.conn v).pc.active = true) :=
  admin_event_victim_gone (oreach_inv r) ho hs

/-- **delete_event_delivered** — the current code: EVERY delete event, whatever its origin, runs
`deleteSession`: whoever is registered is marked disconnected and unregistered (for an admin-origin event
this is the clause "deleting a session through the admin endpoint disconnects that client", as
`admin_delete_disconnects`; for a teardown-origin event it is the defect when the delivery is stale). -/
theorem delete_event_delivered {s s' : OSt} (hs : ostep false s Act.watchFires = some s') :
    s'.base.client = none ∧ ∀ o, s.base.client = some o → (s'.base.conn o).disc = true :=
  delivered_event_disconnects (Or.inl rfl) hs

/-- all-or-nothing execution on the current code that also checks that no step is a stale delivery -/
def orunNoStale : OSt → List Act → Option OSt
  | s, [] => some s
  | s, a :: rest => if staleDelivery s a then none else (ostep false s a).bind (fun s' => orunNoStale s' rest)

theorem noStale_orunNoStale {s s' : OSt} {l : List Act} (r : OReachNoStale s) (h : orunNoStale s l = some s') :
    OReachNoStale s' := by
  induction l generalizing s with
  | nil => simp [orunNoStale] at h; subst h; exact r
  | cons a rest ih =>
    simp only [orunNoStale] at h
    split at h
    · cases h
    · rename_i ho
      obtain ⟨s1, hs, h⟩ := Option.bind_eq_some_iff.mp h
      exact ih (OReachNoStale.step a r (Bool.eq_false_iff.mpr ho) hs) h

/-- `teardown_event_never_disconnects_partial` is not vacuous: a history of the current code without a stale
delivery that ends with connection 0's teardown-origin event at the head of the queue, (a) while connection 0
itself is still registered (`cleanup 0` done, `close 0` pending), (b) after connection 0 is completely gone
and nobody is registered; in both the delivery is not stale and is enabled. And the two stale histories are
rejected by `orunNoStale` exactly at their last step. -/
example :
    (∀ l ∈ [[Act.connectLocked 0 true, .storeSess 0, .resubscribe 0, .noticeEnd 0, .cleanup 0],
            [Act.connectLocked 0 true, .storeSess 0, .resubscribe 0, .noticeEnd 0, .cleanup 0, .close 0, .remove 0]],
      ((orunNoStale oinit l).map (fun s =>
        decide (s.origins = [Origin.teardownOf 0]) && !staleDelivery s Act.watchFires &&
          (ostep false s Act.watchFires).isSome)) = some true) ∧
    (∀ l ∈ [staleTakeover, staleReconnect],
      ((orunNoStale oinit l.dropLast).map (fun s => staleDelivery s Act.watchFires)) = some true ∧
      (orunNoStale oinit l).isNone = true) := by decide

example : OReachNoStale ((orunNoStale oinit staleTakeover.dropLast).getD oinit) := by
  cases h : orunNoStale oinit staleTakeover.dropLast with
  | none => exact OReachNoStale.init
  | some s' => exact noStale_orunNoStale OReachNoStale.init h

/-- `teardown_event_hits_alive_only_if_stale`: before the last step of `staleReconnect` connection 1 is alive
and the head of the queue is `teardownOf 0`. `admin_event_disconnects_victim` / `delete_event_delivered`: an
admin-origin event (victim: connection 0, registered and live) at the head of the queue. -/
example :
    ((orunAll false oinit staleReconnect.dropLast).map (fun s =>
      decide (s.origins = [Origin.teardownOf 0] ∧ s.base.client = some 1 ∧ (s.base.conn 1).disc = false ∧
        (s.base.conn 1).pc.active = true))) = some true ∧
    ((orunAll false oinit [.connectLocked 0 false, .storeSess 0, .resubscribe 0, .adminDelete]).map (fun s =>
      decide (s.origins = [Origin.admin (some 0)] ∧ s.base.client = some 0 ∧ (s.base.conn 0).disc = false))) = some true := by
  decide

/-! #### The PROPOSED repair `fixes/C16-own-delete-event.patch` (`ostep true`) — NOT applied to /repo

The patch is not committed to /repo (bookkeeping per client id, an extra `store.get` per clean teardown, the
residual below, no help across cluster members). The judge and the harness check the CURRENT code; nothing below
is tied to /repo. The theorems record what the counting repair would achieve. -/

/-- *(proposed repair)* the two stale histories with the patch: every step is enabled, the event is dropped,
connection 1 stays registered and live with its session and its subscription -/
theorem repaired_ignores_stale_teardown_event :
    (∀ l ∈ [staleTakeover, staleReconnect],
      ((orunAll true oinit l).map (fun s =>
        decide (s.base.client = some 1 ∧ (s.base.conn 1).disc = false ∧ s.base.sessMap = some (s.base.conn 1).sess ∧
          s.base.topicMgr = [7] ∧ s.base.watch = 0 ∧ s.origins = [] ∧ s.own = 0))) = some true) := by decide

/-- *(proposed repair)* **expected_event_dropped.** While the repaired broker still expects the echo of an own
delete (`own > 0`), the next delete event is dropped: registration, every connection record, session map,
session objects, persisted copy and TopicManager are untouched; only the event is gone. -/
theorem expected_event_dropped {s s' : OSt} (hown : 0 < s.own) (hs : ostep true s Act.watchFires = some s') :
    s'.base.client = s.base.client ∧ s'.base.conn = s.base.conn ∧ s'.base.sessMap = s.base.sessMap ∧
    s'.base.sess = s.base.sess ∧ s'.base.db = s.base.db ∧ s'.base.topicMgr = s.base.topicMgr ∧
    s'.base.watch = s.base.watch - 1 ∧ s'.origins = s.origins.tail ∧ s'.own = s.own - 1 := by
  obtain ⟨_, hc⟩ := watchFires_cases hs
  rcases hc with ⟨_, _, rfl⟩ | ⟨hz, _⟩
  · exact ⟨rfl, rfl, rfl, rfl, rfl, rfl, rfl, rfl, rfl⟩
  · rcases hz with hz | hz
    · cases hz
    · omega

/-- *(proposed repair)* histories in which no admin-origin event is delivered while a teardown-origin event is
queued behind it (`overtakes`) -/
inductive OReachCalm : OSt → Prop
  | init : OReachCalm oinit
  | step {s s' : OSt} (a : Act) : OReachCalm s → overtakes s a = false → ostep true s a = some s' → OReachCalm s'

theorem calm_reach {s : OSt} (r : OReachCalm s) : OReach true s := by
  induction r with
  | init => exact OReach.init
  | step a _ _ hs ih => exact OReach.step a ih hs

/-- *(proposed repair)* in such histories the bookkeeping is exact -/
theorem calm_exact {s : OSt} (r : OReachCalm s) : s.own = countT s.origins := by
  induction r with
  | init => rfl
  | step a r0 hno hs ih => exact exact_step (oreach_inv (calm_reach r0)) ih hs hno

/-- *(proposed repair)* **proposed_repair_ignores_teardown_events** — every history without an overtaken admin
event, every point of it: the handling of a teardown-origin event at the head of the queue is enabled and
changes NOTHING but the queue — whoever is registered by now keeps registration, record, session map entry,
session objects, persisted copy and TopicManager entries. For EVERY reachable state of the repaired code
the statement is false (`repaired_residual_overtaken_admin_event`): one of the reasons the patch is not applied. -/
theorem proposed_repair_ignores_teardown_events {s : OSt} (r : OReachCalm s) {j : Nat} {rest : List Origin}
    (ho : s.origins = Origin.teardownOf j :: rest) :
    ∃ s', ostep true s Act.watchFires = some s' ∧
      s'.base.client = s.base.client ∧ s'.base.conn = s.base.conn ∧ s'.base.sessMap = s.base.sessMap ∧
      s'.base.sess = s.base.sess ∧ s'.base.db = s.base.db ∧ s'.base.topicMgr = s.base.topicMgr ∧
      s'.base.watch = s.base.watch - 1 ∧ s'.origins = rest := by
  have hi := oreach_inv (calm_reach r)
  have hen := watchFires_enabled hi (by rw [ho]; simp)
  cases hs : ostep true s Act.watchFires with
  | none => simp [hs] at hen
  | some s' =>
    have hown := exact_teardown_head (calm_exact r) ho
    obtain ⟨h1, h2, h3, h4, h5, h6, h7, h8, _⟩ := expected_event_dropped hown hs
    exact ⟨s', rfl, h1, h2, h3, h4, h5, h6, h7, by rw [h8, ho]; rfl⟩

/-- *(proposed repair)* an admin-origin event with no teardown-origin event queued behind it is delivered -/
theorem proposed_repair_admin_event_delivered {s s' : OSt} (r : OReachCalm s) {c : Option Nat} {rest : List Origin}
    (ho : s.origins = Origin.admin c :: rest) (hq : countT rest = 0)
    (hs : ostep true s Act.watchFires = some s') :
    s'.base.client = none ∧ ∀ o, s.base.client = some o → (s'.base.conn o).disc = true := by
  have he := calm_exact r
  rw [ho, countT_cons_admin, hq] at he
  exact delivered_event_disconnects (Or.inr he) hs

/-- the residual of the proposed repair: connection 0 (clean session) is connected; an admin delete of the id is
issued but its event is not yet delivered; connection 0 subscribes (the session is stored again) and ends (own
`delDB`: the broker now expects ONE echo); connection 1 connects; the admin event arrives first and is taken
for the echo; then the echo itself arrives, unexpected. -/
def residualRun : List Act :=
  [.connectLocked 0 true, .storeSess 0, .resubscribe 0, .adminDelete, .subscribe 0 7, .noticeEnd 0, .cleanup 0,
   .close 0, .remove 0, .connectLocked 1 true, .storeSess 1, .resubscribe 1, .watchFires, .watchFires]

/-- *(proposed repair)* **its residual** (witness, every step enabled): before the last step the queue holds only
connection 0's teardown-origin event, the broker expects nothing (`own = 0` — the admin event used the slot
up), connection 1 is registered, live and in its read loop; the event is handled like a foreign delete and
disconnects connection 1. Reproduced on the real broker with the patch applied
(`connect 0 clean; admindel; sub 0 f; drop 0; connect 1 clean; watch; watch`). -/
theorem repaired_residual_overtaken_admin_event :
    ((orunAll true oinit residualRun.dropLast).map (fun s =>
        decide (s.origins = [Origin.teardownOf 0] ∧ s.own = 0 ∧ s.base.client = some 1 ∧
          (s.base.conn 1).disc = false ∧ (s.base.conn 1).pc = Pc.running))) = some true ∧
    ((orunAll true oinit residualRun).map (fun s =>
        decide (s.base.client = none ∧ (s.base.conn 1).disc = true))) = some true ∧
    ((orunAll true oinit (residualRun.take 12)).map (fun s => overtakes s Act.watchFires)) = some true := by
  decide

/-- all-or-nothing execution of the proposed repair that also checks that no step overtakes -/
def orunCalm : OSt → List Act → Option OSt
  | s, [] => some s
  | s, a :: rest => if overtakes s a then none else (ostep true s a).bind (fun s' => orunCalm s' rest)

theorem calm_orunCalm {s s' : OSt} {l : List Act} (r : OReachCalm s) (h : orunCalm s l = some s') : OReachCalm s' := by
  induction l generalizing s with
  | nil => simp [orunCalm] at h; subst h; exact r
  | cons a rest ih =>
    simp only [orunCalm] at h
    split at h
    · cases h
    · rename_i ho
      obtain ⟨s1, hs, h⟩ := Option.bind_eq_some_iff.mp h
      exact ih (OReachCalm.step a r (Bool.eq_false_iff.mpr ho) hs) h

/-- non-vacuity *(proposed repair)*: both stale histories, up to the last step, are calm histories that end with
connection 0's teardown-origin event at the head of the queue while connection 1 is registered, live and in
its read loop; the dropped-admin-event case of `admin_event_disconnects_victim` is met by `residualRun.take 12`;
`delDB` with nothing stored emits nothing. -/
example :
    (∀ l ∈ [staleTakeover, staleReconnect],
      ((orunCalm oinit l.dropLast).map (fun s =>
        decide (s.origins = [Origin.teardownOf 0] ∧ s.own = 1 ∧ s.base.client = some 1 ∧
          (s.base.conn 1).disc = false ∧ (s.base.conn 1).pc = Pc.running))) = some true) ∧
    ((orunAll true oinit (residualRun.take 12)).map (fun s =>
      decide (s.origins = [Origin.admin (some 0), Origin.teardownOf 0] ∧ s.own = 1 ∧ s.base.client = some 1))) = some true ∧
    ((orunAll true oinit [.connectLocked 0 true, .storeSess 0, .resubscribe 0, .adminDelete, .watchFires,
        .noticeEnd 0, .cleanup 0]).map (fun s => decide (s.origins = [] ∧ s.own = 0 ∧ s.base.watch = 0))) = some true := by
  decide

example : OReachCalm ((orunCalm oinit staleTakeover.dropLast).getD oinit) := by
  cases h : orunCalm oinit staleTakeover.dropLast with
  | none => exact OReachCalm.init
  | some s' => exact calm_orunCalm OReachCalm.init h

/-! #### The executable spec accepts the model's delivery of a delete event; `clean_discards` at fine granularity -/

/-- the state between two macro actions: the registered live connection is in its read loop -/
def Quiescent (s : St) : Prop :=
  ∀ k, s.client = some k → (s.conn k).disc = false → (s.conn k).pc = Pc.running

/-- **violation_accepts_model_partial** — the executable spec accepts the model's own behaviour (the model of the
CURRENT code, `ostep false`, which the judge replays), for the delivery of a delete event. (The acceptance of the
other macro actions — connect / sub / unsub / drop / par — is NOT proved: it needs the macro-level invariant and
every interleaving of `par`.) `s` is any reachable state; the
oldest queued event is handled (`watch`); `s.origins.head?` is its origin, as the judge tracks it
(`Track.head`). Then `Spec.violation` accepts the step, and the origin clause `watchViolation` accepts it too
— except in exactly one case, which it reports with the sig of the known finding `C16-own-delete-event`: a
STALE delivery (`staleDelivery`: a teardown-origin event of `j` while another connection is registered) that
hits a connection which is not already disconnected. -/
theorem violation_accepts_model_partial {s s' : OSt} (hs : ostep false s Act.watchFires = some s') :
    violation (project s.base) MAct.watch false (project s'.base) = none ∧
    (watchViolation s.origins.head? (project s.base) (project s'.base) = none ∨
      (staleDelivery s Act.watchFires = true ∧
        watchViolation s.origins.head? (project s.base) (project s'.base) =
          some "stale-teardown-event:new-connection-disconnected")) := by
  obtain ⟨_, hc⟩ := watchFires_cases hs
  rcases hc with ⟨hf, _, _⟩ | ⟨_, e⟩
  · cases hf
  · subst e
    have hreg : (project ({ deleteSession s.base with watch := s.base.watch - 1 } : St)).reg = none := by
      show (deleteSession s.base).client = none
      cases hcl : s.base.client <;> simp [deleteSession, hcl]
    constructor
    · simp [violation, intact, hreg]
    · cases ho : s.origins with
      | nil => left; simp [watchViolation]
      | cons o rest =>
        cases o with
        | admin c => left; simp [watchViolation, hreg]
        | teardownOf j =>
          simp only [List.head?_cons, watchViolation, hreg]
          have hpr : (project s.base).reg = s.base.client := rfl
          cases hp : s.base.client with
          | none => left; simp [hpr, hp]
          | some k =>
            simp only [hpr, hp]
            by_cases hk : (k != j && !(project s.base).regDisc) = true
            · right
              simp only [Bool.and_eq_true] at hk
              refine ⟨by simp [staleDelivery, ho, hp, hk.1], ?_⟩
              simp [hk.1, hk.2]
            · left
              have : (k != j && !(project s.base).regDisc && (none != some k || (project ({ deleteSession s.base with watch := s.base.watch - 1 } : St)).regDisc)) = false := by
                simp only [Bool.not_eq_true] at hk; simp [hk]
              simp [this]

/-- non-vacuity of `violation_accepts_model_partial`, both outcomes: before the last step of `staleReconnect` the
head is connection 0's teardown-origin event and connection 1 is registered, live and in its read loop (the
known-finding branch); after `connect 0; admindel` the head is an admin-origin event (accepted). -/
example :
    ((orunAll false oinit staleReconnect.dropLast).map (fun s =>
      decide (s.base.client = some 1 ∧ (s.base.conn 1).disc = false ∧ (s.base.conn 1).pc = Pc.running ∧
        intact (project s.base) = true ∧ s.origins = [Origin.teardownOf 0]) && staleDelivery s Act.watchFires)) = some true ∧
    ((orunAll false oinit [.connectLocked 0 false, .storeSess 0, .resubscribe 0, .adminDelete]).map (fun s =>
      (ostep false s Act.watchFires).isSome && decide (s.origins = [Origin.admin (some 0)]))) = some true := by decide

/-- **clean_discards_fine** — `clean_discards` at the fine granularity. The stored session of the id (local
map, else the persisted copy) has topics `F` and clean flag `c`; connection `k` connects with
`clean = true` or the stored session is a clean one. For EVERY placement `t₁ t₂ t₃` of fine teardown steps of
other connections inside `k`'s broker-locked section (`lockConn k; t₁; lkGet k; t₂; lkSnap k; t₃; lkUnsub k` —
between the registration and `sessMgr.get`, between `get` and `prevSess.allSubscribes()`, between the
snapshot and `topicMgr.unsubscribe`): `k` ends registered with a NEW session without topics and with its own
clean flag, that session is the one in the session map, the broker lock is free again, none of `F` is routed
to the id any more, and the session that was in the session map is closed. -/
theorem clean_discards_fine {s s' : FSt} (r : FReach s) {k : Nat} {clean c : Bool} {F : List Nat}
    {t₁ t₂ t₃ : List FAct}
    (hst : storedSess s.base = some (F, c)) (hcl : clean = true ∨ c = true) (hfresh : (s.base.conn k).disc = false)
    (h₁ : OthersTeardownF k t₁) (h₂ : OthersTeardownF k t₂) (h₃ : OthersTeardownF k t₃)
    (hrun : runAllF s (FAct.lockConn k clean :: (t₁ ++ FAct.lkGet k :: (t₂ ++ FAct.lkSnap k :: (t₃ ++
      [FAct.lkUnsub k])))) = some s') :
    s'.base.client = some k ∧ s'.base.sessMap = some (s'.base.conn k).sess ∧
    (s'.base.sess (s'.base.conn k).sess).topics = [] ∧ (s'.base.sess (s'.base.conn k).sess).clean = clean ∧
    (s'.base.sess (s'.base.conn k).sess).closed = false ∧
    (∀ f ∈ F, f ∉ s'.base.topicMgr) ∧ (∀ q, s.base.sessMap = some q → (s'.base.sess q).closed = true) ∧
    s'.lock = Lk.free := by
  have hi := reach_inv_fine r
  obtain ⟨s1, hs1, h⟩ := runAllF_cons_eq_some.mp hrun
  obtain ⟨s2, hr1, h⟩ := runAllF_append_eq_some.mp h
  obtain ⟨s3, hs2, h⟩ := runAllF_cons_eq_some.mp h
  obtain ⟨s4, hr3, h⟩ := runAllF_append_eq_some.mp h
  obtain ⟨s5, hs4, h⟩ := runAllF_cons_eq_some.mp h
  obtain ⟨s6, hr5, h⟩ := runAllF_append_eq_some.mp h
  obtain ⟨s7, hs6, h⟩ := runAllF_cons_eq_some.mp h
  simp only [runAllF, Option.some.injEq] at h
  have hnot : (!clean && !c) = false := by rcases hcl with h | h <;> simp [h]
  -- `lockConn k clean; t₁`
  obtain ⟨hi2, hlock2, hcl2, hd2, hsm2, hse2, hdb2, htm2⟩ := lockConn_frame hi hfresh h₁ hs1 hr1
  -- lkGet: the discard branch; `r0` = the session that is discarded
  have hi3 := finv_step hi2 hs2
  have key : ∃ r0, s3.lock = Lk.connSnap k clean r0 ∧ s3.base.client = some k ∧ (s3.base.conn k).disc = false ∧
      s3.base.sessMap = some r0 ∧ (s3.base.sess r0).topics = F ∧ s3.base.topicMgr = s.base.topicMgr ∧
      (∀ q, s.base.sessMap = some q → q = r0) := by
    obtain ⟨r0, g2, gtop, gcl, gsm, guniq, gclient, gconn, gtm, -⟩ :=
      getSess_stored ((storedSess_congr hsm2 hse2 hdb2).trans hst)
    simp only [fstep, hlock2, if_true, g2, gcl, hnot] at hs2
    cases hs2
    exact ⟨r0, rfl, gclient.trans hcl2, by rw [gconn]; exact hd2, gsm, gtop, gtm.trans htm2,
      fun q hq => guniq q (hsm2.trans hq)⟩
  obtain ⟨r0, hlock3, hcl3, hd3, hsm3, htop3, htm3, hq3⟩ := key
  -- t₂
  have f3 := frame_run_fine h₂ hi3 hcl3 hd3 hr3
  have hi4 := finv_runAllF hi3 hr3
  have hlock4 : s4.lock = Lk.connSnap k clean r0 := f3.lock.trans hlock3
  -- lkSnap
  have hi5 := finv_step hi4 hs4
  simp only [fstep, hlock4, if_true, Option.some.injEq] at hs4
  subst hs4
  have htop4 : (s4.base.sess r0).topics = F := by rw [f3.base.sess]; exact htop3
  -- t₃
  have f5 := frame_run_fine h₃ hi5 (f3.base.client.trans hcl3) (by rw [f3.base.conn]; exact hd3) hr5
  have hi6 := finv_runAllF hi5 hr5
  have hlock6 : s6.lock = Lk.connUnsub k clean r0 F := by rw [f5.lock]; simp [htop4]
  have hsm6 : s6.base.sessMap = some r0 := by rw [f5.base.sessMap]; exact f3.base.sessMap.trans hsm3
  have hlt : r0 < s6.base.nextSess := (hi6.openS r0 hsm6).2
  have hne : r0 ≠ s6.base.nextSess := by omega
  have hcl6 : s6.base.client = some k := by rw [f5.base.client]; exact f3.base.client.trans hcl3
  -- lkUnsub
  simp only [fstep, hlock6, if_true, Option.some.injEq] at hs6
  subst hs6; subst h
  refine ⟨by simp [newSession, closeSess, hcl6], by simp [newSession, closeSess], by simp [newSession, closeSess],
    by simp [newSession, closeSess], by simp [newSession, closeSess], ?_, ?_, rfl⟩
  · intro f hf; simp [newSession, closeSess, mem_delAll, hf]
  · intro q hq; rw [hq3 q hq]; simp [newSession, closeSess, upd_other _ _ hne]

/-- non-vacuity of `clean_discards_fine`: connection 0 holds a persistent session with topic 7 (fine steps),
connection 1 connects with cleanSession=true while connection 0's read loop notices its end inside 1's
locked section: every step is enabled; the start state is fine-reachable with the stored session `([7], false)`. -/
example :
    let pre : List FAct := [.lockConn 0 false, .lkGet 0, .storeSess 0, .doStore 0, .resubSnap 0, .resubIns 0,
      .subTM 0 7, .subSess 0, .doStore 0]
    let s := (runAllF finit pre).getD finit
    (runAllF finit pre).isSome = true ∧ storedSess s.base = some ([7], false) ∧ (s.base.conn 1).disc = false ∧
    (runAllF s ([.lockConn 1 true] ++ [.noticeEnd 0] ++ [.lkGet 1] ++ [.lkSnap 1] ++ [.lkUnsub 1])).isSome = true := by
  decide

/-! #### The hypothesis of `reconnect_restores` is met by a theorem -/

/-- the steps connection `k` takes itself between its registration and the end of its read loop -/
def IsOwnStep (k : Nat) : Act → Prop
  | .storeSess j | .resubscribe j | .subscribe j _ | .unsubscribe j _ => j = k
  | _ => False

/-- `k`'s own steps, interleaved with teardown steps of other connections -/
def SessionTime (k : Nat) (l : List Act) : Prop := ∀ a ∈ l, IsOwnStep k a ∨ ∃ j, j ≠ k ∧ IsTeardownOf j a

/-- connection `k` is registered and live, holds the persistent session `r`, and — once it has stored it —
the persisted copy is exactly that session -/
structure Holding (s : St) (k r : Nat) : Prop where
  client : s.client = some k
  live : (s.conn k).disc = false
  sessOf : (s.conn k).sess = r
  sessMap : s.sessMap = some r
  persistent : (s.sess r).clean = false
  act : (s.conn k).pc.active = true
  stored : (s.conn k).pc ≠ Pc.registered → s.db = some ((s.sess r).topics, false)

theorem holding_step {s s' : St} {k r : Nat} {a : Act} (h : Holding s k r) (hs : step true s a = some s')
    (ha : IsOwnStep k a ∨ ∃ j, j ≠ k ∧ IsTeardownOf j a) : Holding s' k r := by
  rcases ha with ha | ⟨j, hj, ha⟩
  · cases a <;> simp only [IsOwnStep] at ha <;> subst ha <;> simp only [step] at hs
    case storeSess =>
      split at hs <;> cases hs
      constructor <;> simp [setPc, setConn, persist, h.client, h.live, h.sessOf, h.sessMap, h.persistent, Pc.active]
    case resubscribe =>
      split at hs <;> cases hs
      rename_i hpc
      have hdb := h.stored (by rw [hpc]; simp)
      constructor <;> simp [setPc, setConn, h.client, h.live, h.sessOf, h.sessMap, h.persistent, Pc.active, hdb]
    case subscribe f | unsubscribe f =>
      split at hs <;> cases hs
      constructor <;> simp [persist, h.client, h.live, h.sessOf, h.sessMap, h.persistent, h.act]
  · have f := superseded_frame h.client hj h.live ha hs
    exact ⟨f.client.trans h.client, by rw [f.conn]; exact h.live, by rw [f.conn]; exact h.sessOf,
      f.sessMap.trans h.sessMap, by rw [f.sess]; exact h.persistent, by rw [f.conn]; exact h.act,
      fun hp => by rw [f.db, f.sess]; exact h.stored (by rw [← f.conn]; exact hp)⟩

theorem holding_run {k r : Nat} {l : List Act} (hl : SessionTime k l) {s s' : St} (h : Holding s k r)
    (hr : runAll s l = some s') : Holding s' k r := by
  induction l generalizing s with
  | nil => simp [runAll] at hr; subst hr; exact h
  | cons a rest ih =>
    obtain ⟨s1, h1, h2⟩ := runAll_cons_eq_some.mp hr
    exact ih (fun b hb => hl b (List.mem_cons_of_mem _ hb)) (holding_step h h1 (hl a (List.mem_cons_self ..))) h2

/-- **normal_end_keeps_session** — gives the hypothesis of `reconnect_restores`. Connection `k` has just
been registered with a persistent session (`connectLocked k false` on a persistent or absent previous
session). It then stores, re-subscribes and processes ANY sequence of its own SUBSCRIBE / UNSUBSCRIBE
packets, while other (superseded) connections are torn down at any point (`l`); it reaches its read loop;
its read loop ends normally (`noticeEnd k`, `cleanup k`, again with other teardowns in between,
`close k`, `removeClient`). Afterwards nobody is registered, the session map is empty, and the stored
session of the id is exactly the topics `k`'s session held at the end, persistent — so that
`reconnect_restores` applies to the next CONNECT with cleanSession=false. -/
theorem normal_end_keeps_session {s s1 s' : St} {k : Nat} {l t₁ t₂ : List Act}
    (hc : s.client = some k) (hlive : (s.conn k).disc = false) (hpc : (s.conn k).pc = Pc.registered)
    (hsm : s.sessMap = some (s.conn k).sess) (hper : (s.sess (s.conn k).sess).clean = false)
    (hl : SessionTime k l) (h₁ : OthersTeardown k t₁) (h₂ : OthersTeardown k t₂)
    (hr1 : runAll s l = some s1) (hrun1 : (s1.conn k).pc = Pc.running)
    (hr2 : runAll s1 (Act.noticeEnd k :: (t₁ ++ Act.cleanup k :: (t₂ ++ [Act.close k, Act.remove k]))) = some s') :
    storedSession s' = some ((s1.sess (s1.conn k).sess).topics, false) ∧ s'.sessMap = none ∧ s'.client = none := by
  have h0 : Holding s k (s.conn k).sess :=
    ⟨hc, hlive, rfl, hsm, hper, by rw [hpc]; rfl, fun hp => absurd hpc hp⟩
  have h1 := holding_run hl h0 hr1
  generalize (s.conn k).sess = r at h1
  have hdb1 := h1.stored (by rw [hrun1]; simp)
  obtain ⟨s2, hs2, h⟩ := runAll_cons_eq_some.mp hr2
  obtain ⟨s3, hr3, h⟩ := runAll_append_eq_some.mp h
  obtain ⟨s4, hs4, h⟩ := runAll_cons_eq_some.mp h
  obtain ⟨s5, hr5, h⟩ := runAll_append_eq_some.mp h
  obtain ⟨s6, hs6, h⟩ := runAll_cons_eq_some.mp h
  obtain ⟨s7, hs7, h⟩ := runAll_cons_eq_some.mp h
  simp only [runAll, Option.some.injEq] at h
  -- `noticeEnd k; t₁`: `k` stays registered and live
  simp only [step, hrun1, if_true, Option.some.injEq] at hs2
  subst hs2
  have f3 := frame_run h₁ (s := setPc s1 k Pc.ended) h1.client (by simpa [setPc, setConn] using h1.live) hr3
  have c3 : s3.client = some k := f3.client.trans h1.client
  have k3 : s3.conn k = { s1.conn k with pc := Pc.ended } := by rw [f3.conn]; simp [setPc, setConn]
  -- `cleanup k`: not superseded and persistent, so the session map is emptied and the persisted copy stays
  simp only [step, k3, if_true, Option.some.injEq] at hs4
  subst hs4
  obtain ⟨tcl, tconn, _, tdb, tsm⟩ := teardown_frame s3 k
  have hdel : reachesDelDB s3 k = false := by
    simp [reachesDelDB, k3, f3.sess, setPc, setConn, h1.sessOf, h1.persistent]
  simp only [hdel, superseded, c3, bne_self_eq_false, Bool.false_eq_true, if_false] at tdb tsm
  -- `t₂; close k`
  have f5 := frame_run h₂ (s := setPc (teardown true s3 k) k Pc.cleaned) (tcl.trans c3)
    (by simp [setPc, setConn, tconn, k3, h1.live]) hr5
  have k5 : (s5.conn k).pc = Pc.cleaned := by rw [f5.conn]; simp [setPc, setConn]
  simp only [step, k5, if_true, Option.some.injEq] at hs6
  subst hs6
  -- `remove k`: `k` is disconnected by now, so the registration goes
  have c6 : (setPc (markDisc s5 k) k Pc.closed).client = some k := f5.client.trans (tcl.trans c3)
  have k6 : (setPc (markDisc s5 k) k Pc.closed).conn k =
      { s5.conn k with pc := Pc.closed, disc := true, closeReq := false } := by simp [setPc, setConn, markDisc]
  simp only [step, c6, k6, if_true, Option.some.injEq] at hs7
  subst hs7; subst h
  have sm : s5.sessMap = none := f5.sessMap.trans tsm
  have db : s5.db = s1.db := f5.db.trans (tdb.trans f3.db)
  refine ⟨?_, sm, rfl⟩
  unfold storedSession
  simp only [setPc, setConn, markDisc, sm, db, hdb1, h1.sessOf]

/-- non-vacuity: connection 0 connects persistently, subscribes 7 and 9, unsubscribes 9, ends normally while
nothing else happens: every step is enabled and the hypotheses of `normal_end_keeps_session` hold with
`l = [storeSess 0, resubscribe 0, subscribe 0 7, subscribe 0 9, unsubscribe 0 9]`. -/
example :
    let s := (runAll BrokerSessions.init [.connectLocked 0 false]).getD BrokerSessions.init
    s.client = some 0 ∧ (s.conn 0).disc = false ∧ (s.conn 0).pc = Pc.registered ∧
    s.sessMap = some (s.conn 0).sess ∧ (s.sess (s.conn 0).sess).clean = false ∧
    (runAll s ([.storeSess 0, .resubscribe 0, .subscribe 0 7, .subscribe 0 9, .unsubscribe 0 9] ++
      [.noticeEnd 0, .cleanup 0, .close 0, .remove 0])).isSome = true := by decide

/-- …and therefore the next CONNECT with cleanSession=false gets exactly those subscriptions back, for every
placement of other connections' teardown steps: `normal_end_keeps_session` feeds `reconnect_restores`. -/
theorem reconnect_after_normal_end {s s1 s' s'' : St} (r : Reach s) {k k' : Nat} {l t₁ t₂ u₁ u₂ u₃ : List Act}
    (hc : s.client = some k) (hlive : (s.conn k).disc = false) (hpc : (s.conn k).pc = Pc.registered)
    (hsm : s.sessMap = some (s.conn k).sess) (hper : (s.sess (s.conn k).sess).clean = false)
    (hl : SessionTime k l) (h₁ : OthersTeardown k t₁) (h₂ : OthersTeardown k t₂)
    (hr1 : runAll s l = some s1) (hrun1 : (s1.conn k).pc = Pc.running)
    (hr2 : runAll s1 (Act.noticeEnd k :: (t₁ ++ Act.cleanup k :: (t₂ ++ [Act.close k, Act.remove k]))) = some s')
    (hfresh : (s'.conn k').disc = false)
    (g₁ : OthersTeardown k' u₁) (g₂ : OthersTeardown k' u₂) (g₃ : OthersTeardown k' u₃)
    (hrun : runAll s' (Act.connectLocked k' false :: (u₁ ++ Act.storeSess k' :: (u₂ ++
      Act.resubscribe k' :: u₃))) = some s'') :
    s''.client = some k' ∧ s''.sessMap = some (s''.conn k').sess ∧
    (s''.sess (s''.conn k').sess).topics = (s1.sess (s1.conn k).sess).topics ∧
    (s''.sess (s''.conn k').sess).closed = false ∧
    ∀ f ∈ (s1.sess (s1.conn k).sess).topics, f ∈ s''.topicMgr :=
  reconnect_restores (reach_runAll (reach_runAll r hr1) hr2)
    (normal_end_keeps_session hc hlive hpc hsm hper hl h₁ h₂ hr1 hrun1 hr2).1 hfresh g₁ g₂ g₃ hrun

end EgVerif.C16
