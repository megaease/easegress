import EgVerif.Proofs.Delivery
import EgVerif.Proofs.SessionQueueExt
import EgVerif.Proofs.SessionQueueIR
import EgVerif.Proofs.FanoutIR
import EgVerif.Proofs.ProcessPublishIR
import EgVerif.Gen.FactsC15
/-!
# C15 — MQTT delivery: every eligible subscriber gets each message; QoS1 at-least-once

Property theorems about `Model/Delivery.lean` (fan-out of `Broker.sendMsgToClient`, validation of
`httpTopicsPublishHandler`) and `Model/SessionQueue.lean` (`Session.publish / puback / doResend`, inbound
PUBLISH handling of client.go), for **every** subscription history, **every** visiting order of the
subscriber map, **every** trace of publish / puback / tick events.

The model mirrors the *repaired* code (`fixes/C15-fanout-continue.patch`, `fixes/C15-addclients-maxqos.patch`);
the unrepaired loop (`sendOld`) and map collapse (`collapseLast`) are kept for the refutations below.

Partial (trusted / sampled, not proved): TCP, the 200 ms ticker and goroutine scheduling (a *tick* is an
event of the model), `writeLoop` eventually draining `writeCh`; retransmission is proved in the head-of-line
reading (`every_pending_resent_until_acked_partial`). Hypotheses are WINDOWED (`PendingBelow`: fewer than 65 536
messages pending at a time; `NoStaleIdReuse` only for the order): nothing trace-wide is assumed.
-/
namespace EgVerif.C15
open EgVerif.Topic EgVerif.Delivery EgVerif.SessionQueue

/-- **Every eligible subscriber, in any visiting order.** After any subscription history `ops`, for any
message QoS `q`, any connectivity predicate and **any permutation** `order` of the subscriber map returned by
`findSubscribers` (Go map iteration order), `session.publish` is called for client `c` iff `c` is connected and
holds a live subscription matching the topic with QoS at least `q` — whatever the other subscribers are. -/
theorem send_all_eligible_any_order (ops : List Op) (lv : List Level) (q : QoS) (conn : Client → Bool)
    (order : List (Client × QoS))
    (hperm : List.Perm order (collapseMax (find (run State.init ops).trie lv))) (c : Client) :
    c ∈ send conn q order ↔
      conn c = true ∧ ∃ f sq, (f, c, sq) ∈ specRun [] ops ∧ «matches» f lv = true ∧ q ≤ sq := by
  simp only [mem_send_of_perm_collapseMax hperm, Topic.routing_after_any_history, Topic.mem_specFind]
  constructor
  · rintro ⟨hc, sq, ⟨f, hf, hmat⟩, hq⟩; exact ⟨hc, f, sq, hf, hmat, hq⟩
  · rintro ⟨hc, f, sq, hf, hmat, hq⟩; exact ⟨hc, sq, ⟨f, hf, hmat⟩, hq⟩

/-- the executable `eligible` of the judge is that right-hand side -/
theorem eligible_iff (s : Subs) (conn : Client → Bool) (lv : List Level) (q : QoS) (c : Client) :
    eligible s conn lv q c = true ↔
      conn c = true ∧ ∃ f sq, (f, c, sq) ∈ s ∧ «matches» f lv = true ∧ q ≤ sq := by
  simp only [eligible, Bool.and_eq_true, List.any_eq_true, decide_eq_true_eq]
  constructor
  · rintro ⟨hc, ⟨f, c', sq⟩, hm, ⟨⟨e, hmat⟩, hq⟩⟩
    simp only at e hmat hq; subst e
    exact ⟨hc, f, sq, hm, hmat, hq⟩
  · rintro ⟨hc, f, sq, hm, hmat, hq⟩
    exact ⟨hc, (f, c, sq), hm, ⟨⟨rfl, hmat⟩, hq⟩⟩

/-- …and each of them is handed the message exactly once per fan-out. -/
theorem send_once (l : List (Client × QoS)) (q : QoS) (conn : Client → Bool) (order : List (Client × QoS))
    (hperm : List.Perm order (collapseMax l)) : (send conn q order).Nodup :=
  ((hperm.map Prod.fst).nodup_iff.mpr (collapseMax_nodup l)).sublist (send_sublist conn q order)

/-- a malformed topic reaches nobody (`findSubscribers` error ⇒ `return`) -/
theorem fanout_malformed (t : Trie) (conn : Client → Bool) (topic : List Char) (q : QoS)
    (order : List (Client × QoS) → List (Client × QoS)) (h : wellFormed topic = false) :
    fanout t conn topic q order = [] := by
  have : split topic = none := by rw [split_eq]; simp [h]
  simp [fanout, this]

/-- `httpTopicsPublishHandler` hands a request to the fan-out iff it is a POST with decodable JSON, QoS in
0..2 and (when flagged base64) a decodable payload; everything else is answered 400 and delivered to nobody. -/
theorem http_accepts_iff (r : HttpReq) :
    httpAccepts r = true ↔
      r.method = "POST" ∧ r.jsonOK = true ∧ 0 ≤ r.qos ∧ r.qos ≤ 2 ∧ (r.base64 = true → r.b64OK = true) := by
  unfold httpAccepts
  -- one check of the chain at a time: a failing one decides both sides
  by_cases h1 : r.method = "POST"
  case neg => simp [h1]
  by_cases h2 : r.jsonOK = true
  case neg => simp [h1, h2]
  by_cases h3 : r.qos < 0 ∨ r.qos > 2
  case pos => simp [h1, h2, h3]; omega
  have h3' : 0 ≤ r.qos ∧ r.qos ≤ 2 := by omega
  cases h5 : r.base64 <;> cases h6 : r.b64OK <;> simp [h1, h2, h3, h3']

example : send (fun _ => true) 1 [("c1", 0), ("c2", 1)] = ["c2"] := by decide
example : send (fun c => c != "c3") 0 [("c1", 0), ("c3", 1), ("c2", 1)] = ["c1", "c2"] := by decide

/-! ### session queue: QoS0 drop, QoS1 retransmission

The model mirrors the code WITH fix `C15-packet-id-skip-pending` (`getPacketFromMsg` skips ids that are still keys
of `pending`). `unacked tr` is the observation-based bookkeeping of `Spec/Delivery.lean` (what was written, with
which id, and not yet acknowledged) on the model's own outputs — the same function the judge folds over the
implementation's observations. -/

/-- A QoS0 copy is dropped **only** when the client's outbound queue is full. -/
theorem qos0_drop_only_when_full (s : Sess) (m : Msg) (full : Bool) (h : m.qos = 0) :
    ((publish true full m s).2 = [] ↔ full = true) ∧
      (full = false → (publish true full m s).2 = [pkt (freeId s.pending s.nextID) m]) := by
  cases full <;> simp [publish, h]

/-- A QoS1 copy is always written, and remembered as pending under the id it was sent with. -/
theorem qos1_always_written (s : Sess) (m : Msg) (full : Bool) (h : m.qos = 1) :
    (publish true full m s).2 = [pkt (freeId s.pending s.nextID) m] ∧
      alGet (freeId s.pending s.nextID) (publish true full m s).1.pending = some m := by
  rw [publish_online, publishAt_qos1 h]
  exact ⟨rfl, by rw [alGet_alSet, if_pos rfl]⟩

/-- **Windowed hypothesis**: at every online publish of the trace fewer than 65 536 messages are pending. Nothing
about how many ids the session has consumed in its life. -/
def PendingBelow (tr : List Ev) : Prop := PendBound Sess.init tr

/-- needed only for the ORDER of retransmission: no QoS1 message is handed an id that is still a stale entry of
`pendingQueue` (an id acknowledged earlier, not yet dropped from the queue by a tick, that comes round again
after 65 536 publishes). -/
def NoStaleIdReuse (tr : List Ev) : Prop := NoStaleReuse Sess.init tr

/-- **Packet ids of pending messages are pairwise distinct**, and the session's `pending` map is exactly the list
of unacknowledged QoS1 messages — for every trace with fewer than 65 536 messages pending at a time. -/
theorem packet_ids_distinct_while_pending (tr : List Ev) (h : PendingBelow tr) :
    ((unacked tr).map Prod.fst).Nodup ∧ (SessionQueue.run Sess.init tr).pending = unacked tr :=
  let inv := qi_run tr h
  ⟨inv.nd, inv.pend⟩

/-- **The repaired allocation never hands out the id of a still-pending message**: the next online publish after
`tr` gets an id that no unacknowledged message carries (so nothing is overwritten). -/
theorem allocated_id_not_pending (tr : List Ev) (h : PendingBelow tr) (full : Bool) (m : Msg)
    (hb : (SessionQueue.run Sess.init tr).pending.length < idMod) :
    ∀ p ∈ (publish true full m (SessionQueue.run Sess.init tr)).2, p.id ∉ (unacked tr).map Prod.fst := by
  have inv := qi_run tr h
  intro p hp
  rw [publish_online] at hp
  rw [publishAt_out p hp, show unacked tr = _ from inv.pend.symm]
  exact freeId_fresh inv.lt hb

/-- **A tick re-sends only unacknowledged messages, each with its original id and content** — at most one packet,
exactly one when something is unacknowledged and the client is online, none when nothing is. Windowed
hypothesis only. ("…and is not retransmitted afterwards": an acknowledged message is in no `unacked` list.) -/
theorem tick_resends_only_unacked (tr : List Ev) (h : PendingBelow tr) (online : Bool) :
    (∀ p ∈ (doResend online (SessionQueue.run Sess.init tr)).2, ∃ e ∈ unacked tr, p = pkt e.1 e.2) ∧
    (unacked tr ≠ [] → online = true →
      ∃ e ∈ unacked tr, (doResend online (SessionQueue.run Sess.init tr)).2 = [pkt e.1 e.2]) ∧
    (unacked tr = [] → (doResend online (SessionQueue.run Sess.init tr)).2 = []) := by
  have inv := qi_run tr h
  refine ⟨?_, fun hu ho => ?_, fun hu => ?_⟩
  · rw [← inv.pend]
    exact doResend_out online
  · obtain ⟨i, m, _, hi, _, e⟩ := doResend_of_inv inv hu online
    exact ⟨(i, m), hi, by rw [e, ho]; rfl⟩
  · rw [doResend_nil online (inv.pend.trans hu)]

/-- **Resend the oldest unacknowledged message, nothing else.** After any trace of publishes (any QoS,
online or offline, queue full or not), PUBACKs (any ids, also bogus ones) and ticks, a resend tick writes
exactly the oldest QoS1 message not yet acknowledged — same id, topic, payload — if the client is online,
and nothing if there is none. -/
theorem resend_oldest_unacked (tr : List Ev) (h : PendingBelow tr) (hs : NoStaleIdReuse tr) (online : Bool) :
    (doResend online (SessionQueue.run Sess.init tr)).2 = specTick online (unacked tr) :=
  doResend_spec (qo_run tr h hs) online

/-- **No resend after the acknowledgement.** Once the client has acknowledged packet id `i`, then — as long as
no new message is published (which could legitimately be given the freed id) — no tick, whatever PUBACKs and
ticks happen in between, writes a packet with id `i` again. -/
theorem no_resend_after_ack (tr rest : List Ev) (i : Id) (h : PendingBelow tr) (hr : NoPublish rest)
    (online : Bool) :
    ∀ p ∈ (doResend online (SessionQueue.run Sess.init (tr ++ .puback i :: rest))).2, p.id ≠ i := by
  intro p hp
  rw [run_append] at hp
  obtain ⟨e, he, rfl⟩ := doResend_out online p hp
  exact of_decide_eq_true (List.mem_filter.mp (pending_noPublish_sub rest hr _ he)).2

/-- **Retransmitted until acknowledged — head-of-line reading (partial).** While message `(i, m)` is the
oldest unacknowledged one, *every* tick with the client online re-sends it. NOT true for this code: "every
unacknowledged message is re-sent at every tick" (`starved_behind_unacked_head`, open known finding). -/
theorem every_pending_resent_until_acked_partial (tr : List Ev) (h : PendingBelow tr) (hs : NoStaleIdReuse tr)
    (i : Id) (m : Msg) (u : List (Id × Msg)) (hu : unacked tr = (i, m) :: u) :
    (doResend true (SessionQueue.run Sess.init tr)).2 = [pkt i m] := by
  rw [resend_oldest_unacked tr h hs, hu]; rfl

/-- a tick does not change which messages are unacknowledged: the head stays the head until its PUBACK -/
theorem tick_keeps_unacked (tr : List Ev) (online : Bool) :
    unacked (tr ++ [.tick online]) = unacked tr := by
  unfold unacked; rw [uRun_append]; rfl

/-- **PUBACK with the same id iff limiter and pipeline passed.** For a QoS1 PUBLISH with packet id `i`: a
PUBACK is written iff the publish limiter admitted the packet and the Publish pipeline (if configured) set
neither Drop nor Disconnect, and then it carries exactly `i`; the backend pipeline is invoked iff the
limiter admitted the packet (and a pipeline is configured). QoS0 is never acknowledged. -/
theorem puback_same_id_iff_passed (limiterOK : Bool) (v : PipeVerdict) (i : Id) :
    ((onPublish limiterOK v 1 i).puback = some i ↔
        limiterOK = true ∧ (v = .ok ∨ v = .notConfigured)) ∧
    (∀ j, (onPublish limiterOK v 1 i).puback = some j → j = i) ∧
    ((onPublish limiterOK v 1 i).handed = true ↔ limiterOK = true ∧ v ≠ .notConfigured) ∧
    (onPublish limiterOK v 0 i).puback = none := by
  cases limiterOK <;> cases v <;> simp [onPublish]

/-! ### regenerated source facts -/

theorem source_facts :
    Gen.FactsC15.extractionFailed = false ∧
    Gen.FactsC15.fanoutLoopReturns = 0 ∧ Gen.FactsC15.fanoutLoopContinues = 1 ∧
    Gen.FactsC15.fanoutLoopFirstCond = "subQoS < qos" ∧ Gen.FactsC15.fanoutLoopPublishCalls = 1 ∧
    Gen.FactsC15.addClientsGtComparisons = 1 ∧
    Gen.FactsC15.publishSelectDefault = 1 ∧ Gen.FactsC15.publishWritePacketCalls = 1 ∧
    Gen.FactsC15.publishLocksSession = true ∧ Gen.FactsC15.doResendWritePacketCalls = 1 ∧
    Gen.FactsC15.writeChCap = 50 ∧ Gen.FactsC15.resendTicker = "200 * time.Millisecond" ∧
    Gen.FactsC15.httpHandlerConds = ["r.Method != http.MethodPost", "err != nil",
      "data.QoS < int(QoS0) || data.QoS > int(QoS2)", "data.Base64", "!data.Distributed"] ∧
    Gen.FactsC15.httpHandlerAsyncSend = 1 ∧ Gen.FactsC15.pubackCopiesId = true :=
  ⟨rfl, rfl, rfl, rfl, rfl, rfl, rfl, rfl, rfl, rfl, rfl, rfl, rfl, rfl, rfl⟩

/-! ### Non-vacuity, and refutation of the unrepaired code -/

private def m1 : Msg := ⟨"t", "x", 1⟩
private def m2 : Msg := ⟨"t", "y", 1⟩
private def m0 : Msg := ⟨"t", "z", 0⟩
private def tr1 : List Ev :=
  [.publish true false m1, .publish true true m0, .publish true false m2, .tick true, .puback 0, .tick true]

example : PendingBelow tr1 ∧ NoStaleIdReuse tr1 := by
  unfold PendingBelow NoStaleIdReuse; decide
/-- m1 gets id 0, the dropped QoS0 copy still consumes id 1, m2 gets id 2; first tick re-sends m1, after
its PUBACK the second tick re-sends m2 -/
example : outputs Sess.init tr1 = [pkt 0 m1, pkt 2 m2, pkt 0 m1, pkt 2 m2] := by decide
example : unacked tr1 = [(2, m2)] := by decide

/-- **Defect (i), unrepaired `sendMsgToClient`**: with the subscriber map `{c1:0, c2:1}` and a QoS1 message,
visiting `c1` first ends the loop and the eligible `c2` gets nothing; the other order serves it. The
repaired loop serves `c2` in both orders (`send_all_eligible_any_order`). -/
example : sendOld (fun _ => true) 1 [("c1", 0), ("c2", 1)] = [] ∧
    sendOld (fun _ => true) 1 [("c2", 1), ("c1", 0)] = ["c2"] ∧
    send (fun _ => true) 1 [("c1", 0), ("c2", 1)] = ["c2"] := by decide

/-- **Defect (ii), unrepaired `addClients`**: a client subscribed to `a/+`@0 and `a/b`@1; for topic `a/b`
the hits are `[(c,1),(c,0)]` in one visiting order and the map keeps QoS 0, so a QoS1 message skips the
client although it holds a matching QoS1 subscription. `collapseMax` keeps 1 in every order. -/
example : collapseLast [("c", 1), ("c", 0)] = [("c", 0)] ∧ collapseLast [("c", 0), ("c", 1)] = [("c", 1)] ∧
    collapseMax [("c", 1), ("c", 0)] = [("c", 1)] ∧ collapseMax [("c", 0), ("c", 1)] = [("c", 1)] ∧
    send (fun _ => true) 1 (collapseLast [("c", 1), ("c", 0)]) = [] := by decide

/-! ### packet ids, wrap-around, retransmission of every pending message

The model mirrors the REPAIRED `getPacketFromMsg` (fix `C15-packet-id-skip-pending`); the behaviour of
the unrepaired code (`publishOld`, `runOld`) is kept as witnesses (`unrepaired_…`). -/

/-- **First packet id is 0.** The first PUBLISH a fresh session sends carries packet id 0 (MQTT 3.1.1 §2.3.1
asks for a non-zero id when QoS > 0; the C15 statement does not). -/
theorem first_qos1_id_zero (m : Msg) (full : Bool) (h : m.qos = 1) :
    (publish true full m Sess.init).2 = [pkt 0 m] := by
  rw [publish_online, publishAt_qos1 h]
  exact congrArg (fun i => [pkt i m]) (freeId_of_free rfl)

/-- **Packet-id allocation of the repaired code**: the counter value itself when no pending message has it,
otherwise the next free one; never the id of a pending message while fewer than 65 536 are pending. -/
theorem packet_id_allocation (p : List (Id × Msg)) (next : Id) :
    (alGet next p = none → freeId p next = next) ∧
    (next < idMod → p.length < idMod → freeId p next ∉ p.map Prod.fst) :=
  ⟨freeId_of_free, freeId_fresh⟩

/-- **The wrap history on the repaired code keeps both messages**: QoS1 `m`, 65 535 further online publishes of
other QoS, QoS1 `m'` ⇒ `m'` skips the still-pending id 0 and gets id 1; a tick re-sends `m` (the oldest), after
its PUBACK `m'`. (Corpus case 900008 is this history on the real code and must pass.) -/
theorem repaired_wrap_keeps_both (f f' : Bool) (m m' : Msg) (l : List (Bool × Msg)) (h1 : m.qos = 1)
    (h1' : m'.qos = 1) (hl : ∀ p ∈ l, p.2.qos ≠ 1) (hlen : l.length = 65535) :
    (SessionQueue.run Sess.init (wrapTrace f f' m m' l)).pending = [(0, m), (1, m')] ∧
    (doResend true (SessionQueue.run Sess.init (wrapTrace f f' m m' l))).2 = [pkt 0 m] ∧
    (doResend true (puback 0 (SessionQueue.run Sess.init (wrapTrace f f' m m' l)))).2 = [pkt 1 m'] := by
  rw [run_wrapTrace f f' m m' l h1 h1' hl hlen]
  exact ⟨rfl, rfl, rfl⟩

/-- **Unrepaired code: allocation law** — the counter equals the number of online publishes of *any* QoS modulo
65 536 and the next QoS1 PUBLISH carries exactly that id, pending or not. -/
theorem unrepaired_packet_id_is_publish_count_mod (tr : List Ev) (m : Msg) (full : Bool) (h : m.qos = 1) :
    (runOld Sess.init tr).nextID = consumed 0 tr % idMod ∧
    (publishOld true full m (runOld Sess.init tr)).2 = [pkt (consumed 0 tr % idMod) m] := by
  have e := nextID_runOld tr Sess.init 0 rfl
  exact ⟨e, by rw [publishOld_online, publishAt_qos1 h, e]⟩

/-- **Unrepaired code: wrap-around onto a still-pending id (one step, every state)**: the pending message is
replaced (same key set), the id queued again. -/
theorem unrepaired_wrap_overwrites_pending (s : Sess) (m m' : Msg) (full : Bool)
    (hp : alGet s.nextID s.pending = some m) (h1 : m'.qos = 1) :
    alGet s.nextID (publishOld true full m' s).1.pending = some m' ∧
    (publishOld true full m' s).1.pending.map Prod.fst = s.pending.map Prod.fst ∧
    (publishOld true full m' s).1.queue = s.queue ++ [s.nextID] := by
  rw [publishOld_online, publishAt_qos1 h1]
  exact ⟨by rw [alGet_alSet, if_pos rfl], alSet_keys_of_mem _ _ _ (key_mem_of_alGet hp), rfl⟩

/-- **Unrepaired code: the wrap is reachable and loses a message** (the defect repaired by
`fixes/C15-packet-id-skip-pending.patch`; known finding `C15-id-wrap-overwrites-pending`, fixed). From a fresh
session: QoS1 `m` (never acknowledged), 65 535 further online publishes, QoS1 `m'` ⇒ `pending = [(0, m')]`;
whatever PUBACKs and ticks follow, every packet written is `m'`; the observation-based bookkeeping still lists
`m` as the oldest unacknowledged message. Compare `repaired_wrap_keeps_both`. -/
theorem unrepaired_wrap_loses_unacked_message (f f' : Bool) (m m' : Msg) (l : List (Bool × Msg)) (h1 : m.qos = 1)
    (h1' : m'.qos = 1) (hl : ∀ p ∈ l, p.2.qos ≠ 1) (hlen : l.length = 65535) :
    (runOld Sess.init (wrapTrace f f' m m' l)).pending = [(0, m')] ∧
    (∀ rest, NoPublish rest →
      ∀ p ∈ outputsOld (runOld Sess.init (wrapTrace f f' m m' l)) rest, p = pkt 0 m') ∧
    (doResend true (runOld Sess.init (wrapTrace f f' m m' l))).2 = [pkt 0 m'] ∧
    specTick true (unackedObs [] (traceOld Sess.init (wrapTrace f f' m m' l))) = [pkt 0 m] := by
  obtain ⟨v, hv⟩ := unackedObs_wrapTrace f f' m m' l h1
  rw [runOld_wrapTrace f f' m m' l h1 h1' hl hlen, hv]
  refine ⟨rfl, fun rest hr p hp => ?_, rfl, rfl⟩
  obtain ⟨e, he, rfl⟩ := outputsOld_noPublish rest hr _ p hp
  rw [List.mem_singleton.mp he]

/-- **The judge's executable spec is the spec of these theorems**: `unacked tr` is the judge's fold `unackedObs`
over the observation trace (here the model's own), and on the model's own behaviour a tick's output is accepted
by `specTick` (`resend_oldest_unacked`) — `Driver/C15.lean` applies the same two functions to what the
implementation wrote. -/
theorem judge_spec_is_unacked (tr : List Ev) :
    unacked tr = unackedObs [] (trace Sess.init tr) := uRun_eq_unackedObs tr Sess.init []

/-- **Who is re-sent at a tick: exactly the oldest unacknowledged message.** -/
theorem resent_iff_oldest (tr : List Ev) (h : PendingBelow tr) (hs : NoStaleIdReuse tr) (i : Id) (m : Msg) :
    pkt i m ∈ (doResend true (SessionQueue.run Sess.init tr)).2 ↔ (unacked tr).head? = some (i, m) := by
  rw [resend_oldest_unacked tr h hs]
  cases unacked tr with
  | nil => simp [specTick]
  | cons e r =>
    obtain ⟨j, mm⟩ := e
    simp only [specTick, if_true, List.mem_singleton, List.head?_cons, Option.some.injEq, Prod.mk.injEq, pkt_inj]
    exact ⟨fun ⟨a, b⟩ => ⟨a.symm, b.symm⟩, fun ⟨a, b⟩ => ⟨a.symm, b.symm⟩⟩

/-- **Retransmission of EVERY pending message (strongest true form).** Let `(i, m)` be any unacknowledged
message with older unacknowledged messages `pre` in front of it. Once the client has acknowledged those, *every*
tick re-sends `(i, m)` until its own PUBACK. -/
theorem resent_once_older_acked (tr : List Ev) (h : PendingBelow tr) (hs : NoStaleIdReuse tr)
    (pre post : List (Id × Msg)) (i : Id) (m : Msg) (hu : unacked tr = pre ++ (i, m) :: post) :
    (doResend true (SessionQueue.run Sess.init (tr ++ pre.map (fun e => Ev.puback e.1)))).2 = [pkt i m] := by
  have inv := qo_run tr h hs
  rw [hu] at inv
  rw [run_append, doResend_spec (inv_ack_prefix pre inv) true]
  rfl

/-- **At-least-once for every pending message against a client that acknowledges what it is sent.** The
continuation tick, PUBACK(id₁), tick, PUBACK(id₂), … writes exactly the unacknowledged messages, each once, in
order, with their original ids, and leaves nothing pending. -/
theorem drain_all_pending (tr : List Ev) (h : PendingBelow tr) (hs : NoStaleIdReuse tr) :
    outputs (SessionQueue.run Sess.init tr) (ackAll (unacked tr)) =
      (unacked tr).map (fun e => pkt e.1 e.2) ∧
    (SessionQueue.run (SessionQueue.run Sess.init tr) (ackAll (unacked tr))).pending = [] := by
  have d := drain_all (unacked tr) (qo_run tr h hs)
  exact ⟨d.1, d.2.pend⟩

/-- **Head-of-line starvation (all tick counts).** While the oldest unacknowledged message stays
unacknowledged, `k` ticks write `k` copies of it and nothing else: a younger unacknowledged message is *never*
retransmitted. Open known finding `C15-resend-head-of-line-starvation`. -/
theorem starved_behind_unacked_head (tr : List Ev) (h : PendingBelow tr) (hs : NoStaleIdReuse tr)
    (e : Id × Msg) (u : List (Id × Msg)) (hu : unacked tr = e :: u) (k : Nat) :
    outputs (SessionQueue.run Sess.init tr) (List.replicate k (Ev.tick true)) =
      List.replicate k (pkt e.1 e.2) := by
  have inv := qo_run tr h hs
  rw [hu] at inv
  exact ticks_only_resend_head inv k

/-- `PendingBelow` bounds what is pending at a time, not the length of the trace. A long-lived session:
70 000 acknowledged messages, then one more — every theorem above still applies. -/
example : ∀ (tr : List Ev), PendingBelow tr → ((unacked tr).map Prod.fst).Nodup :=
  fun tr h => (packet_ids_distinct_while_pending tr h).1

private def wm : Msg := ⟨"t", "old", 1⟩
private def wm' : Msg := ⟨"t", "new", 1⟩
private def wl : List (Bool × Msg) := List.replicate 65535 (true, ⟨"t", "z", 0⟩)
private def wl_ok : (∀ p ∈ wl, p.2.qos ≠ 1) ∧ wl.length = 65535 :=
  ⟨by intro p hp; unfold wl at hp; rw [List.eq_of_mem_replicate hp]; decide, by unfold wl; exact List.length_replicate⟩

/-- non-vacuity: the concrete 65 537-publish history (not evaluated step by step), repaired vs. unrepaired -/
example : (SessionQueue.run Sess.init (wrapTrace false false wm wm' wl)).pending = [(0, wm), (1, wm')] :=
  (repaired_wrap_keeps_both false false wm wm' wl rfl rfl wl_ok.1 wl_ok.2).1
example : (runOld Sess.init (wrapTrace false false wm wm' wl)).pending = [(0, wm')] :=
  (unrepaired_wrap_loses_unacked_message false false wm wm' wl rfl rfl wl_ok.1 wl_ok.2).1
example : pkt 0 wm ≠ pkt 0 wm' := by decide
/-- a state whose counter sits on a pending id: the repaired allocation skips it -/
example : (publish true false wm' (⟨[(7, wm)], [7], 7⟩ : Sess)).2 = [pkt 8 wm'] := by
  rw [publish_online, publishAt_qos1 rfl]
  exact congrArg (fun i => [pkt i wm']) (freeId_skip_one (m := wm) rfl rfl)
/-- two unacknowledged messages, no PUBACK: three ticks re-send only the first; `m2` is starved -/
example : outputs Sess.init [.publish true false m1, .publish true false m2, .tick true, .tick true, .tick true]
    = [pkt 0 m1, pkt 1 m2, pkt 0 m1, pkt 0 m1, pkt 0 m1] := by decide
example : PendingBelow [.publish true false m1, .publish true false m2] ∧
    NoStaleIdReuse [.publish true false m1, .publish true false m2] ∧
    unacked [.publish true false m1, .publish true false m2] = [(0, m1), (1, m2)] := by
  unfold PendingBelow NoStaleIdReuse; decide
/-- …and a client that acknowledges what it is sent gets both, each exactly once -/
example : outputs (SessionQueue.run Sess.init [.publish true false m1, .publish true false m2])
    (ackAll [(0, m1), (1, m2)]) = [pkt 0 m1, pkt 1 m2] := by decide

/-- what client `c` gets from one fan-out of message `m`: `sendMsgToClient` visits the subscriber map in `order`
and calls `session.publish` on the selected clients' sessions (`full c`: that client's queue is full at the
non-blocking QoS0 send) -/
def deliver (sess : Client → Sess) (conn : Client → Bool) (full : Client → Bool) (order : List (Client × QoS))
    (m : Msg) (c : Client) : Sess × List Packet :=
  if c ∈ send conn m.qos order then publish (conn c) (full c) m (sess c) else (sess c, [])

/-- **End to end: fan-out composed with the session queue.** After any subscription history, for any visiting
order of the subscriber map: a connected client holding a matching live subscription with QoS ≥ the message's
gets the message WRITTEN to it — always for QoS1 (and it is pending under the id it was written with), for QoS0
unless its queue is full — carrying the message's topic, payload and QoS; a client that is not eligible gets
nothing and its session is untouched. -/
theorem deliver_end_to_end (ops : List Op) (lv : List Level) (conn : Client → Bool) (order : List (Client × QoS))
    (hperm : List.Perm order (collapseMax (find (run State.init ops).trie lv)))
    (sess : Client → Sess) (full : Client → Bool) (m : Msg) (c : Client) :
    let elig := conn c = true ∧ ∃ f sq, (f, c, sq) ∈ specRun [] ops ∧ «matches» f lv = true ∧ m.qos ≤ sq
    (elig → m.qos = 1 →
      (deliver sess conn full order m c).2 = [pkt (freeId (sess c).pending (sess c).nextID) m] ∧
      alGet (freeId (sess c).pending (sess c).nextID) (deliver sess conn full order m c).1.pending = some m) ∧
    (elig → m.qos = 0 → full c = false →
      (deliver sess conn full order m c).2 = [pkt (freeId (sess c).pending (sess c).nextID) m]) ∧
    (¬ elig → deliver sess conn full order m c = (sess c, [])) := by
  intro elig
  have hiff := send_all_eligible_any_order ops lv m.qos conn order hperm c
  -- an eligible client is connected and selected by the loop: its session gets the online `publish`
  have hd : elig → deliver sess conn full order m c = publish true (full c) m (sess c) := fun he => by
    rw [deliver, if_pos (hiff.mpr he), he.1]
  refine ⟨fun he h1 => ?_, fun he h0 hf => ?_, fun hne => if_neg fun hm => hne (hiff.mp hm)⟩
  · rw [hd he]
    exact qos1_always_written (sess c) m (full c) h1
  · rw [hd he]
    exact (qos0_drop_only_when_full (sess c) m (full c) h0).2 hf

example : (deliver (fun _ => Sess.init) (fun _ => true) (fun _ => false) [("c1", 0), ("c2", 1)] m1 "c2").2 = [pkt 0 m1] ∧
    (deliver (fun _ => Sess.init) (fun _ => true) (fun _ => false) [("c1", 0), ("c2", 1)] m1 "c1").2 = [] := by decide

/-! ### regenerated tie by translation (irlib, `harness/factextract/facts_c15_ir.go`)

`Gen/FactsC15IR.lean` (session.go), `Gen/FactsC15IRb.lean` (broker.go / topic.go) and `Gen/FactsC15IRp.lean`
(client.go) are translated from the bodies of the Go functions on every run — three modules, so that a failed
extraction of one function breaks (and names) only its own obligations; the theorems state that
the translation equals the hand-written model for all inputs (proofs: `Proofs/SessionQueueIR.lean`,
`Proofs/FanoutIR.lean`, `Proofs/ProcessPublishIR.lean`). -/

/-- `Broker.sendMsgToClient` (loop body: QoS comparison with `continue`, `getClient == nil` skip, `session.publish`
with the message's QoS; nil subscriber map ⇒ nobody). -/
theorem send_regenerated_from_source (conn : Client → Bool) (subs : List (Client × Nat)) (qos : Nat) :
    Gen.FactsC15IRb.extractionFailed = false ∧
    Gen.FactsC15IRb.sendIR conn subs false qos = (send conn qos subs).map (fun c => (c, qos)) ∧
    Gen.FactsC15IRb.sendIR conn subs true qos = [] :=
  ⟨rfl, Delivery.send_regenerated_from_source conn subs qos⟩

/-- **`topicNode.addClients`** (site of fix bcc037f): the generated loop is `addMax` of `Model/Topic.lean` (per client
the larger of the QoS already in the result map and the node's), and the map that successive `addClients` calls build
from the empty map is `collapseMax` of all hits — the map `send_all_eligible_any_order` quantifies over. -/
theorem addClients_regenerated_from_source (cls ans : List (Client × Nat)) (hits : List (Client × Nat)) (c : Client) :
    Gen.FactsC15IRb.extractionFailed = false ∧
    Gen.FactsC15IRb.addClientsIR cls ans = addMax cls ans ∧
    addMax cls (addMax hits []) = addMax (hits ++ cls) [] ∧
    alGet c (addMax hits []) = alGet c (collapseMax hits) :=
  ⟨rfl, Topic.addClients_regenerated_from_source cls ans, Topic.addMax_append hits cls [],
   Topic.addMax_eq_collapseMax_map hits c⟩

example : Gen.FactsC15IRb.addClientsIR [("c", 0), ("d", 1)] [("c", 1)] = [("c", 1), ("d", 1)] ∧
    Gen.FactsC15IRb.addClientsIR [("c", 1)] [("c", 0)] = [("c", 1)] := by decide

/-- `Session.getPacketFromMsg` (repaired: ids still in `pending` are skipped by a loop of at most 65 536 steps;
the packet carries the id found, the uint16 counter steps past it) -/
theorem getPacket_regenerated_from_source (s : Sess) (m : Msg) :
    Gen.FactsC15IR.extractionFailed = false ∧
    Gen.FactsC15IR.getPacketIR s m = (pkt (freeId s.pending s.nextID) m, (freeId s.pending s.nextID + 1) % idMod) :=
  ⟨rfl, SessionQueue.getPacket_regenerated_from_source m s⟩

/-- `Session.publish` -/
theorem publish_regenerated_from_source (online full : Bool) (m : Msg) (s : Sess) :
    Gen.FactsC15IR.extractionFailed = false ∧
    Gen.FactsC15IR.publishIR online full m s = publish online full m s :=
  ⟨rfl, SessionQueue.publish_regenerated_from_source online full m s⟩

/-- `processPublish` (client.go): PUBACK with the inbound packet's own id iff QoS 1 (the function `pipelineWrapper`
calls after limiter and pipeline passed; `puback_same_id_iff_passed` is about the whole path `onPublish`) -/
theorem processPublish_regenerated_from_source (qos i : Nat) :
    Gen.FactsC15IRp.extractionFailed = false ∧
    Gen.FactsC15IRp.processPublishIR qos i = (onPublish true .ok qos i).puback.toList ∧
    Gen.FactsC15IRp.processPublishIR qos i = (onPublish true .notConfigured qos i).puback.toList :=
  ⟨rfl, SessionQueue.processPublish_regenerated_from_source qos i⟩

/-- **Inbound PUBLISH handling keeps no memory between packets** (regenerated fact): `processPublish`,
`pipelineWrapper`, `checkPublishLimit` and the PUBLISH entry of `processPacketMap` assign no field of `*Client` —
so whether a packet is handed to the pipeline and acknowledged depends on that packet and on the limiter /
pipeline verdicts only (the model `onPublish` has exactly these arguments): a packet id, a DUP flag or an
earlier acknowledgement cannot make the broker skip the backend. -/
theorem inbound_publish_memoryless :
    Gen.FactsC15.extractionFailed = false ∧ Gen.FactsC15.inboundPublishWritesClientFields = [] := by decide

/-- `Session.puback` -/
theorem puback_regenerated_from_source (i : Nat) (s : Sess) :
    Gen.FactsC15IR.extractionFailed = false ∧ Gen.FactsC15IR.pubackIR i s = puback i s :=
  ⟨rfl, SessionQueue.puback_regenerated_from_source s i⟩

/-- `Session.doResend` (head-of-line search over `pendingQueue`, queue cut `pendingQueue[i:]`, one packet) -/
theorem doResend_regenerated_from_source (online : Bool) (s : Sess) :
    Gen.FactsC15IR.extractionFailed = false ∧ Gen.FactsC15IR.doResendIR online s = doResend online s :=
  ⟨rfl, SessionQueue.doResend_regenerated_from_source online s⟩

/-- non-vacuity: the generated definitions compute on a concrete state -/
example : Gen.FactsC15IRb.sendIR (fun c => c != "c3") [("c1", 0), ("c3", 1), ("c2", 1)] false 1 = [("c2", 1)] := by
  decide
example : (Gen.FactsC15IR.doResendIR true ⟨[(2, m2)], [0, 2], 3⟩).2 = [pkt 2 m2] := by decide

end EgVerif.C15
