import EgVerif.Model.ClusterMutex
/-!
# Executable specification for the mutex part of C18

The harness records, in the order of one global atomic counter, `acquired g` (right after
`Lock()` returned nil), `releasing g` (right before `Unlock()` is called) and `failed g`
(`Lock()` returned an error). The property on such a trace: never two holders, and a failed
acquisition does not block the lock (somebody acquires it afterwards, at the latest the probe
the harness performs on every member when all goroutines are done).
-/
namespace EgVerif.ClusterMutex

inductive TEv
  | acquired (g : Nat)
  | releasing (g : Nat)
  | failed (g : Nat)
deriving Repr, DecidableEq

/-- At most one holder at any time. -/
def exclusiveTrace : Option Nat → List TEv → Bool
  | _, [] => true
  | h, .acquired g :: rest => h.isNone && exclusiveTrace (some g) rest
  | h, .releasing g :: rest => h == some g && exclusiveTrace none rest
  | h, .failed _ :: rest => exclusiveTrace h rest

/-- Largest number of simultaneous holders (for the report). -/
def maxHolders : Nat → Nat → List TEv → Nat
  | _, m, [] => m
  | c, m, .acquired _ :: rest => maxHolders (c + 1) (max m (c + 1)) rest
  | c, m, .releasing _ :: rest => maxHolders (c - 1) m rest
  | c, m, .failed _ :: rest => maxHolders c m rest

/-- Every failure is followed by a successful acquisition (or by the final probe). -/
def failuresRecovered (finalProbeOK : Bool) : List TEv → Bool
  | [] => true
  | .failed _ :: rest =>
    (rest.any (fun e => match e with | .acquired _ => true | _ => false) || finalProbeOK)
      && failuresRecovered finalProbeOK rest
  | _ :: rest => failuresRecovered finalProbeOK rest

/-- The model schedule that reproduces an observed trace. -/
def scheduleOf : List TEv → List Act
  | [] => []
  | .acquired g :: rest => acquireSeq g ++ scheduleOf rest
  | .releasing g :: rest => releaseSeq g ++ scheduleOf rest
  | .failed _ :: rest => scheduleOf rest

/-! ### failed acquisitions in the replay (audit repair, engineer mux)

`scheduleOf` drops `failed` events; that is sound because `failSeq` is state-neutral wherever it is enabled
(`Proofs/ClusterMutex.lean`: `failSeq_neutral`). What remains to be checked is that it **was** enabled: the
failed `Lock` of goroutine `g` ran somewhere between `g`'s previous event and its `failed` stamp, and at that
moment `g`'s mutex object was not locked by another goroutine of the member. The stamps `acquired` (after
`Lock` returned) and `releasing` (before `Unlock` is called) make the model hold an object for a *sub*-interval
of the real holding time, so whenever the object really was free the replay has a position where it is free too.
`failedReplayOK` checks exactly that: `seen` = goroutines for which, since their last event, some replay position
had their object's local mutex free. -/

def evActs : TEv → List Act
  | .acquired g => acquireSeq g
  | .releasing g => releaseSeq g
  | .failed _ => []

def evG : TEv → Nat
  | .acquired g => g
  | .releasing g => g
  | .failed g => g

def failedReplayOK (c : Cfg) (gs : List Nat) : State → List Nat → List TEv → Bool
  | _, _, [] => true
  | s, seen, e :: rest =>
    let seen' := seen ++ gs.filter (fun g => !s.held (c.obj g) && !seen.contains g)
    match e with
    | .failed g => seen'.contains g && failedReplayOK c gs s (seen'.filter (· != g)) rest
    | _ =>
      match run c s (evActs e) with
      | none => false
      | some s' => failedReplayOK c gs s' (seen'.filter (· != evG e)) rest

/-- goroutines with a failed attempt -/
def failingGs : List TEv → List Nat
  | [] => []
  | .failed g :: r => if (failingGs r).contains g then failingGs r else g :: failingGs r
  | _ :: r => failingGs r

end EgVerif.ClusterMutex
