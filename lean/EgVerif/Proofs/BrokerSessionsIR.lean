import EgVerif.Proofs.BrokerSessions
import EgVerif.Gen.FactsC16IR
/-!
# C16: the definitions regenerated from `client.go` / `broker.go` / `session_manager.go` equal the model

`Gen/FactsC16IR.lean` is produced on every run by `harness/factextract/facts_c16_ir.go` (irlib). Each theorem
proves a generated definition equal to the corresponding part of `Model/BrokerSessions.lean` (repaired code,
`fixed = true`) for ALL states; re-exported with `extractionFailed = false` from `Props/C16.lean`.
-/
namespace EgVerif.BrokerSessions
open EgVerif.Gen.FactsC16IR

/-- `SessionManager.delLocal`: the session leaves the local map and is closed (the `delLocal` part of
`teardownBody`). -/
theorem delLocal_regenerated_from_source (s : St) : delLocalIR s = delLocalM s := by
  obtain ⟨cl, sm, db, se, ns, tm, cn, w, dc⟩ := s
  cases sm <;> simp [delLocalIR, delLocalM, lookupSess, closeSess]

/-- **`Client.closeAndDelSession`** = the model's `cleanup` (ownership guard of fix 924acbc, then
`delLocal`, `delDB` for a clean session, unsubscribe of the session's topics) followed by `close`:
the teardown touches session map / persisted copy / TopicManager only if no OTHER connection is registered. -/
theorem closeAndDel_regenerated_from_source (s : St) (k : Nat) :
    closeAndDelIR s k = markDisc (teardown true s k) k := by
  -- the generated guard `!ok || cur == k` says that `k` is not superseded
  have hg : ((!(lookupClient s).2) || ((lookupClient s).1 == k)) = !superseded s k := by
    cases h : s.client <;> simp [lookupClient, superseded, h, bne]
  unfold closeAndDelIR teardown
  simp only [hg]
  cases superseded s k
  · -- `delLocal` closes a session but leaves its clean flag and topics, which the code reads after it
    have hc := fun q => closeSess_sess s q (s.conn k).sess
    have hcn : ∀ q, (closeSess s q).conn = s.conn := fun _ => rfl
    cases hsm : s.sessMap <;> by_cases hcl : (s.sess (s.conn k).sess).clean = true <;>
      simp [teardownBody, delLocalM, delDBM, hsm, hcn, hc, hcl]
  · simp

/-- **`Broker.removeClient`**: the registration goes only if the registered client is disconnected. -/
theorem removeClient_regenerated_from_source (s : St) :
    removeClientIR s =
      (match s.client with
       | some o => if (s.conn o).disc then { s with client := none } else s
       | none => s) := by
  obtain ⟨cl, sm, db, se, ns, tm, cn, w, dc⟩ := s
  cases cl with
  | none => simp [removeClientIR, lookupClient]
  | some o => by_cases hd : (cn o).disc = true <;> simp [removeClientIR, lookupClient, hd]

/-- …which is exactly the state change of the model's `remove k` step. -/
theorem remove_step_regenerated_from_source (s : St) (k : Nat) (h : (s.conn k).pc = Pc.closed) :
    step true s (.remove k) = some (setPc (removeClientIR s) k Pc.done) := by
  rw [removeClient_regenerated_from_source]
  obtain ⟨cl, sm, db, se, ns, tm, cn, w, dc⟩ := s
  simp only at h
  cases cl with
  | none => simp [step, h]
  | some o => by_cases hd : (cn o).disc = true <;> simp [step, h, hd]

/-- **`Broker.deleteSession`** in general: a connected registered client is closed; the registration goes. -/
theorem deleteSession_regenerated_from_source_gen (s : St) :
    deleteSessionIR s =
      (match s.client with
       | some o => if (s.conn o).disc then { s with client := none } else { markDisc s o with client := none }
       | none => s) := by
  obtain ⟨cl, sm, db, se, ns, tm, cn, w, dc⟩ := s
  cases cl with
  | none => simp [deleteSessionIR, lookupClient]
  | some o => by_cases hd : (cn o).disc = true <;> simp [deleteSessionIR, lookupClient, hd]

/-- `Broker.deleteSession` = the model's `deleteSession`, provided no `go oldClient.close()` is still pending
for an already disconnected registered client (then the model additionally clears that no-op request). -/
theorem deleteSession_regenerated_from_source (s : St)
    (h : ∀ o, s.client = some o → (s.conn o).disc = true → (s.conn o).closeReq = false) :
    deleteSessionIR s = deleteSession s := by
  rw [deleteSession_regenerated_from_source_gen]
  unfold deleteSession
  cases hc : s.client with
  | none => rfl
  | some o =>
    by_cases hd : (s.conn o).disc = true
    · have hq := h o hc hd
      have : markDisc s o = s := by
        unfold markDisc setConn
        have e : ({ (s.conn o) with disc := true, closeReq := false } : Conn) = s.conn o := by
          cases hco : s.conn o; simp_all
        rw [e, upd_self]
      simp [hd, this]
    · simp [hd]

/-- **`Broker.setSession`**: which session object survives a (re)connect — the previous one iff neither it nor
the CONNECT is clean; otherwise it is closed, its subscriptions are removed, and a fresh one is created. -/
theorem setSession_regenerated_from_source (s : St) (k : Nat) (clean : Bool) :
    setSessionIR s k clean = setSession true s k clean := by
  unfold setSessionIR setSession attach allocSess newSession
  dsimp only
  generalize getSess s = g
  obtain ⟨g1, g2⟩ := g
  cases g2 with
  | none => simp [setConn]
  | some r =>
    cases clean <;> by_cases hcl : (g1.sess r).clean = true <;> simp [setConn, closeSess, hcl]

theorem addAll_nil (l : List Nat) : addAll l [] = l := rfl

/-- the connection is let in: the first packet is a readable CONNECT that passes `connectionValidation`, and
either it takes an existing registration over or the cap check in the locked section passes -/
def accepted (s : St) (readOK isConnect valid : Bool) (nclients maxConn : Int) : Bool :=
  readOK && isConnect && valid && (s.client.isSome || !(decide (maxConn > 0) && decide (nclients ≥ maxConn)))

/-- what `handleConn` does after a written CONNACK: `updateEGName` (store), re-subscription of the session's
topics, then the read loop -/
def connectTail (s1 : St) (k : Nat) : St :=
  setPc { persist s1 (s1.conn k).sess with
          topicMgr := addAll (persist s1 (s1.conn k).sess).topicMgr (s1.sess (s1.conn k).sess).topics } k Pc.running

theorem takeoverMark_eq (s : St) :
    (match s.client with
     | some o => markCloseReq s o
     | none => s) = takeoverMark s := by
  cases h : s.client <;> simp [takeoverMark, markCloseReq, h]

/-- The tail as it stands in `handleConnIR`: `topicMgr.subscribe` is called only `if len(topics) > 0`. With no
topics `addAll _ [] = _`, so both branches are `connectTail`. -/
theorem handleConn_tail (s1 : St) (k : Nat) (e : Bool) :
    setPc (if decide ((((persist s1 (s1.conn k).sess).sess ((persist s1 (s1.conn k).sess).conn k).sess).topics.length : Int) > 0)
        then ({ persist s1 (s1.conn k).sess with
                topicMgr := addAll (persist s1 (s1.conn k).sess).topicMgr
                  ((persist s1 (s1.conn k).sess).sess ((persist s1 (s1.conn k).sess).conn k).sess).topics }, false)
        else (persist s1 (s1.conn k).sess, e)).1 k Pc.running = connectTail s1 k := by
  unfold connectTail
  by_cases ht : (s1.sess (s1.conn k).sess).topics = []
  · simp [ht, persist, addAll]
  · have : 0 < (s1.sess (s1.conn k).sess).topics.length := List.length_pos_iff.mpr ht
    simp [persist, this]

/-- **`Broker.handleConn`**, all paths: refused (any reason) ⇒ the broker state is untouched; CONNACK cannot be
written ⇒ exactly the locked section `connectLocked` has happened; otherwise the locked section, the store of
`updateEGName`, the re-subscription from the session, and the connection is in its read loop. -/
theorem handleConn_regenerated_from_source (s : St) (k : Nat) (clean readOK isConnect valid connackOK : Bool)
    (nclients maxConn : Int) :
    handleConnIR s k clean readOK isConnect valid connackOK nclients maxConn =
      if accepted s readOK isConnect valid nclients maxConn then
        (if connackOK then connectTail (connectLocked true s k clean) k else connectLocked true s k clean)
      else s := by
  -- the cap check of the locked section, as one condition
  have cap : ∀ (a b : Bool) (x y : St), (if a then (if b then x else y) else y) = if !(a && b) then y else x := by
    intro a b x y; cases a <;> cases b <;> rfl
  unfold handleConnIR accepted
  dsimp only
  cases readOK
  · simp
  cases isConnect
  · simp
  cases valid
  · simp
  cases connackOK
  · simp only [cap]
    cases hc : s.client <;> simp [lookupClient, hc, takeoverMark, markCloseReq, connectLocked]
  · simp only [Bool.not_true, Bool.false_eq_true, if_false, Bool.true_and, Bool.and_true, if_true, handleConn_tail, cap]
    cases hc : s.client <;> simp [lookupClient, hc, takeoverMark, markCloseReq, connectLocked]

/-- …and that tail is the model's steps `storeSess k; resubscribe k` run one after the other: an accepted
connection whose CONNACK is written has executed `connectLocked; storeSess; resubscribe` (no interleaving). -/
theorem handleConn_steps_regenerated_from_source (s : St) (k : Nat) (clean : Bool) (h : (s.conn k).pc = Pc.new) :
    ((step true s (.connectLocked k clean)).bind (fun s1 => step true s1 (.storeSess k))).bind
        (fun s2 => step true s2 (.resubscribe k)) =
      some (connectTail (connectLocked true s k clean) k) := by
  have hpc : ((connectLocked true s k clean).conn k).pc = Pc.registered := (setSession_frame _ k clean).2.2.2.1
  simp only [step, h, if_true, Option.bind_some, hpc]
  generalize connectLocked true s k clean = s1
  simp only [connectTail, setPc, setConn, persist, upd_same, if_true, Option.some.injEq]
  simp [upd_upd]

end EgVerif.BrokerSessions
