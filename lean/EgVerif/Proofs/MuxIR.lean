import EgVerif.Model.Mux
import EgVerif.Gen.FactsC01IR
/-!
Regenerated tie by translation for C01 (`notes/IR.md`): the `…IR` definitions of `Gen.FactsC01IR` are
produced on every run by the go/ast micro-translator (`harness/factextract/irlib.go`) from the current
bodies of `muxRule.match`, `MuxPath.matchPath / matchMethod / matchHeaders / rewrite`; each is proved
equal to the hand-written function of `Model/Mux.lean` for all inputs and oracles (`Props/C01.lean`; here
the two `range` loops of `matchHeaders`, and `rewrite`). A changed comparison, branch order, constant or
loop exit in the source changes the generated definition and breaks the corresponding proof.
-/
namespace EgVerif.Mux
open EgVerif.Gen.FactsC01IR

/-- The Go code guards every regexp match by `re != nil`; the model's `reMatch` is false on `none`. -/
theorem isSome_and_reMatch (o : Oracle) (re : Option Nat) (s : String) :
    (re.isSome && reMatch o re s) = reMatch o re s := by
  cases re <;> rfl

/-- Shape of a generated `range` loop step that returns `v` early on `c1` or `c2` and otherwise goes on with
the rest of the list (`b`: the rest runs to the end). -/
private theorem step (v c1 c2 b : Bool) :
    (if c1 = true then (Sum.inl v : Sum Bool Unit) else if c2 = true then .inl v
      else if b = true then .inr () else .inl v) =
    if (!c1 && !c2 && b) = true then .inr () else .inl v := by
  cases c1 <;> cases c2 <;> cases b <;> rfl

theorem matchHeaders_regenerated_from_source_loop1 (o : Oracle) (e : PathEntry) (q : Req)
    (hs : List HeaderCond) :
    matchHeadersIR_loop1 o e q hs = if hs.all (fun h => condAll o h q) then .inr () else .inl false := by
  induction hs with
  | nil => rfl
  | cons h r ih =>
    have hc : condAll o h q = (!(decide (h.values.length > 0) && !h.values.contains (q.get h.key)) &&
        !(h.re.isSome && !reMatch o h.re (q.get h.key))) := by
      obtain ⟨k, vals, re⟩ := h
      cases re <;> cases vals <;> simp [condAll, reMatch]
    simp only [matchHeadersIR_loop1, ih, List.all_cons, step, hc]

theorem matchHeaders_regenerated_from_source_loop2 (o : Oracle) (e : PathEntry) (q : Req)
    (hs : List HeaderCond) :
    matchHeadersIR_loop2 o e q hs = if !hs.any (fun h => condAny o h q) then .inr () else .inl true := by
  induction hs with
  | nil => rfl
  | cons h r ih =>
    have hc : condAny o h q = (h.values.contains (q.get h.key) || reMatch o h.re (q.get h.key)) := rfl
    simp only [matchHeadersIR_loop2, ih, List.any_cons, step, hc, isSome_and_reMatch, Bool.not_or]

/-- `MuxPath.rewrite`: the path after the call; `none` = nil dereference of `mp.pathRE`. -/
theorem rewrite_regenerated_from_source (σ : Nat → String → String → String) (e : PathEntry) (q : Req) :
    rewriteIR σ e q = rewrite σ e q.path := by
  unfold rewriteIR rewrite
  cases e.pathRE <;> rfl

end EgVerif.Mux
