import EgVerif.Proofs.SessionQoS
import EgVerif.Gen.FactsC16IR
/-!
# C16 (QoS layer): `Session.subscribe / unsubscribe / allSubscribes` regenerated from source equal the model
-/
namespace EgVerif.SessionQoS
open EgVerif.Topic (alGet alSet alErase)
open EgVerif.Gen.FactsC16IR

theorem getD_append_length (pre : List Nat) (q : Nat) (r : List Nat) : (pre ++ q :: r).getD pre.length 0 = q := by
  induction pre with
  | nil => rfl
  | cons a t ih => simpa using ih

theorem sessSubscribe_regenerated_from_source_loop (live db db_ : TMap) :
    ∀ (suffix pre : List (Nat × Nat)) (live_ : TMap),
    sessSubscribeIR_loop1 ((pre ++ suffix).map Prod.fst) ((pre ++ suffix).map Prod.snd) live db live_ db_ pre.length
        (suffix.map Prod.fst) = .inr (setAll suffix live_) := by
  intro suffix
  induction suffix with
  | nil => intro pre live_; simp [sessSubscribeIR_loop1, setAll]
  | cons p r ih =>
    intro pre live_
    obtain ⟨f, q⟩ := p
    simp only [List.map_cons, sessSubscribeIR_loop1, setAll]
    have hq : ((pre ++ (f, q) :: r).map Prod.snd).getD pre.length 0 = q := by
      have := getD_append_length (pre.map Prod.snd) q (r.map Prod.snd)
      simpa using this
    rw [hq]
    have := ih (pre ++ [(f, q)]) (alSet f q live_)
    simpa using this

/-- **`Session.subscribe`**: every filter of the packet is written with its QoS, then the session is stored —
unconditionally, so the persisted copy equals the live map after every SUBSCRIBE. -/
theorem sessSubscribe_regenerated_from_source (fs : List (Nat × Nat)) (live db : TMap) :
    sessSubscribeIR (fs.map Prod.fst) (fs.map Prod.snd) live db = sessSubscribe fs live := by
  have h := sessSubscribe_regenerated_from_source_loop live db db fs [] live
  simp only [List.nil_append, List.length_nil] at h
  simp [sessSubscribeIR, sessSubscribe, h]

theorem sessUnsubscribe_regenerated_from_source_loop (topics0 : List Nat) (live db db_ : TMap) :
    ∀ (fs : List Nat) (live_ : TMap),
    sessUnsubscribeIR_loop1 topics0 live db live_ db_ fs = .inr (eraseAll fs live_) := by
  intro fs
  induction fs with
  | nil => intro live_; simp [sessUnsubscribeIR_loop1, eraseAll]
  | cons f r ih => intro live_; simp [sessUnsubscribeIR_loop1, eraseAll, ih]

theorem sessUnsubscribe_regenerated_from_source (fs : List Nat) (live db : TMap) :
    sessUnsubscribeIR fs live db = sessUnsubscribe fs live := by
  simp [sessUnsubscribeIR, sessUnsubscribe, sessUnsubscribe_regenerated_from_source_loop]

theorem allSubscribes_regenerated_from_source_loop (live0 live_ : TMap) :
    ∀ (l : TMap) (sub qos : List Nat),
    allSubscribesIR_loop1 live0 live_ sub qos l = .inr (sub ++ l.map Prod.fst, qos ++ l.map Prod.snd) := by
  intro l
  induction l with
  | nil => intro sub qos; simp [allSubscribesIR_loop1]
  | cons p r ih => intro sub qos; obtain ⟨k, v⟩ := p; simp [allSubscribesIR_loop1, ih]

/-- **`Session.allSubscribes`**: the parallel slices are the keys and values of `Topics`, in one iteration order -/
theorem allSubscribes_regenerated_from_source (live : TMap) : allSubscribesIR live = allSubs live := by
  simp [allSubscribesIR, allSubs, allSubscribes_regenerated_from_source_loop]

end EgVerif.SessionQoS
