import EgVerif.Proofs.Signer
import EgVerif.Gen.FactsC06CanonIR
/-!
Regenerated tie by translation for C06, canonicalisation functions of `pkg/util/signer/signer.go`
(`Gen.FactsC06CanonIR`): the `noEscapeChars` table filled by `init()`, `buildCanonicalURI` (byte loop with
`%XX` escaping), `buildCanonicalHeaders` (collect → sort by name → two buffers), `getHost`.
`buildCanonicalHeaderValue`, from the same generated module, has `Proofs/SignerValueIR.lean` to itself.
-/
namespace EgVerif.Signer
open EgVerif.Sha256 (Bytes)
open EgVerif.Gen.FactsC06CanonIR

theorem noEscape_fin : ∀ n : Fin 256, noEscapeIR (Int.ofNat n.val) = isUnreserved (UInt8.ofNat n.val) := by decide +kernel

/-- the table `noEscapeChars` is the model's `isUnreserved` (RFC 3986 unreserved characters) -/
theorem noEscape_regenerated_from_source (c : UInt8) : noEscapeIR (Int.ofNat c.toNat) = isUnreserved c := by
  have := noEscape_fin ⟨c.toNat, c.toNat_lt⟩
  simpa using this

def hexDigits : Bytes := b "0123456789ABCDEF"

theorem hexHi_fin : ∀ n : Fin 256, hexDigits.getD ((UInt8.ofNat n.val) >>> (4 : UInt8)).toNat 0 = hexUpper (n.val / 16) := by decide +kernel
theorem hexLo_fin : ∀ n : Fin 256, hexDigits.getD ((UInt8.ofNat n.val) &&& (15 : UInt8)).toNat 0 = hexUpper (n.val % 16) := by decide +kernel

theorem hexHi (c : UInt8) : hexDigits.getD (c >>> (4 : UInt8)).toNat 0 = hexUpper (c.toNat / 16) := by
  have := hexHi_fin ⟨c.toNat, c.toNat_lt⟩
  simpa using this
theorem hexLo (c : UInt8) : hexDigits.getD (c &&& (15 : UInt8)).toNat 0 = hexUpper (c.toNat % 16) := by
  have := hexLo_fin ⟨c.toNat, c.toNat_lt⟩
  simpa using this

theorem getD_cast (l : Bytes) (k : Nat) (h : k < l.length) : l.getD ((k : Int)).toNat 0 = l[k] := by
  simp [List.getD_eq_getElem?_getD, List.getElem?_eq_getElem h]

/-- one byte of `buildCanonicalURI` -/
def escURI (c : UInt8) : Bytes := if isUnreserved c || c = 47 then [c] else pct c

theorem buildCanonicalURI_regenerated_from_source_loop (opq epath uri : Bytes) :
    ∀ (fuel i : Nat) (buf : Bytes), i + fuel = uri.length →
      buildCanonicalURIIR_loop1 opq epath hexDigits uri buf (i : Int) fuel = .inr (buf ++ ((uri.drop i).map escURI).flatten) := by
  intro fuel
  induction fuel with
  | zero =>
    intro i buf h
    have : uri.drop i = [] := List.drop_eq_nil_of_le (by omega)
    simp [buildCanonicalURIIR_loop1, this]
  | succ n ih =>
    intro i buf h
    have hi : i < uri.length := by omega
    have hd : uri.drop i = uri[i] :: uri.drop (i + 1) := List.drop_eq_getElem_cons hi
    have hg := getD_cast uri i hi
    have hcast : ((i : Int) + 1) = ((i + 1 : Nat) : Int) := by omega
    simp only [buildCanonicalURIIR_loop1, hg, noEscape_regenerated_from_source, hexHi, hexLo, hcast]
    rw [ih (i + 1) _ (by omega), hd]
    simp only [List.map_cons, List.flatten_cons, escURI, pct]
    by_cases hc : (isUnreserved uri[i] || uri[i] == 47) = true
    · have hc' : (isUnreserved uri[i] || decide (uri[i] = 47)) = true := by simpa using hc
      simp [hc, hc']
    · have hc' : ¬ (isUnreserved uri[i] || decide (uri[i] = 47)) = true := by simpa using hc
      simp [hc, hc']

/-- `buildCanonicalURI` (for `u.Opaque == ""`, which holds for every request that reaches a filter) = `canonURI` -/
theorem buildCanonicalURI_regenerated_from_source (epath : Bytes) : buildCanonicalURIIR [] epath = canonURI epath := by
  unfold buildCanonicalURIIR canonURI
  cases epath with
  | nil => rfl
  | cons c r =>
    have := buildCanonicalURI_regenerated_from_source_loop [] (c :: r) (c :: r) (c :: r).length 0 [] (by simp)
    have h0 : ((0 : Nat) : Int) = 0 := rfl
    rw [h0] at this
    have hne : ¬ ((r.length : Int) + 1 = 0) := by omega
    simp only [hexDigits, List.length_cons] at this
    have hf : escURI = fun c => if isUnreserved c = true ∨ c = 47 then [c] else pct c := by
      funext c; simp [escURI]
    simp [this, hne, hf]

/-- first loop of `buildCanonicalHeaders` (no hoisting): every non-ignored header is appended as (lower-cased name,
canonical value), in iteration order -/
theorem buildCanonicalHeaders_regenerated_from_source_loop1 (cfg : Cfg) (req : Req) (sh ch : Bytes) (q0 : Header) :
    ∀ (hs : Header) (query : Header) (headers : List (Bytes × Bytes)),
      buildCanonicalHeadersIR_loop1 cfg (fun _ => false) req q0 sh ch query headers hs =
        .inr (query, headers ++ (hs.filter fun e => !isIgnored cfg e.1).map fun e => (lower e.1, canonValue e.2)) := by
  intro hs
  induction hs with
  | nil => intro query headers; simp [buildCanonicalHeadersIR_loop1]
  | cons e r ih =>
    intro query headers
    obtain ⟨k, v⟩ := e
    by_cases hi : isIgnored cfg k = true
    · simp [buildCanonicalHeadersIR_loop1, hi, ih]
    · simp [buildCanonicalHeadersIR_loop1, hi, ih]

/-- second loop, after the first element (`i > 0`): every name is preceded by `;`, every header contributes `name:value\n` -/
theorem buildCanonicalHeaders_regenerated_from_source_loop2 (cfg : Cfg) (req : Req) (sh ch : Bytes) (q0 query : Header)
    (hdrs : List (Bytes × Bytes)) :
    ∀ (ps : List (Bytes × Bytes)) (bufName bufHeader : Bytes) (i : Int), 0 < i →
      buildCanonicalHeadersIR_loop2 cfg (fun _ => false) req q0 sh ch query hdrs bufName bufHeader i ps =
        .inr (bufName ++ (ps.map fun p => (59 : UInt8) :: p.1).flatten, bufHeader ++ canonHeadersOf ps) := by
  intro ps
  induction ps with
  | nil => intro bn bh i _; simp [buildCanonicalHeadersIR_loop2, canonHeadersOf]
  | cons p r ih =>
    intro bn bh i hi
    have hi' : decide (i > 0) = true := by simpa using hi
    simp only [buildCanonicalHeadersIR_loop2, hi', if_true]
    rw [ih _ _ (i + 1) (by omega)]
    simp [canonHeadersOf, headerLine]

/-- `buildCanonicalHeaders` without header hoisting = `signedHeadersOf` / `canonHeadersOf` of `signPairs`; the query is untouched -/
theorem buildCanonicalHeaders_regenerated_from_source (cfg : Cfg) (req : Req) (q : Header) :
    buildCanonicalHeadersIR cfg (fun _ => false) req q =
      (signedHeadersOf (signPairs cfg req), canonHeadersOf (signPairs cfg req), q) := by
  unfold buildCanonicalHeadersIR
  simp only [buildCanonicalHeaders_regenerated_from_source_loop1, List.nil_append]
  change (match buildCanonicalHeadersIR_loop2 cfg (fun _ => false) req q [] [] q (signPairs cfg req) [] [] 0 (signPairs cfg req) with
    | Sum.inl r__ => r__
    | Sum.inr (bufName, bufHeader) => (bufName, bufHeader, q)) = _
  generalize signPairs cfg req = ps
  cases ps with
  | nil => simp [buildCanonicalHeadersIR_loop2, signedHeadersOf, canonHeadersOf, joinB]
  | cons p r =>
    simp only [buildCanonicalHeadersIR_loop2]
    have h0 : decide ((0 : Int) > 0) = false := by decide
    simp only [h0]
    rw [buildCanonicalHeaders_regenerated_from_source_loop2 _ _ _ _ _ _ _ r _ _ ((0 : Int) + 1) (by omega)]
    simp [signedHeadersOf, canonHeadersOf, headerLine, joinB_cons_flatten, List.map_map, Function.comp_def]

/-- `strings.LastIndexByte` is `-1` or an index -/
theorem lastIndex_ge (c : UInt8) (s : Bytes) : -1 ≤ lastIndex c s := by
  unfold lastIndex
  have key : ∀ (l : Bytes) (acc : Int × Int), 0 ≤ acc.1 → -1 ≤ acc.2 →
      -1 ≤ (l.foldl (fun (acc : Int × Int) x => (acc.1 + 1, if x = c then acc.1 else acc.2)) acc).2 := by
    intro l
    induction l with
    | nil => intro acc _ h; simpa using h
    | cons x r ih =>
      intro acc h1 h2
      simp only [List.foldl_cons]
      apply ih
      · simp only; omega
      · simp only; split <;> omega
  exact key s (0, -1) (by decide) (by decide)

/-- `getHost` = the model's (`req.Host`, else `URL.Host`; a default or empty port is cut off at the last colon after the last `]`) -/
theorem getHost_regenerated_from_source (req : Req) : getHostIR req = getHost req := by
  have bnil : b "" = [] := rfl
  unfold getHostIR getHost
  simp only [bnil, ite_self]
  by_cases h1 : req.host = []
  · by_cases h2 : req.urlHost = []
    · simp [h1, h2]
    · simp only [h1, h2, beq_self_eq_true, if_true, beq_iff_eq, if_false]
      have hsq := lastIndex_ge 93 req.urlHost
      by_cases hc : lastIndex 58 req.urlHost > lastIndex 93 req.urlHost
      · have e : ((lastIndex 58 req.urlHost + 1) : Int).toNat = (lastIndex 58 req.urlHost).toNat + 1 := by omega
        simp only [hc, decide_true, if_true, e]
        simp [Bool.or_assoc]
      · simp [hc]
  · simp only [h1, beq_iff_eq, if_false]
    have hsq := lastIndex_ge 93 req.host
    by_cases hc : lastIndex 58 req.host > lastIndex 93 req.host
    · have e : ((lastIndex 58 req.host + 1) : Int).toNat = (lastIndex 58 req.host).toNat + 1 := by omega
      simp only [hc, decide_true, if_true, e]
      simp [Bool.or_assoc]
    · simp [hc]

end EgVerif.Signer
