import EgVerif.Spec.BrokerSessions
/-!
# The coarse step model of C16 (`Model/BrokerSessions.lean`): frame lemmas and the invariant `Inv`

What `setSession`, `takeoverMark`, `removeClient` and the teardown leave alone; `SameForCurrent` (what a
teardown step of a superseded connection cannot touch) and `superseded_frame`; `Inv` and `inv_step`.
-/
namespace EgVerif.BrokerSessions

theorem upd_self {α : Type} (f : Nat → α) (k : Nat) : upd f k (f k) = f := by
  funext i; by_cases h : i = k <;> simp [upd, h]

theorem closeSess_sess (s : St) (r q : Nat) :
    ((closeSess s r).sess q).topics = (s.sess q).topics ∧ ((closeSess s r).sess q).clean = (s.sess q).clean := by
  by_cases e : q = r
  · subst e; simp [closeSess]
  · simp [closeSess, upd_other _ _ e]

theorem upd_upd {α : Type} (f : Nat → α) (k : Nat) (a b : α) : upd (upd f k a) k b = upd f k b := by
  funext i; by_cases h : i = k <;> simp [upd, h]

theorem eq_of_client {s : St} {j k : Nat} (hj : s.client = some j) (hk : s.client = some k) : j = k :=
  Option.some.inj (hj.symm.trans hk)

theorem eq_of_owner {s : St} {k j : Nat} (hc : s.client = none ∨ s.client = some k) (hj : s.client = some j) :
    j = k := by
  rcases hc with e | e
  · rw [e] at hj; cases hj
  · exact eq_of_client hj e

/-- `removeClient`: at most the registration goes, and only that of a disconnected client -/
theorem step_remove {s s' : St} {k : Nat} (hs : step true s (.remove k) = some s') :
    (s.conn k).pc = Pc.closed ∧ ∃ cl, s' = setPc { s with client := cl } k Pc.done ∧
      (cl = s.client ∨ (cl = none ∧ ∃ o, s.client = some o ∧ (s.conn o).disc = true)) := by
  simp only [step] at hs
  split at hs <;> cases hs
  refine ⟨by assumption, ?_⟩
  split
  · split
    · exact ⟨none, rfl, Or.inr ⟨rfl, _, by assumption, by assumption⟩⟩
    · exact ⟨_, rfl, Or.inl rfl⟩
  · exact ⟨_, rfl, Or.inl rfl⟩

theorem unreg_sub {cl c : Option Nat} {p : Prop} (h : cl = c ∨ (cl = none ∧ p)) (j : Nat) (e : cl = some j) :
    c = some j := by
  rcases h with h | h
  · exact h ▸ e
  · rw [h.1] at e; cases e

theorem takeoverMark_conn (s : St) (j : Nat) :
    ((takeoverMark s).conn j).pc = (s.conn j).pc ∧ ((takeoverMark s).conn j).sess = (s.conn j).sess ∧
    ((takeoverMark s).conn j).disc = (s.conn j).disc ∧ ((takeoverMark s).conn j).clean = (s.conn j).clean := by
  unfold takeoverMark
  cases s.client with
  | none => simp
  | some o =>
    by_cases e : j = o
    · subst e; simp [setConn]
    · simp [setConn, upd_other _ _ e]

theorem takeoverMark_rest (s : St) :
    (takeoverMark s).sessMap = s.sessMap ∧ (takeoverMark s).sess = s.sess ∧ (takeoverMark s).nextSess = s.nextSess ∧
    (takeoverMark s).doubleClose = s.doubleClose ∧ (takeoverMark s).db = s.db ∧
    (takeoverMark s).topicMgr = s.topicMgr ∧ (takeoverMark s).watch = s.watch := by
  unfold takeoverMark
  cases s.client <;> simp [setConn]

theorem setSession_frame (s : St) (k : Nat) (clean : Bool) :
    (setSession true s k clean).client = s.client ∧ (setSession true s k clean).watch = s.watch ∧
    (∀ v, v ≠ k → (setSession true s k clean).conn v = s.conn v) ∧
    ((setSession true s k clean).conn k).pc = Pc.registered ∧
    ((setSession true s k clean).conn k).disc = (s.conn k).disc := by
  unfold setSession getSess
  cases hsm : s.sessMap with
  | some r => simp only; split <;> simp +contextual [setConn, newSession, closeSess]
  | none =>
    cases hdb : s.db with
    | none => simp +contextual [newSession]
    | some p => simp only; split <;> simp +contextual [setConn, newSession, closeSess]

/-- the teardown-side steps of connection `j`: everything its goroutines do from the moment
its read loop returns (or its write loop fails), plus the `go oldClient.close()` of a takeover -/
def IsTeardownOf (j : Nat) : Act → Prop
  | .noticeEnd k | .cleanup k | .close k | .remove k | .writeErr k | .asyncClose k => k = j
  | _ => False

/-- the part of the state that belongs to "the connection currently registered for the id" -/
structure SameForCurrent (s s' : St) (k : Nat) : Prop where
  client : s'.client = s.client
  sessMap : s'.sessMap = s.sessMap
  sess : s'.sess = s.sess
  nextSess : s'.nextSess = s.nextSess
  db : s'.db = s.db
  topicMgr : s'.topicMgr = s.topicMgr
  watch : s'.watch = s.watch
  conn : s'.conn k = s.conn k
  doubleClose : s'.doubleClose = s.doubleClose

theorem sameForCurrent_refl (s : St) (k : Nat) : SameForCurrent s s k :=
  ⟨rfl, rfl, rfl, rfl, rfl, rfl, rfl, rfl, rfl⟩

theorem sameForCurrent_trans {s s1 s2 : St} {k : Nat} (f1 : SameForCurrent s s1 k) (f2 : SameForCurrent s1 s2 k) :
    SameForCurrent s s2 k :=
  ⟨f2.client.trans f1.client, f2.sessMap.trans f1.sessMap, f2.sess.trans f1.sess, f2.nextSess.trans f1.nextSess,
    f2.db.trans f1.db, f2.topicMgr.trans f1.topicMgr, f2.watch.trans f1.watch, f2.conn.trans f1.conn,
    f2.doubleClose.trans f1.doubleClose⟩

theorem not_superseded {s : St} {k : Nat} (h : ¬ superseded s k = true) : s.client = none ∨ s.client = some k := by
  cases hcl : s.client with
  | none => exact Or.inl rfl
  | some o =>
    right; simp only [superseded, hcl, bne_iff_ne, ne_eq, Decidable.not_not] at h
    rw [h]

theorem teardown_superseded {s : St} {k j : Nat} (hc : s.client = some k) (hj : j ≠ k) :
    teardown true s j = s := by
  have : (k != j) = true := by simp [bne_iff_ne]; exact fun h => hj h.symm
  simp [teardown, superseded, hc, this]

theorem sameForCurrent_upd {s s' : St} {k j : Nat} {c : Conn} (hkj : k ≠ j)
    (e : s' = { s with conn := upd s.conn j c }) : SameForCurrent s s' k := by
  subst e; exact ⟨rfl, rfl, rfl, rfl, rfl, rfl, rfl, upd_other _ _ hkj, rfl⟩

theorem superseded_frame {s s' : St} {k j : Nat} {a : Act}
    (hc : s.client = some k) (hj : j ≠ k) (hlive : (s.conn k).disc = false)
    (ha : IsTeardownOf j a) (hs : step true s a = some s') : SameForCurrent s s' k := by
  have hkj : k ≠ j := fun h => hj h.symm
  cases a <;> simp only [IsTeardownOf] at ha <;> subst ha
  case remove =>
    obtain ⟨_, cl, rfl, hcl⟩ := step_remove hs
    rcases hcl with rfl | ⟨_, o, ho, hd⟩
    · exact sameForCurrent_upd hkj rfl
    · cases eq_of_client ho hc; rw [hlive] at hd; cases hd
  all_goals simp only [step] at hs
  all_goals (split at hs <;> cases hs)
  case noticeEnd => exact sameForCurrent_upd hkj rfl
  case cleanup => rw [teardown_superseded hc hj]; exact sameForCurrent_upd hkj rfl
  case close => exact sameForCurrent_trans (sameForCurrent_upd hkj rfl) (sameForCurrent_upd hkj rfl)
  case writeErr => rw [teardown_superseded hc hj]; exact sameForCurrent_upd hkj rfl
  case asyncClose => exact sameForCurrent_upd hkj rfl

theorem mem_addT {l : List Nat} {f x : Nat} : x ∈ addT l f ↔ x ∈ l ∨ x = f := by
  unfold addT; split
  · constructor
    · exact Or.inl
    · rintro (h | h); exact h; subst h; assumption
  · simp

theorem mem_delT {l : List Nat} {f x : Nat} : x ∈ delT l f ↔ x ∈ l ∧ x ≠ f := by
  simp [delT]

theorem mem_addAll {ts l : List Nat} {x : Nat} : x ∈ addAll l ts ↔ x ∈ l ∨ x ∈ ts := by
  unfold addAll
  induction ts generalizing l with
  | nil => simp
  | cons t r ih =>
    simp only [List.foldl_cons, ih, mem_addT, List.mem_cons]
    constructor
    · rintro ((h | h) | h)
      · exact Or.inl h
      · exact Or.inr (Or.inl h)
      · exact Or.inr (Or.inr h)
    · rintro (h | h | h)
      · exact Or.inl (Or.inl h)
      · exact Or.inl (Or.inr h)
      · exact Or.inr h

theorem mem_delAll {ts l : List Nat} {x : Nat} : x ∈ delAll l ts ↔ x ∈ l ∧ x ∉ ts := by
  simp [delAll]

/-- between registration and the end of the read loop -/
def Pc.active : Pc → Bool
  | .registered | .stored | .running => true
  | _ => false

structure Inv (s : St) : Prop where
  /-- the registered live connection's session is the one in the session map -/
  owns : ∀ k, s.client = some k → (s.conn k).disc = false → (s.conn k).pc.active = true →
    s.sessMap = some (s.conn k).sess
  /-- a registered connection has passed the locked section -/
  regd : ∀ k, s.client = some k → (s.conn k).pc ≠ Pc.new
  /-- the session in the map is open and allocated -/
  openS : ∀ r, s.sessMap = some r → (s.sess r).closed = false ∧ r < s.nextSess
  /-- once re-subscribed, every topic of the current connection's session is routed -/
  routed : ∀ k, s.client = some k → (s.conn k).disc = false → (s.conn k).pc = Pc.running →
    ∀ f ∈ (s.sess (s.conn k).sess).topics, f ∈ s.topicMgr
  /-- no Session.close() on a closed session (would be a `close of closed channel` panic) -/
  noDouble : s.doubleClose = false

theorem inv_init : Inv init := by
  constructor <;> simp [init]

/-- steps that leave registration, session map and session objects alone, take nothing out of the
TopicManager and move connections only "forward"; a connection may enter its read loop if the topics of
its session are routed afterwards -/
theorem inv_of_frame {s s' : St} (h : Inv s)
    (hcl : s'.client = s.client) (hsm : s'.sessMap = s.sessMap) (hse : s'.sess = s.sess)
    (hn : s'.nextSess = s.nextSess) (htm : ∀ x, x ∈ s.topicMgr → x ∈ s'.topicMgr)
    (hd : s'.doubleClose = s.doubleClose)
    (hconn : ∀ k, (s'.conn k).sess = (s.conn k).sess ∧ ((s'.conn k).disc = false → (s.conn k).disc = false) ∧
      ((s'.conn k).pc = Pc.new → (s.conn k).pc = Pc.new) ∧
      ((s'.conn k).pc.active = true → (s.conn k).pc.active = true) ∧
      ((s'.conn k).pc = Pc.running → (s.conn k).pc = Pc.running ∨
        ∀ x ∈ (s.sess (s.conn k).sess).topics, x ∈ s'.topicMgr)) : Inv s' := by
  constructor
  · intro k hc hdsc hact
    obtain ⟨e, d, _, a, _⟩ := hconn k
    rw [hsm, e]; exact h.owns k (hcl ▸ hc) (d hdsc) (a hact)
  · intro k hc hnew
    exact h.regd k (hcl ▸ hc) ((hconn k).2.2.1 hnew)
  · intro r hr; rw [hse, hn]; exact h.openS r (hsm ▸ hr)
  · intro k hc hdsc hrun x hx
    obtain ⟨e, d, _, _, r⟩ := hconn k
    rw [hse, e] at hx
    rcases r hrun with r | r
    · exact htm x (h.routed k (hcl ▸ hc) (d hdsc) r x hx)
    · exact r x hx
  · rw [hd]; exact h.noDouble

theorem inv_of_unregistered {s s' : St} (h : Inv s) (hcl : s'.client = none)
    (hsm : s'.sessMap = s.sessMap) (hse : s'.sess = s.sess) (hn : s'.nextSess = s.nextSess)
    (hd : s'.doubleClose = s.doubleClose) : Inv s' := by
  constructor
  · intro k hc; simp [hcl] at hc
  · intro k hc; simp [hcl] at hc
  · intro r hr; rw [hse, hn]; exact h.openS r (hsm ▸ hr)
  · intro k hc; simp [hcl] at hc
  · rw [hd]; exact h.noDouble

theorem inv_setConn {s : St} (h : Inv s) (k : Nat) (c : Conn)
    (e : c.sess = (s.conn k).sess) (d : c.disc = false → (s.conn k).disc = false)
    (n : c.pc = Pc.new → (s.conn k).pc = Pc.new) (a : c.pc.active = true → (s.conn k).pc.active = true)
    (r : c.pc = Pc.running → (s.conn k).pc = Pc.running) : Inv (setConn s k c) := by
  refine inv_of_frame h rfl rfl rfl rfl (fun _ => id) rfl ?_
  intro j
  by_cases hj : j = k
  · subst hj; simp only [setConn, upd_same]; exact ⟨e, d, n, a, fun x => Or.inl (r x)⟩
  · simp only [setConn, upd_other _ _ hj]; exact ⟨trivial, id, id, id, Or.inl⟩

theorem inv_dbwatch {s : St} (h : Inv s) (d : Option (List Nat × Bool)) (w : Nat) :
    Inv { s with db := d, watch := w } :=
  inv_of_frame h rfl rfl rfl rfl (fun _ => id) rfl (fun _ => ⟨rfl, id, id, id, Or.inl⟩)

theorem inv_setPc {s : St} (h : Inv s) (k : Nat) (p : Pc)
    (n : p = Pc.new → (s.conn k).pc = Pc.new) (a : p.active = true → (s.conn k).pc.active = true)
    (r : p = Pc.running → (s.conn k).pc = Pc.running) : Inv (setPc s k p) :=
  inv_setConn h k _ rfl id n a r

theorem inv_markDisc {s : St} (h : Inv s) (k : Nat) : Inv (markDisc s k) :=
  inv_setConn h k _ rfl (by simp) id id id

theorem teardown_proceeds {s : St} {k : Nat} (hc : s.client = none ∨ s.client = some k) :
    (teardown true s k).client = s.client ∧ (teardown true s k).conn = s.conn ∧
    (teardown true s k).sessMap = none ∧ (teardown true s k).nextSess = s.nextSess ∧
    ((teardown true s k).doubleClose = false ↔
      (s.doubleClose = false ∧ ∀ r, s.sessMap = some r → (s.sess r).closed = false)) := by
  have hsup : superseded s k = false := by
    rcases hc with hc | hc <;> simp [superseded, hc]
  have ht : teardown true s k = teardownBody s k := by simp [teardown, hsup]
  rw [ht]; unfold teardownBody
  cases hsm : s.sessMap <;> by_cases hcl : (s.sess (s.conn k).sess).clean = true <;>
    simp [hcl, hsm, closeSess]

theorem inv_teardown_owner {s : St} (h : Inv s) {k : Nat} (hc : s.client = none ∨ s.client = some k)
    (c : Conn) (hdead : c.disc = true ∨ (c.pc.active = false)) (hnn : c.pc ≠ Pc.new) :
    Inv (setConn (teardown true s k) k c) := by
  obtain ⟨tcl, tconn, tsm, tn, td⟩ := teardown_proceeds hc
  have only : ∀ j, (setConn (teardown true s k) k c).client = some j → j = k := fun j hj =>
    eq_of_owner hc (tcl.symm.trans hj)
  constructor
  · intro j hj hd ha
    cases only j hj
    simp only [setConn, upd_same] at hd ha
    rcases hdead with h3 | h3
    · simp [hd] at h3
    · simp [ha] at h3
  · intro j hj
    cases only j hj; simpa [setConn] using hnn
  · intro r hr; simp [setConn, tsm] at hr
  · intro j hj hd hr
    cases only j hj
    simp only [setConn, upd_same] at hd hr
    rcases hdead with h3 | h3
    · simp [hd] at h3
    · simp [hr, Pc.active] at h3
  · simp only [setConn]
    exact td.mpr ⟨h.noDouble, fun r hr => (h.openS r hr).1⟩

/-- what the locked section of `handleConn` establishes for the connection it lets in -/
structure Registered (s' : St) (k : Nat) (clean : Bool) : Prop where
  client : s'.client = some k
  pc : (s'.conn k).pc = Pc.registered
  cleanFlag : (s'.conn k).clean = clean
  sessMap : s'.sessMap = some (s'.conn k).sess
  opened : (s'.sess (s'.conn k).sess).closed = false
  alloc : (s'.conn k).sess < s'.nextSess

theorem getSess_spec {s : St} (hop : ∀ r, s.sessMap = some r → (s.sess r).closed = false ∧ r < s.nextSess) :
    (getSess s).1.client = s.client ∧ (getSess s).1.conn = s.conn ∧
    (getSess s).1.doubleClose = s.doubleClose ∧ (getSess s).1.topicMgr = s.topicMgr ∧
    (∀ r, (getSess s).2 = some r → (getSess s).1.sessMap = some r ∧ ((getSess s).1.sess r).closed = false ∧
      r < (getSess s).1.nextSess) ∧
    ((getSess s).2 = none → (getSess s).1.sessMap = none) := by
  unfold getSess
  cases hsm : s.sessMap with
  | some r => simp; exact ⟨hsm, hop r hsm⟩
  | none =>
    cases hdb : s.db with
    | none => simp [hsm]
    | some p => obtain ⟨ts, cl⟩ := p; simp

/-- `hst`: the session a CONNECT finds (`SessionManager.get`: the local map, else the persisted copy) is
`(F, c)`. The `r` it returns is the one that was in the map, or a new object decoded from the copy. -/
theorem getSess_stored {s : St} {F : List Nat} {c : Bool}
    (hst : (match s.sessMap with
      | some r => some ((s.sess r).topics, (s.sess r).clean)
      | none => s.db) = some (F, c)) :
    ∃ r, (getSess s).2 = some r ∧ ((getSess s).1.sess r).topics = F ∧ ((getSess s).1.sess r).clean = c ∧
      (getSess s).1.sessMap = some r ∧ (∀ q, s.sessMap = some q → q = r) ∧
      (getSess s).1.client = s.client ∧ (getSess s).1.conn = s.conn ∧ (getSess s).1.topicMgr = s.topicMgr ∧
      s.nextSess ≤ (getSess s).1.nextSess := by
  unfold getSess
  cases hsm : s.sessMap with
  | some r =>
    simp only [hsm, Option.some.injEq, Prod.mk.injEq] at hst
    exact ⟨r, rfl, hst.1, hst.2, hsm, fun q e => (Option.some.inj e).symm, rfl, rfl, rfl, Nat.le_refl _⟩
  | none =>
    simp only [hsm] at hst
    simp only [hst]
    exact ⟨s.nextSess, rfl, by simp, by simp, rfl, nofun, trivial, trivial, trivial, Nat.le_succ _⟩

theorem newSession_registered (s : St) (k : Nat) (clean : Bool) :
    Registered (newSession s k clean) k clean ↔ s.client = some k := by
  constructor
  · intro h; simpa [newSession] using h.client
  · intro h; constructor <;> simp [newSession, h]

theorem setSession_registered {s : St} (hc : s.client = some k) (hd : s.doubleClose = false)
    (hop : ∀ r, s.sessMap = some r → (s.sess r).closed = false ∧ r < s.nextSess) (clean : Bool) :
    Registered (setSession true s k clean) k clean ∧ (setSession true s k clean).doubleClose = false := by
  obtain ⟨gcl, _, gd, _, gsome, _⟩ := getSess_spec hop
  unfold setSession
  generalize getSess s = g at *
  obtain ⟨g1, g2⟩ := g
  simp only at gcl gd gsome ⊢
  cases g2 with
  | none =>
    simp only
    exact ⟨(newSession_registered _ _ _).mpr (gcl.trans hc), by simp [newSession, gd, hd]⟩
  | some r =>
    obtain ⟨hsm, hcl, hlt⟩ := gsome r rfl
    simp only
    split
    · rename_i hre
      simp only [Bool.and_eq_true, Bool.not_eq_true'] at hre
      refine ⟨⟨?_, ?_, ?_, ?_, ?_, ?_⟩, ?_⟩ <;> simp [setConn, gcl, hc, hsm, hcl, hlt, gd, hd, hre.1]
    · refine ⟨(newSession_registered _ _ _).mpr ?_, ?_⟩
      · simp [closeSess, gcl, hc]
      · simp [newSession, closeSess, gd, hd, hcl]

theorem connectLocked_registered {s : St} (h : Inv s) (k : Nat) (clean : Bool) :
    Registered (connectLocked true s k clean) k clean ∧ (connectLocked true s k clean).doubleClose = false := by
  unfold connectLocked
  apply setSession_registered
  · rfl
  · cases hcl : s.client <;> simp [takeoverMark, hcl, setConn, h.noDouble]
  · intro r hr
    have : s.sessMap = some r := by
      cases hcl : s.client <;> simpa [takeoverMark, hcl, setConn] using hr
    have := h.openS r this
    cases hcl : s.client <;> simpa [takeoverMark, hcl, setConn] using this

theorem inv_of_registered {s' : St} {k : Nat} {clean : Bool} (r : Registered s' k clean)
    (hd : s'.doubleClose = false) : Inv s' := by
  constructor
  · intro j hj _ _
    cases eq_of_client hj r.client; exact r.sessMap
  · intro j hj
    cases eq_of_client hj r.client; rw [r.pc]; simp
  · intro q hq
    rw [r.sessMap] at hq; cases hq; exact ⟨r.opened, r.alloc⟩
  · intro j hj _ hrun
    cases eq_of_client hj r.client; rw [r.pc] at hrun; cases hrun
  · exact hd

theorem isCur_iff {s : St} {k : Nat} : isCur s k = true ↔
    s.client = some k ∧ (s.conn k).disc = false ∧ (s.conn k).pc = Pc.running := by
  simp [isCur, and_assoc]

/-- a SUBSCRIBE / UNSUBSCRIBE of the current connection: the topics of its session and the
TopicManager entries change together (`hr`: the new topics are routed if the old ones were) -/
theorem inv_topics {s : St} (h : Inv s) {k : Nat} (hcur : isCur s k = true) (ts tm : List Nat)
    (hr : (∀ x ∈ (s.sess (s.conn k).sess).topics, x ∈ s.topicMgr) → ∀ x ∈ ts, x ∈ tm) :
    Inv (persist { s with topicMgr := tm,
                          sess := upd s.sess (s.conn k).sess { s.sess (s.conn k).sess with topics := ts } }
      (s.conn k).sess) := by
  obtain ⟨hc, hd, hrun⟩ := isCur_iff.mp hcur
  refine ⟨h.owns, h.regd, fun r hr' => ?_, fun j hj hdj hrj x hx => ?_, h.noDouble⟩
  · have := h.openS r hr'
    by_cases e : r = (s.conn k).sess
    · subst e; simpa [persist] using this
    · simpa [persist, upd_other _ _ e] using this
  · cases eq_of_client hj hc
    simp only [persist, upd_same] at hx ⊢
    exact hr (h.routed k hc hd hrun) x hx

theorem inv_step {s s' : St} {a : Act} (h : Inv s) (hs : step true s a = some s') : Inv s' := by
  cases a
  case remove k =>
    obtain ⟨_, cl, rfl, hcl⟩ := step_remove hs
    rcases hcl with rfl | ⟨rfl, _⟩
    · exact inv_setPc h k _ nofun nofun nofun
    · exact inv_of_unregistered h rfl rfl rfl rfl rfl
  all_goals simp only [step] at hs
  case connectLocked k clean =>
    split at hs <;> cases hs
    obtain ⟨r, d⟩ := connectLocked_registered h k clean
    exact inv_of_registered r d
  case refuse k | connackFail k | noticeEnd k =>
    split at hs <;> cases hs
    exact inv_setPc h k _ nofun nofun nofun
  case storeSess k =>
    split at hs <;> cases hs
    rename_i hpc
    exact inv_setPc (s := persist s (s.conn k).sess) (inv_dbwatch h _ _) k _ (by simp)
      (by intro _; simp [persist, hpc, Pc.active]) (by simp)
  case resubscribe k =>
    split at hs <;> cases hs
    rename_i hpc
    refine inv_of_frame h rfl rfl rfl rfl (fun x hx => mem_addAll.mpr (Or.inl hx)) rfl fun j => ?_
    by_cases hj : j = k
    · subst hj
      simp only [setPc, setConn, upd_same]
      exact ⟨trivial, id, nofun, fun _ => by rw [hpc]; rfl, fun _ => Or.inr fun x hx => mem_addAll.mpr (Or.inr hx)⟩
    · simp only [setPc, setConn, upd_other _ _ hj]
      exact ⟨trivial, id, id, id, Or.inl⟩
  case subscribe k f =>
    split at hs <;> cases hs
    rename_i hcur
    refine inv_topics h hcur _ _ fun hrt x hx => ?_
    rcases mem_addT.mp hx with hx | hx
    · exact mem_addT.mpr (Or.inl (hrt x hx))
    · exact mem_addT.mpr (Or.inr hx)
  case unsubscribe k f =>
    split at hs <;> cases hs
    rename_i hcur
    refine inv_topics h hcur _ _ fun hrt x hx => ?_
    exact mem_delT.mpr ⟨hrt x (mem_delT.mp hx).1, (mem_delT.mp hx).2⟩
  case cleanup k =>
    split at hs <;> cases hs
    by_cases hsup : superseded s k = true
    · have : teardown true s k = s := by simp [teardown, hsup]
      rw [this]
      exact inv_setPc h k _ nofun nofun nofun
    · have hc := not_superseded hsup
      exact inv_teardown_owner h hc _ (Or.inr (by simp [Pc.active])) (by simp)
  case close k =>
    split at hs <;> cases hs
    exact inv_setPc (inv_markDisc h k) k _ nofun nofun nofun
  case writeErr k =>
    split at hs <;> cases hs
    rename_i hpc
    by_cases hsup : superseded s k = true
    · have : teardown true s k = s := by simp [teardown, hsup]
      rw [this]; exact inv_markDisc h k
    · have hc := not_superseded hsup
      have hconn := (teardown_proceeds hc).2.1
      have := inv_teardown_owner h hc
        { (teardown true s k).conn k with disc := true, closeReq := false } (Or.inl rfl)
        (by simp [hconn, hpc])
      simpa [markDisc] using this
  case asyncClose k =>
    split at hs <;> cases hs
    exact inv_markDisc h k
  case adminDelete =>
    cases hs; exact inv_dbwatch h _ _
  case watchFires =>
    split at hs <;> cases hs
    -- registered or not, nobody is afterwards
    cases hcl : s.client with
    | _ => simp only [deleteSession, hcl]; exact inv_of_unregistered h rfl rfl rfl rfl rfl

end EgVerif.BrokerSessions
