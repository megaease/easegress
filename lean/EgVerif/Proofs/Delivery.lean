import EgVerif.Model.Delivery
import EgVerif.Proofs.Topic
import Mathlib.Data.List.Nodup
/-! Lemmas about the fan-out loop of `Model/Delivery.lean`. Property theorems are in `Props/C15.lean`. -/
namespace EgVerif.Delivery
open EgVerif.Topic

theorem send_eq_filter (conn : Client → Bool) (q : QoS) (l : List (Client × QoS)) :
    send conn q l = (l.filter (fun p => decide (q ≤ p.2) && conn p.1)).map Prod.fst := by
  induction l with
  | nil => rfl
  | cons p r ih =>
    obtain ⟨c, sq⟩ := p
    by_cases h1 : sq < q
    · simp [send, h1, Nat.not_le_of_lt h1, ih]
    · cases hc : conn c <;> simp [send, h1, Nat.le_of_not_lt h1, hc, ih]

theorem mem_send (conn : Client → Bool) (q : QoS) (l : List (Client × QoS)) (c : Client) :
    c ∈ send conn q l ↔ ∃ sq, (c, sq) ∈ l ∧ q ≤ sq ∧ conn c = true := by
  simp [send_eq_filter, and_assoc]

theorem send_sublist (conn : Client → Bool) (q : QoS) (l : List (Client × QoS)) :
    List.Sublist (send conn q l) (l.map Prod.fst) := by
  rw [send_eq_filter]; exact List.filter_sublist.map _

/-- The visiting order does not matter because `send` filters; a client's other hits do not matter because
`collapseMax` keeps its highest QoS. -/
theorem mem_send_of_perm_collapseMax {order l : List (Client × QoS)} (hperm : order.Perm (collapseMax l))
    (conn : Client → Bool) (q : QoS) (c : Client) :
    c ∈ send conn q order ↔ conn c = true ∧ ∃ sq, (c, sq) ∈ l ∧ q ≤ sq := by
  rw [mem_send]
  constructor
  · rintro ⟨sq, hm, hq, hc⟩
    exact ⟨hc, sq, (ownMax_some (mem_collapseMax.mp (hperm.mem_iff.mp hm))).1, hq⟩
  · rintro ⟨hc, sq, hm, hq⟩
    obtain ⟨mx, hmx⟩ := ownMax_isSome_of_mem hm
    exact ⟨mx, hperm.mem_iff.mpr (mem_collapseMax.mpr hmx), Nat.le_trans hq ((ownMax_some hmx).2 sq hm), hc⟩

end EgVerif.Delivery
