import EgVerif.Proofs.LoadBalance
import EgVerif.Spec.LoadBalance
/-!
# C04 — prefixes of a run, and which generation a selection uses

`after p pre` is the pool the events `pre` leave behind. Every output of a run is the output of one step
taken in such a pool (`mem_run`), so a statement about all selections of a run follows from one about a
single pick (`pick_gen`: the balancer it runs on, by index among everything published). With the thread's
loads taken into account the generation is determined: a pick of thread `t` uses the balancer that was current
at `t`'s **latest load before the pick** — the one built from the last list published before that load —
with the counter value it fetched from *that* balancer. `after_held` is where the model's bookkeeping
(`held`) is traded for a decomposition of the event list, so that the theorems of `Props/C04.lean` need not
mention it. Last, `windowOK_of_gen`: what the judge's window check needs of a selection.
-/
namespace EgVerif.LoadBalance

def after : Pool → List Ev → Pool
  | p, [] => p
  | p, e :: es => after (step p e).1 es

theorem after_append : ∀ (p : Pool) (xs ys : List Ev), after p (xs ++ ys) = after (after p xs) ys
  | _, [], _ => rfl
  | p, e :: es, ys => after_append (step p e).1 es ys

theorem run_append : ∀ (p : Pool) (xs ys : List Ev), run p (xs ++ ys) = run p xs ++ run (after p xs) ys
  | _, [], _ => rfl
  | p, e :: es, ys => by
    rw [List.cons_append, run, run, after, run_append (step p e).1 es ys, List.append_assoc]

theorem mem_run {o : Out} : ∀ {evs : List Ev} {p : Pool}, o ∈ run p evs →
    ∃ pre t x post, evs = pre ++ Ev.pick t x :: post ∧ (step (after p pre) (Ev.pick t x)).2 = some o
  | e :: es, p, h => by
    rw [run, List.mem_append, Option.mem_toList] at h
    rcases h with h | h
    · cases e with
      | load t => cases h
      | store ss => cases h
      | pick t x => exact ⟨[], t, x, es, rfl, h⟩
    · obtain ⟨pre, t, x, post, rfl, h'⟩ := mem_run h
      exact ⟨e :: pre, t, x, post, rfl, h'⟩

theorem after_policy : ∀ (p : Pool) (es : List Ev), (after p es).policy = p.policy
  | _, [] => rfl
  | p, e :: es => by rw [after, after_policy, step_policy]

theorem after_gens : ∀ (p : Pool) (es : List Ev),
    (after p es).gens.map (·.1) = p.gens.map (·.1) ++ (stores es).map (newLB p.policy)
  | _, [] => (List.append_nil _).symm
  | p, e :: es => by
    rw [after, after_gens, step_gens, step_policy, List.append_assoc, ← List.map_append, ← stores_append]
    rfl

theorem after_gens_length (p : Pool) (es : List Ev) :
    (after p es).gens.length = p.gens.length + (stores es).length := by
  have := congrArg List.length (after_gens p es)
  simpa using this

/-- **The balancer a selection runs on**: the pick of thread `t` that follows the events `pre` chooses on
the balancer at index `o.gen` of everything published (before or after it), with the counter fetched there. -/
theorem pick_gen (p : Pool) (pre post : List Ev) (t : Nat) (x : Sel) (o : Out)
    (h : (step (after p pre) (Ev.pick t x)).2 = some o) :
    ∃ lb, (p.gens.map (·.1) ++ (stores (pre ++ Ev.pick t x :: post)).map (newLB p.policy))[o.gen]? = some lb ∧
      o.res = choose lb { x with counter := o.counter } := by
  rcases step_pick (after p pre) t x with ⟨g, lb, c, _, hg, hs⟩ | hs <;> rw [hs] at h <;> cases h
  refine ⟨lb, ?_, rfl⟩
  have hlb : ((after p pre).gens.map (·.1))[g]? = some lb := by rw [List.getElem?_map, hg]; rfl
  rw [after_gens] at hlb
  rw [stores_append, List.map_append, ← List.append_assoc,
    List.getElem?_append_left (List.getElem?_eq_some_iff.mp hlb).1]
  exact hlb

def NoLoad (t : Nat) (es : List Ev) : Prop := ∀ e ∈ es, e ≠ Ev.load t

theorem step_held_other (p : Pool) (e : Ev) (t : Nat) (h : e ≠ Ev.load t) :
    (step p e).1.held.lookup t = p.held.lookup t := by
  cases e with
  | load t' =>
    have hb : (t == t') = false := beq_false_of_ne fun h' => h (h' ▸ rfl)
    simp only [step, List.lookup, hb]
  | store ss => rfl
  | pick t' x => rcases step_pick p t' x with ⟨g, lb, c, _, _, hs⟩ | hs <;> rw [hs]

/-- **The generation a thread holds is the one current at its latest load**: after `pre`, thread `t` holds
either what it held before (no load of `t` in `pre`) or the last generation published before its latest load. -/
theorem after_held (t : Nat) : ∀ (pre : List Ev) (p : Pool) (g : Nat), (after p pre).held.lookup t = some g →
    (p.held.lookup t = some g ∧ NoLoad t pre) ∨
    ∃ pre1 pre2, pre = pre1 ++ Ev.load t :: pre2 ∧ NoLoad t pre2 ∧ g = p.gens.length + (stores pre1).length - 1
  | [], _, _, h => .inl ⟨h, nofun⟩
  | e :: es, p, g, h => by
    rcases after_held t es (step p e).1 g h with ⟨h', hn⟩ | ⟨pre1, pre2, rfl, hn, rfl⟩
    · by_cases he : e = Ev.load t
      · subst he
        refine .inr ⟨[], es, rfl, hn, ?_⟩
        simpa [step, stores] using h'.symm
      · rw [step_held_other p e t he] at h'
        exact .inl ⟨h', List.forall_mem_cons.mpr ⟨he, hn⟩⟩
    · refine .inr ⟨e :: pre1, pre2, rfl, hn, ?_⟩
      rw [← after_gens_length, ← after_gens_length]
      rfl

/-- url a selection reports to the judge -/
def resUrl : Res → Option String
  | .srv s => some s.url
  | _ => none

/-- `windowOK` holds as soon as the generation actually used lies in the window and the result came
from its list. -/
theorem windowOK_of_gen (lists : List (List String)) (a b g : Nat) (l : List String) (u : Option String)
    (ha : a ≤ g) (hb : g ≤ b) (hl : lists[g]? = some l)
    (hu : match u with | none => l.isEmpty = true | some x => l.contains x = true) :
    windowOK lists a b u = true := by
  unfold windowOK
  rw [List.any_eq_true]
  refine ⟨g - a, List.mem_range.mpr (by omega), ?_⟩
  rw [Nat.add_sub_cancel' ha, hl]
  cases u <;> exact hu

end EgVerif.LoadBalance
