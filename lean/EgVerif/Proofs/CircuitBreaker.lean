import EgVerif.Spec.CircuitBreaker
import EgVerif.Proofs.Ring
import Mathlib.Tactic.Linarith
import Mathlib.Tactic.SplitIfs
/-! Lemmas about the circuit breaker model (`Model/CircuitBreaker.lean`): what `transitTo`, `record` and
`acquire` do on each form of input, and the count-based window as a refinement of "the last `N` results".
The property theorems are in `Props/C08.lean`. -/
namespace EgVerif.CircuitBreaker

theorem transitTo_same (p : Policy) (cb : CB) (now : Int) (s : St) (h : s = cb.st) :
    transitTo p cb now s = cb := by
  simp [transitTo, h]

theorem transitTo_open (p : Policy) (cb : CB) (now : Int) (h : cb.st ≠ St.open) :
    transitTo p cb now St.open = { cb with st := St.open, transit := now, stateID := cb.stateID + 1 } := by
  simp [transitTo, h.symm]

theorem transitTo_halfOpen (p : Policy) (cb : CB) (now : Int) (h : cb.st ≠ St.halfOpen) :
    transitTo p cb now St.halfOpen =
      { cb with st := St.halfOpen, transit := now, stateID := cb.stateID + 1,
                win := Win.count (newCountWin p.permitted), nHalf := 0 } := by
  simp [transitTo, h.symm]

theorem transitTo_closed (p : Policy) (cb : CB) (now : Int) (h : cb.st ≠ St.closed) :
    transitTo p cb now St.closed =
      { cb with st := St.closed, transit := now, stateID := cb.stateID + 1,
                win := if p.timeBased then Win.time (newTimeWin p.size now)
                       else Win.count (newCountWin p.size) } := by
  simp [transitTo, h.symm]

theorem transitTo_ne (p : Policy) (cb : CB) (now : Int) {s : St} (h : s ≠ cb.st) :
    (transitTo p cb now s).st = s ∧ (transitTo p cb now s).stateID = cb.stateID + 1 ∧
    (transitTo p cb now s).transit = now ∧ (s = St.halfOpen → (transitTo p cb now s).nHalf = 0) := by
  simp only [transitTo, h, if_false]
  by_cases h1 : s = St.closed
  · simp only [h1, if_true, reduceCtorEq, false_imp_iff, and_self]
  · by_cases h2 : s = St.halfOpen
    · simp only [h2, reduceCtorEq, if_false, if_true, imp_self, and_self]
    · simp only [h1, h2, if_false, false_imp_iff, and_self]

theorem transitTo_id (p : Policy) (cb : CB) (now : Int) (s : St) :
    let c := transitTo p cb now s
    (c.st = cb.st ∧ c.stateID = cb.stateID) ∨ (c.st ≠ cb.st ∧ c.stateID = cb.stateID + 1) := by
  by_cases h : s = cb.st
  · exact Or.inl (by rw [transitTo_same p cb now s h]; exact ⟨rfl, rfl⟩)
  · obtain ⟨h1, h2, _⟩ := transitTo_ne p cb now h
    exact Or.inr ⟨by rw [h1]; exact h, h2⟩

theorem Win.push_total_pos (w : Win) (now : Int) (r : Res) : 0 < (w.push now r).total := by
  cases w <;> exact Nat.succ_pos _

/-- Floor division is exact for "at or above the threshold": Go's `uint8(f * 100 / t) >= T` is the rational
comparison `f / t ≥ T / 100`. -/
theorem rate_ge_iff' (f t T : Nat) (ht : 0 < t) : f * 100 / t ≥ T ↔ 100 * f ≥ T * t := by
  rw [ge_iff_le, Nat.le_div_iff_mul_le ht, Nat.mul_comm f]

theorem record_stale (p : Policy) (cb : CB) {id : Nat} (e : Bool) (d now : Int) (hid : id ≠ cb.stateID) :
    record p cb id e d now = cb := by
  simp only [record, hid, ne_eq, not_false_eq_true, if_true]

/-- `record` with the current id, in the terms of the specification (`Ref.record`): the rates compared without
division (`rate_ge_iff'`; the window is non-empty after the push) and the needed number of results in
HALF_OPEN written as `min minCalls permitted`. -/
theorem record_current (p : Policy) (cb : CB) (e : Bool) (d now : Int) :
    record p cb cb.stateID e d now =
      let cb1 : CB := { cb with win := cb.win.push now (classify p e d) }
      if cb1.win.total < (if cb.st = St.halfOpen then min p.minCalls p.permitted else p.minCalls) then cb1
      else if p.failTh * cb1.win.total ≤ 100 * cb1.win.failure ∨ p.slowTh * cb1.win.total ≤ 100 * cb1.win.slow
        then transitTo p cb1 now St.open
      else if cb.st = St.halfOpen then transitTo p cb1 now St.closed
      else cb1 := by
  have hpos : 0 < (cb.win.push now (classify p e d)).total := Win.push_total_pos _ _ _
  simp only [record, ne_eq, not_true_eq_false, if_false, Win.failureRate, Win.slowRate]
  generalize cb.win.push now (classify p e d) = W at hpos ⊢
  simp only [rate_ge_iff' _ _ _ hpos]
  have hneed : (if cb.st = St.halfOpen ∧ p.minCalls > p.permitted then p.permitted else p.minCalls) =
      if cb.st = St.halfOpen then min p.minCalls p.permitted else p.minCalls := by
    by_cases hh : cb.st = St.halfOpen
    · simp only [hh, true_and, if_true]
      split <;> omega
    · simp only [hh, false_and, if_false]
  simp only [hneed]
  by_cases hf : 100 * W.failure ≥ p.failTh * W.total
  · simp only [hf, if_true, true_or, ge_iff_le]
  · simp only [hf, if_false, false_or, ge_iff_le]

theorem acquire_half (p : Policy) (cb : CB) (now : Int) (h : cb.st = St.halfOpen) :
    acquire p cb now =
      if cb.nHalf < p.permitted then ({ cb with nHalf := cb.nHalf + 1 }, ⟨true, cb.stateID⟩)
      else if 0 < p.maxWaitHalf ∧ p.maxWaitHalf < now - cb.transit then
        (transitTo p cb now St.open, ⟨false, cb.stateID + 1⟩)
      else (cb, ⟨false, cb.stateID⟩) := by
  by_cases hp : cb.nHalf < p.permitted
  · simp [acquire, h, hp]
  · by_cases hmw : 0 < p.maxWaitHalf ∧ p.maxWaitHalf < now - cb.transit
    · simp [acquire, h, hp, hmw, (transitTo_ne p cb now (s := St.open) (by simp [h])).2.1]
    · simp [acquire, h, hp, hmw]

/-- The OPEN case of `AcquirePermission` falls through into the HALF_OPEN code after `transitTo`. -/
theorem acquire_open_elapsed (p : Policy) (cb : CB) (now : Int) (h : cb.st = St.open)
    (hw : ¬ now - cb.transit < p.waitOpen) :
    acquire p cb now = acquire p (transitTo p cb now St.halfOpen) now := by
  have hne : cb.st ≠ St.halfOpen := by simp [h]
  simp [acquire, h, hw, transitTo_halfOpen p cb now hne]

theorem Ref.acquire_open_elapsed (p : Policy) (r : Ref) (now : Int) (h : r.st = St.open)
    (hw : ¬ now - r.since < p.waitOpen) :
    r.acquire p now = (r.enter p now St.halfOpen).acquire p now := by
  have hmw : ¬ (0 < p.maxWaitHalf ∧ p.maxWaitHalf < 0) := by omega
  by_cases hp : 0 < p.permitted <;> simp [Ref.acquire, Ref.enter, h, hw, hp, hmw]

/-! ### count-based window: the ring refines "the last `N` results" -/

/-- Refinement relation between the ring `c` and the abstract window `w` (oldest first): read from
the slot `idx` onwards, the ring is `N - |w|` unused slots followed by `w`; the counters are the counts. -/
structure CountRel (N : Nat) (c : CountWin) (w : List Res) : Prop where
  len : c.bucket.length = N
  idx : c.idx < N
  ring : Ring.rot c.bucket c.idx = List.replicate (N - w.length) Res.unknown ++ w
  wlen : w.length ≤ N
  known : ∀ r ∈ w, r ≠ Res.unknown
  total : c.total = w.length
  slow : c.slow = w.count Res.slow
  failure : c.failure = w.count Res.failure

theorem countRel_new (N : Nat) (hN : 0 < N) : CountRel N (newCountWin N) [] := by
  refine ⟨by simp [newCountWin], by simpa [newCountWin] using hN, ?_, by simp, by simp, rfl, rfl, rfl⟩
  simp [newCountWin, Ring.rot]

theorem lastN_of_le (N : Nat) (l : List Res) (h : l.length ≤ N) : lastN N l = l := by
  unfold lastN
  rw [Nat.sub_eq_zero_of_le h]; rfl

theorem count_unused_append {k : Res} (hk : k ≠ Res.unknown) (m : Nat) (w : List Res) :
    (List.replicate m Res.unknown ++ w).count k = w.count k := by
  rw [List.count_append, List.count_replicate, if_neg (by simpa using hk.symm), Nat.zero_add]

/-- The left side is what `CountWin.push` does to the counter of the results `k` when the slot holding `x` is
overwritten by `r`. -/
theorem count_shift (k x r : Res) (l : List Res) :
    (if r = k then (if x = k then (x :: l).count k - 1 else (x :: l).count k) + 1
     else if x = k then (x :: l).count k - 1 else (x :: l).count k) = (l ++ [r]).count k := by
  rw [List.count_cons, List.count_append, List.count_singleton]
  by_cases hx : x = k <;> by_cases hr : r = k <;> simp [hx, hr]

theorem countRel_push {N : Nat} {c : CountWin} {w : List Res} (h : CountRel N c w) (r : Res)
    (hr : r ≠ Res.unknown) : CountRel N (c.push r) (lastN N (w ++ [r])) := by
  obtain ⟨hlen, hidx, hring, hwlen, hknown, htot, hslow, hfail⟩ := h
  have hi : c.idx < c.bucket.length := by omega
  -- the ring in logical order is `old :: L`, and `L ++ [r]` after the push
  rw [Ring.rot_eq_cons c.bucket c.idx Res.unknown hi] at hring
  have hring' : Ring.rot (c.push r).bucket (c.push r).idx = _ := Ring.rot_set_advance c.bucket c.idx r hi
  generalize c.bucket.drop (c.idx + 1) ++ c.bucket.take c.idx = L at hring hring'
  generalize hold : c.bucket.getD c.idx Res.unknown = old at hring
  have hcount : ∀ k, k ≠ Res.unknown → (old :: L).count k = w.count k := fun k hk => by
    rw [hring, count_unused_append hk]
  have hwlen' : (lastN N (w ++ [r])).length ≤ N := by
    simp only [lastN, List.length_drop]; omega
  -- the new abstract window in the ring, and its size
  have hnew : L ++ [r] = List.replicate (N - (lastN N (w ++ [r])).length) Res.unknown ++ lastN N (w ++ [r]) ∧
      (c.push r).total = (lastN N (w ++ [r])).length := by
    by_cases hfull : w.length < N
    · -- a free slot is overwritten
      rw [lastN_of_le N _ (by simp; omega)]
      obtain ⟨m, hm⟩ : ∃ m, N - w.length = m + 1 := ⟨N - w.length - 1, by omega⟩
      rw [hm, List.replicate_succ, List.cons_append] at hring
      obtain ⟨ho, hL⟩ := List.cons.inj hring
      have hm' : N - (w ++ [r]).length = m := by simp; omega
      refine ⟨by rw [hL, hm', List.append_assoc], ?_⟩
      simp only [CountWin.push, hold, ho, if_true, htot, List.length_append, List.length_singleton]
    · -- the window is full: the oldest result is evicted
      rw [Nat.sub_eq_zero_of_le (by omega), List.replicate_zero, List.nil_append] at hring
      subst hring
      have hl : lastN N (old :: L ++ [r]) = L ++ [r] := by
        unfold lastN
        have : (old :: L ++ [r]).length - N = 1 := by simp at hwlen hfull ⊢; omega
        rw [this]; rfl
      have hz : N - (L ++ [r]).length = 0 := by simp at hwlen hfull ⊢; omega
      rw [hl, hz]
      refine ⟨rfl, ?_⟩
      have hxk : old ≠ Res.unknown := hknown old (by simp)
      simp only [CountWin.push, hold, hxk, if_false, htot, List.length_append, List.length_cons, List.length_nil]
      omega
  refine ⟨by simp [CountWin.push, hlen], ?_, by rw [hring', hnew.1], hwlen', ?_, hnew.2, ?_, ?_⟩
  · simp only [CountWin.push]
    split <;> omega
  · intro y hy
    rcases List.mem_append.mp (List.mem_of_mem_drop hy) with h1 | h1
    · exact hknown y h1
    · exact List.mem_singleton.mp h1 ▸ hr
  · rw [← count_unused_append (k := Res.slow) (by decide) (N - (lastN N (w ++ [r])).length), ← hnew.1,
      ← count_shift Res.slow old r L, hcount Res.slow (by decide), ← hslow, ← hold]
    rfl
  · rw [← count_unused_append (k := Res.failure) (by decide) (N - (lastN N (w ++ [r])).length), ← hnew.1,
      ← count_shift Res.failure old r L, hcount Res.failure (by decide), ← hfail, ← hold]
    rfl

/-- the abstraction function: the results held by the ring, oldest first -/
def CountWin.abs (c : CountWin) : List Res :=
  (Ring.rot c.bucket c.idx).filter (fun r => r != Res.unknown)

theorem countRel_abs {N : Nat} {c : CountWin} {w : List Res} (h : CountRel N c w) : c.abs = w := by
  unfold CountWin.abs
  rw [h.ring, List.filter_append]
  have h1 : (List.replicate (N - w.length) Res.unknown).filter (fun r => r != Res.unknown) = [] := by
    rw [List.filter_eq_nil_iff]; intro a ha; simp [List.eq_of_mem_replicate ha]
  have h2 : w.filter (fun r => r != Res.unknown) = w := by
    rw [List.filter_eq_self]; intro a ha; simpa using h.known a ha
  rw [h1, h2]; rfl

end EgVerif.CircuitBreaker
