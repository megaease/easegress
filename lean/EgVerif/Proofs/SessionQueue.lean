import EgVerif.Spec.Delivery
import EgVerif.Proofs.Topic
import Mathlib.Data.List.Nodup
import Mathlib.Data.List.Perm.Subperm
/-!
Lemmas about `Model/SessionQueue.lean`: what each operation does, the packet-id allocation, and the refinement
invariant between a session and the observation-based bookkeeping of `Spec/Delivery.lean`.
-/
namespace EgVerif.SessionQueue
open EgVerif.Topic (alGet alSet alErase alGet_none_iff alGet_mem mem_alGet)

section
variable {κ β : Type} [DecidableEq κ] (k : κ) (v : β) (l : List (κ × β))

theorem alSet_fresh (h : k ∉ l.map Prod.fst) : alSet k v l = l ++ [(k, v)] := by
  induction l with
  | nil => rfl
  | cons p r ih =>
    simp only [List.map_cons, List.mem_cons, not_or] at h
    simp only [alSet, if_neg (Ne.symm h.1), ih h.2, List.cons_append]

theorem alSet_keys_of_mem (h : k ∈ l.map Prod.fst) : (alSet k v l).map Prod.fst = l.map Prod.fst := by
  induction l with
  | nil => cases h
  | cons p r ih =>
    by_cases e : p.1 = k
    · simp only [alSet, if_pos e, List.map_cons]
    · simp only [alSet, if_neg e, List.map_cons, ih ((List.mem_cons.mp h).resolve_left (Ne.symm e))]

end

section
variable {i : Nat} {full : Bool} {m : Msg} {s : Sess} {p : List (Id × Msg)}

theorem key_mem_of_alGet (h : alGet i p = some m) : i ∈ p.map Prod.fst :=
  List.mem_map.mpr ⟨(i, m), alGet_mem h, rfl⟩

theorem pkt_inj {j : Id} {m' : Msg} : pkt i m = pkt j m' ↔ i = j ∧ m = m' := by
  constructor
  · intro e
    cases m
    cases m'
    simp only [pkt, Packet.mk.injEq] at e
    obtain ⟨rfl, rfl, rfl, rfl⟩ := e
    exact ⟨rfl, rfl⟩
  · rintro ⟨rfl, rfl⟩
    rfl

/-! ### `publish`: the repaired and the unrepaired code differ only in the packet id -/

/-- an online `Session.publish` that uses packet id `i` -/
def publishAt (i : Id) (full : Bool) (m : Msg) (s : Sess) : Sess × List Packet :=
  if m.qos = 1 then (⟨alSet i m s.pending, s.queue ++ [i], (i + 1) % idMod⟩, [pkt i m])
  else (⟨s.pending, s.queue, (i + 1) % idMod⟩, if m.qos = 0 ∧ full = false then [pkt i m] else [])

theorem publishOld_online : publishOld true full m s = publishAt s.nextID full m s := by
  unfold publishOld publishAt
  by_cases h1 : m.qos = 1
  · simp [h1, pkt]
  · by_cases h0 : m.qos = 0 <;> cases full <;> simp [h0, h1]

/-- the repaired `publish` is the unrepaired one with the counter moved to the free id first -/
theorem publish_online : publish true full m s = publishAt (freeId s.pending s.nextID) full m s :=
  publishOld_online (s := ⟨s.pending, s.queue, freeId s.pending s.nextID⟩)

theorem publish_offline : publish false full m s = (s, []) := rfl

theorem publishOld_offline : publishOld false full m s = (s, []) := rfl

theorem publishAt_qos1 (h : m.qos = 1) :
    publishAt i full m s = (⟨alSet i m s.pending, s.queue ++ [i], (i + 1) % idMod⟩, [pkt i m]) :=
  if_pos h

theorem publishAt_fst_of_ne (h : m.qos ≠ 1) :
    (publishAt i full m s).1 = ⟨s.pending, s.queue, (i + 1) % idMod⟩ := by
  rw [publishAt, if_neg h]

theorem publishAt_nextID : (publishAt i full m s).1.nextID = (i + 1) % idMod := by
  unfold publishAt
  split <;> rfl

theorem publishAt_out : ∀ x ∈ (publishAt i full m s).2, x = pkt i m := by
  unfold publishAt
  split
  · simp
  · split <;> simp

/-- `obsStep` records only what went out; a QoS1 message is always written, so it is always recorded -/
theorem obsStep_publishAt (u : List (Id × Msg)) :
    obsStep u (.publish true full m) (publishAt i full m s).2 = if m.qos = 1 then u ++ [(i, m)] else u := by
  by_cases h1 : m.qos = 1
  · rw [publishAt_qos1 h1, if_pos h1, obsStep, if_pos h1]
    rfl
  · rw [if_neg h1]
    cases (publishAt i full m s).2 <;> simp only [obsStep, if_neg h1]

/-! ### packet-id allocation of the repaired `getPacketFromMsg` -/

theorem skipPending_of_free (fuel : Nat) (h : alGet i p = none) : skipPending (fuel + 1) p i = i := by
  simp [skipPending, h]

theorem skipPending_of_pending (fuel : Nat) (h : alGet i p = some m) :
    skipPending (fuel + 1) p i = skipPending fuel p ((i + 1) % idMod) := by
  simp [skipPending, h]

theorem freeId_of_free (h : alGet i p = none) : freeId p i = i :=
  skipPending_of_free 65535 h

theorem freeId_skip_one (h : alGet i p = some m) (h2 : alGet ((i + 1) % idMod) p = none) :
    freeId p i = (i + 1) % idMod :=
  (skipPending_of_pending 65535 h).trans (skipPending_of_free 65534 h2)

theorem skipPending_spec (p : List (Id × Msg)) : ∀ (fuel i : Nat), i < idMod →
    skipPending fuel p i ∉ p.map Prod.fst ∨ ∀ j, j < fuel → (i + j) % idMod ∈ p.map Prod.fst := by
  intro fuel
  induction fuel with
  | zero =>
    intro i _
    exact .inr fun j hj => absurd hj (Nat.not_lt_zero j)
  | succ f ih =>
    intro i hi
    cases hg : alGet i p with
    | none =>
      rw [skipPending_of_free f hg]
      exact .inl (alGet_none_iff.mp hg)
    | some v =>
      rw [skipPending_of_pending f hg]
      refine (ih _ (Nat.mod_lt _ (by decide))).imp_right fun h j hj => ?_
      cases j with
      | zero =>
        rw [Nat.add_zero, Nat.mod_eq_of_lt hi]
        exact key_mem_of_alGet hg
      | succ j' =>
        have := h j' (Nat.lt_of_succ_lt_succ hj)
        rwa [Nat.mod_add_mod, Nat.add_assoc, Nat.add_comm 1] at this

/-- **The repaired allocation never hands out the id of a pending message** while fewer than 65 536 messages are
pending (pigeonhole over the 65 536 residues). -/
theorem freeId_fresh (hn : i < idMod) (hlen : p.length < idMod) : freeId p i ∉ p.map Prod.fst := by
  refine (skipPending_spec p idMod i hn).resolve_right fun h => ?_
  have hnd : ((List.range idMod).map (fun j => (i + j) % idMod)).Nodup := by
    refine List.Nodup.map_on (fun a ha b hb e => ?_) List.nodup_range
    have ha' : a < idMod := List.mem_range.mp ha
    have hb' : b < idMod := List.mem_range.mp hb
    unfold idMod at *
    omega
  have hsub : (List.range idMod).map (fun j => (i + j) % idMod) ⊆ p.map Prod.fst := by
    intro x hx
    obtain ⟨j, hj, rfl⟩ := List.mem_map.mp hx
    exact h j (List.mem_range.mp hj)
  have hle := (hnd.subperm hsub).length_le
  simp only [List.length_map, List.length_range] at hle
  omega

end

theorem freeId_lt (p : List (Id × Msg)) : ∀ (fuel next : Nat), next < idMod → skipPending fuel p next < idMod := by
  intro fuel
  induction fuel with
  | zero => intro n h; exact h
  | succ f ih =>
    intro n h
    simp only [skipPending]
    split
    · exact ih _ (Nat.mod_lt _ (by decide))
    · exact h

def live (u : List (Id × Msg)) (q : List Id) : List Id := q.filter (fun j => decide (j ∈ u.map Prod.fst))

section
variable {u : List (Id × Msg)} {q : List Id} {i : Id}

theorem mem_live {j : Id} : j ∈ live u q ↔ j ∈ q ∧ j ∈ u.map Prod.fst := by
  rw [live, List.mem_filter, decide_eq_true_iff]

theorem live_cons_of_mem (h : i ∈ u.map Prod.fst) : live u (i :: q) = i :: live u q :=
  List.filter_cons_of_pos (decide_eq_true h)

theorem live_cons_of_not_mem (h : i ∉ u.map Prod.fst) : live u (i :: q) = live u q :=
  List.filter_cons_of_neg fun hd => h (of_decide_eq_true hd)

theorem live_push {m : Msg} (hq : i ∉ q) : live (u ++ [(i, m)]) (q ++ [i]) = live u q ++ [i] := by
  rw [live, List.map_append, List.filter_append]
  congr 1
  · refine List.filter_congr fun j hj => decide_eq_decide.mpr ?_
    rw [List.mem_append]
    exact ⟨fun h => h.resolve_right fun h' => hq ((List.mem_singleton.mp h' : j = i) ▸ hj), Or.inl⟩
  · exact List.filter_cons_of_pos (decide_eq_true (List.mem_append_right _ List.mem_cons_self))

theorem keys_erase (u : List (Id × Msg)) (i : Id) :
    (u.filter (fun e => decide (e.1 ≠ i))).map Prod.fst = (u.map Prod.fst).filter (fun j => decide (j ≠ i)) := by
  rw [List.filter_map]
  rfl

theorem live_erase (u : List (Id × Msg)) (q : List Id) (i : Id) :
    live (u.filter (fun e => decide (e.1 ≠ i))) q = (live u q).filter (fun j => decide (j ≠ i)) := by
  rw [live, live, keys_erase, List.filter_filter]
  refine List.filter_congr fun j _ => ?_
  rw [Bool.eq_iff_iff]
  simp [List.mem_filter, and_comm]

end

/-- what the loop of `doResend` cuts off the queue holds no pending id -/
theorem firstPending_spec (q : List Id) (p : List (Id × Msg)) :
    (firstPending q p = none ∧ live p q = []) ∨
    ∃ i m tl, alGet i p = some m ∧ live p q = live p (i :: tl) ∧ firstPending q p = some (i :: tl, i, m) := by
  induction q with
  | nil => exact .inl ⟨rfl, rfl⟩
  | cons a r ih =>
    unfold firstPending
    cases hg : alGet a p with
    | some m => exact .inr ⟨a, m, r, hg, rfl, rfl⟩
    | none =>
      rw [live_cons_of_not_mem (alGet_none_iff.mp hg)]
      exact ih

section
variable (online : Bool) {s : Sess}

theorem doResend_nil (h : s.pending = []) : doResend online s = ({ s with queue := [] }, []) := by
  simp [doResend, h]

theorem doResend_of_pending (h : s.pending ≠ []) :
    (live s.pending s.queue = [] ∧ doResend online s = (s, [])) ∨
    ∃ i m tl, alGet i s.pending = some m ∧ live s.pending s.queue = live s.pending (i :: tl) ∧
      doResend online s = ({ s with queue := i :: tl }, if online then [pkt i m] else []) := by
  have he : s.pending.isEmpty = false := by simpa using h
  unfold doResend
  rw [he]
  rcases firstPending_spec s.queue s.pending with ⟨e, hn⟩ | ⟨i, m, tl, hi, hq, e⟩
  · refine .inl ⟨hn, ?_⟩
    rw [e]
    rfl
  · refine .inr ⟨i, m, tl, hi, hq, ?_⟩
    rw [e]
    rfl

theorem doResend_fst :
    (doResend online s).1.pending = s.pending ∧ (doResend online s).1.nextID = s.nextID := by
  unfold doResend
  split
  · exact ⟨rfl, rfl⟩
  · split <;> exact ⟨rfl, rfl⟩

theorem doResend_out : ∀ x ∈ (doResend online s).2, ∃ e ∈ s.pending, x = pkt e.1 e.2 := by
  intro x hx
  by_cases h : s.pending = []
  · rw [doResend_nil online h] at hx
    cases hx
  · rcases doResend_of_pending online h with ⟨_, e⟩ | ⟨i, m, tl, hi, _, e⟩
    · rw [e] at hx
      cases hx
    · rw [e] at hx
      cases online
      · cases hx
      · exact ⟨(i, m), alGet_mem hi, List.mem_singleton.mp hx⟩

end

/-- **windowed hypothesis**: at every online publish fewer than 65 536 messages are pending -/
def PendBound (s : Sess) : List Ev → Prop
  | [] => True
  | e :: r =>
    (match e with
     | .publish true _ _ => s.pending.length < idMod
     | _ => True) ∧ PendBound (step s e).1 r

/-- the id handed to a QoS1 message is not a stale entry of `pendingQueue` (an id acknowledged earlier whose queue
entry has not been dropped by a tick yet and that comes round again after 65 536 publishes) — needed only for
the ORDER of retransmission -/
def NoStaleReuse (s : Sess) : List Ev → Prop
  | [] => True
  | e :: r =>
    (match e with
     | .publish true _ m => m.qos = 1 → freeId s.pending s.nextID ∉ s.queue
     | _ => True) ∧ NoStaleReuse (step s e).1 r

def decPendBound : ∀ (tr : List Ev) (s : Sess), Decidable (PendBound s tr)
  | [], _ => isTrue trivial
  | .publish true _ _ :: r, s =>
    @instDecidableAnd _ _ (inferInstanceAs (Decidable (s.pending.length < idMod))) (decPendBound r _)
  | .publish false _ _ :: r, _ | .puback _ :: r, _ | .tick _ :: r, _ =>
    @instDecidableAnd _ _ (isTrue trivial) (decPendBound r _)

instance (s : Sess) (tr : List Ev) : Decidable (PendBound s tr) := decPendBound tr s

def decNoStale : ∀ (tr : List Ev) (s : Sess), Decidable (NoStaleReuse s tr)
  | [], _ => isTrue trivial
  | .publish true _ m :: r, s =>
    @instDecidableAnd _ _ (inferInstanceAs (Decidable (m.qos = 1 → freeId s.pending s.nextID ∉ s.queue)))
      (decNoStale r _)
  | .publish false _ _ :: r, _ | .puback _ :: r, _ | .tick _ :: r, _ =>
    @instDecidableAnd _ _ (isTrue trivial) (decNoStale r _)

instance (s : Sess) (tr : List Ev) : Decidable (NoStaleReuse s tr) := decNoStale tr s

def NoPublish (tr : List Ev) : Prop := ∀ e ∈ tr, ∀ o f m, e ≠ Ev.publish o f m

theorem NoPublish.tail {e : Ev} {r : List Ev} (h : NoPublish (e :: r)) : NoPublish r :=
  fun e' he' => h e' (List.mem_cons_of_mem _ he')

theorem noPublish_ticks (k : Nat) (o : Bool) : NoPublish (List.replicate k (Ev.tick o)) := by
  intro e he o' f m
  rw [List.eq_of_mem_replicate he]
  intro h; cases h

theorem pending_noPublish_sub (r : List Ev) (h : NoPublish r) : ∀ (s : Sess), (run s r).pending ⊆ s.pending := by
  induction r with
  | nil => exact fun _ _ he => he
  | cons x t ih =>
    intro s e he
    have := ih h.tail _ he
    cases x with
    | publish o f m => exact absurd rfl (h _ List.mem_cons_self o f m)
    | puback i => exact (List.mem_filter.mp this).1
    | tick o => exact (doResend_fst o (s := s)).1 ▸ this

theorem run_append (a b : List Ev) : ∀ s, run s (a ++ b) = run (run s a) b := by
  induction a with
  | nil => intro s; rfl
  | cons e r ih => intro s; exact ih _

theorem uRun_append (a b : List Ev) : ∀ (s : Sess) (u : List (Id × Msg)),
    uRun s u (a ++ b) = uRun (run s a) (uRun s u a) b := by
  induction a with
  | nil => intro s u; rfl
  | cons e r ih => intro s u; exact ih _ _

theorem outputs_append (a b : List Ev) : ∀ s, outputs s (a ++ b) = outputs s a ++ outputs (run s a) b := by
  induction a with
  | nil => intro s; rfl
  | cons e r ih => intro s; simp only [List.cons_append, outputs, run, ih, List.append_assoc]

theorem uRun_eq_unackedObs (tr : List Ev) : ∀ (s : Sess) (u : List (Id × Msg)),
    uRun s u tr = unackedObs u (trace s tr) := by
  induction tr with
  | nil => intro s u; rfl
  | cons e r ih => intro s u; exact ih _ _

/-- a client that acknowledges what it is sent: tick, PUBACK(id₁), tick, PUBACK(id₂), …, oldest first -/
def ackAll (u : List (Id × Msg)) : List Ev := u.flatMap (fun e => [Ev.tick true, Ev.puback e.1])

/-- The refinement invariant between a session `s` and the unacknowledged messages `u`, oldest first: `pending` IS
`u`, the ids are pairwise distinct, and every one of them is still in the queue — this much holds with the
windowed hypothesis alone. The last clause, that the queue lists them in send order, also needs that no re-issued
id is still a stale entry of the queue; `o` says whether that is assumed. -/
structure Inv (o : Prop) (s : Sess) (u : List (Id × Msg)) : Prop where
  pend : s.pending = u
  nd : (u.map Prod.fst).Nodup
  qsub : ∀ i ∈ u.map Prod.fst, i ∈ s.queue
  lt : s.nextID < idMod
  qf : o → live u s.queue = u.map Prod.fst

abbrev QI := Inv False
abbrev QO := Inv True

theorem inv_init {o : Prop} : Inv o Sess.init [] := ⟨rfl, List.nodup_nil, nofun, by decide, fun _ => rfl⟩

variable {o : Prop} {s : Sess} {u : List (Id × Msg)}

theorem inv_publish (inv : Inv o s u) (full : Bool) (m : Msg) (hlen : s.pending.length < idMod)
    (hstale : o → m.qos = 1 → freeId s.pending s.nextID ∉ s.queue) :
    Inv o (publish true full m s).1 (obsStep u (.publish true full m) (publish true full m s).2) := by
  have hi : freeId s.pending s.nextID ∉ u.map Prod.fst := by
    rw [← inv.pend]
    exact freeId_fresh inv.lt hlen
  have hn : (freeId s.pending s.nextID + 1) % idMod < idMod := Nat.mod_lt _ (by decide)
  rw [publish_online, obsStep_publishAt]
  generalize freeId s.pending s.nextID = i at *
  by_cases h1 : m.qos = 1
  · rw [publishAt_qos1 h1, if_pos h1]
    refine ⟨?_, ?_, fun j hj => ?_, hn, fun ho => ?_⟩
    · rw [inv.pend]
      exact alSet_fresh i m u hi
    · rw [List.map_append, List.nodup_append]
      exact ⟨inv.nd, List.nodup_singleton _,
        fun a ha b hb e => hi ((e.trans (List.mem_singleton.mp hb) : a = i) ▸ ha)⟩
    · rw [List.map_append] at hj
      exact List.mem_append.mpr ((List.mem_append.mp hj).imp_left (inv.qsub j))
    · rw [List.map_append]
      exact (live_push (hstale ho h1)).trans (congrArg (· ++ [i]) (inv.qf ho))
  · rw [publishAt_fst_of_ne h1, if_neg h1]
    exact ⟨inv.pend, inv.nd, inv.qsub, hn, inv.qf⟩

theorem inv_puback (inv : Inv o s u) (i : Id) : Inv o (puback i s) (u.filter (fun e => decide (e.1 ≠ i))) := by
  refine ⟨congrArg (alErase i) inv.pend, inv.nd.sublist (List.filter_sublist.map _), fun j hj => ?_, inv.lt,
    fun ho => ?_⟩
  · rw [keys_erase] at hj
    exact inv.qsub j (List.mem_filter.mp hj).1
  · show live _ s.queue = _
    rw [live_erase, inv.qf ho, keys_erase]

/-- with something unacknowledged, a tick finds its message: the queue holds every unacknowledged id -/
theorem doResend_of_inv (inv : Inv o s u) (hu : u ≠ []) (online : Bool) :
    ∃ i m tl, (i, m) ∈ u ∧ live u s.queue = live u (i :: tl) ∧
      doResend online s = ({ s with queue := i :: tl }, if online then [pkt i m] else []) := by
  rcases doResend_of_pending online (inv.pend ▸ hu) with ⟨hnone, _⟩ | ⟨i, m, tl, hi, hq, e⟩
  · obtain ⟨e0, u', rfl⟩ := List.exists_cons_of_ne_nil hu
    have hk : e0.1 ∈ (e0 :: u').map Prod.fst := List.mem_map.mpr ⟨e0, List.mem_cons_self, rfl⟩
    have := mem_live.mpr ⟨inv.qsub e0.1 hk, hk⟩
    rw [← inv.pend, hnone] at this
    cases this
  · rw [inv.pend] at hi hq
    exact ⟨i, m, tl, alGet_mem hi, hq, e⟩

theorem inv_tick (inv : Inv o s u) (online : Bool) : Inv o (doResend online s).1 u := by
  by_cases hu : u = []
  · subst hu
    rw [doResend_nil online inv.pend]
    exact ⟨inv.pend, inv.nd, nofun, inv.lt, fun _ => rfl⟩
  · obtain ⟨i, m, tl, _, hq, e⟩ := doResend_of_inv inv hu online
    rw [e]
    refine ⟨inv.pend, inv.nd, fun j hj => ?_, inv.lt, fun ho => hq.symm.trans (inv.qf ho)⟩
    exact (mem_live.mp (hq ▸ mem_live.mpr ⟨inv.qsub j hj, hj⟩)).1

theorem doResend_spec (inv : QO s u) (online : Bool) : (doResend online s).2 = specTick online u := by
  cases u with
  | nil =>
    rw [doResend_nil online inv.pend]
    rfl
  | cons e0 u' =>
    obtain ⟨i0, m0⟩ := e0
    obtain ⟨i, m, tl, hi, hq, e⟩ := doResend_of_inv inv (List.cons_ne_nil _ _) online
    have hik : i ∈ ((i0, m0) :: u').map Prod.fst := List.mem_map.mpr ⟨(i, m), hi, rfl⟩
    have hf := hq.symm.trans (inv.qf trivial)
    rw [live_cons_of_mem hik] at hf
    obtain rfl : i = i0 := (List.cons.inj hf).1
    obtain rfl : m0 = m := by simpa [alGet] using mem_alGet inv.nd hi
    rw [e]
    rfl

theorem inv_run (tr : List Ev) : ∀ {s : Sess} {u : List (Id × Msg)}, Inv o s u → PendBound s tr →
    (o → NoStaleReuse s tr) → Inv o (run s tr) (uRun s u tr) := by
  induction tr with
  | nil => exact fun inv _ _ => inv
  | cons e r ih =>
    intro s u inv hb hs
    refine ih ?_ hb.2 fun ho => (hs ho).2
    cases e with
    | publish online full m =>
      cases online
      · exact inv
      · exact inv_publish inv full m hb.1 fun ho => (hs ho).1
    | puback i => exact inv_puback inv i
    | tick online => exact inv_tick inv online

theorem qi_run (tr : List Ev) (hb : PendBound Sess.init tr) : QI (run Sess.init tr) (unacked tr) :=
  inv_run tr inv_init hb nofun

theorem qo_run (tr : List Ev) (hb : PendBound Sess.init tr) (hs : NoStaleReuse Sess.init tr) :
    QO (run Sess.init tr) (unacked tr) :=
  inv_run tr inv_init hb fun _ => hs

theorem inv_ack_head {e : Id × Msg} (inv : Inv o s (e :: u)) : Inv o (puback e.1 s) u := by
  have hf : (e :: u).filter (fun x => decide (x.1 ≠ e.1)) = u := by
    rw [List.filter_cons, if_neg (by simp), List.filter_eq_self]
    intro x hx
    exact decide_eq_true fun e2 => (List.nodup_cons.mp inv.nd).1 (List.mem_map.mpr ⟨x, hx, e2⟩)
  exact hf ▸ inv_puback inv e.1

theorem inv_ack_prefix {rest : List (Id × Msg)} : ∀ (pre : List (Id × Msg)) {s : Sess}, Inv o s (pre ++ rest) →
    Inv o (run s (pre.map (fun e => Ev.puback e.1))) rest
  | [], _, inv => inv
  | _ :: r, _, inv => inv_ack_prefix r (inv_ack_head inv)

theorem ticks_only_resend_head {e : Id × Msg} (inv : QO s (e :: u)) : ∀ k : Nat,
    outputs s (List.replicate k (Ev.tick true)) = List.replicate k (pkt e.1 e.2) := by
  intro k
  induction k generalizing s with
  | zero => rfl
  | succ k ih =>
    show (doResend true s).2 ++ outputs (doResend true s).1 (List.replicate k (Ev.tick true)) = _
    rw [doResend_spec inv true, ih (inv_tick inv true)]
    rfl

theorem drain_all (u : List (Id × Msg)) : ∀ {s : Sess}, QO s u →
    outputs s (ackAll u) = u.map (fun e => pkt e.1 e.2) ∧ QO (run s (ackAll u)) [] := by
  induction u with
  | nil => intro s inv; exact ⟨rfl, inv⟩
  | cons e r ih =>
    intro s inv
    have h := ih (inv_ack_head (inv_tick inv true))
    refine ⟨?_, h.2⟩
    show (doResend true s).2 ++ ([] ++ outputs (puback e.1 (doResend true s).1) (ackAll r)) = _
    rw [doResend_spec inv true, h.1]
    rfl

end EgVerif.SessionQueue
