import EgVerif.Proofs.SignerCanonIR
/-!
Regenerated tie by translation for `buildCanonicalHeaderValue` (`Gen.FactsC06CanonIR.buildCanonicalHeaderValueIR`): the three
inner `for` loops are general loops, translated as recursion on the fuel `len(str) + 1` (`irSpec.WhileFuel`; running out of
fuel = `none`). The index-based "skip leading / trailing spaces, copy runs, collapse spaces" algorithm is shown equal to the
model's list function `canonValue` (`collapse ∘ trimRight ∘ trimLeft`, joined by `,`) — which also proves that the fuel suffices.
-/
namespace EgVerif.Signer
open EgVerif.Sha256 (Bytes)
open EgVerif.Gen.FactsC06CanonIR

/-- list version of the third loop of `buildCanonicalHeaderValue`: `seg` = the bytes since the segment start, `sp` = the
number of spaces it ends with; a run of more than one space followed by another byte flushes the segment up to and
including the run's first space -/
def goC : Bytes → Nat → Bytes → Bytes
  | seg, _, [] => seg
  | seg, sp, c :: r =>
    if c = 32 then goC (seg ++ [c]) (sp + 1) r
    else if sp > 1 then seg.take (seg.length - sp + 1) ++ goC [c] 0 r
    else goC (seg ++ [c]) 0 r

theorem collapse_spaces_cons (n : Nat) (c : UInt8) (r : Bytes) (hc : c ≠ 32) :
    collapse (List.replicate (n + 1) 32 ++ c :: r) = 32 :: collapse (c :: r) := by
  induction n with
  | zero => simp [collapse, hc]
  | succ k ih =>
    rw [List.replicate_succ, List.cons_append, List.replicate_succ, List.cons_append]
    rw [List.replicate_succ, List.cons_append] at ih
    simp only [collapse, and_self, if_true]
    exact ih

theorem collapse_cons_ne (c : UInt8) (r : Bytes) (hc : c ≠ 32) : collapse (c :: r) = c :: collapse r := by
  cases r with
  | nil => simp [collapse]
  | cons d r => simp [collapse, hc]

theorem goC_eq : ∀ (r seg0 : Bytes) (sp : Nat), (r = [] → sp = 0) → r.getLast? ≠ some 32 →
    goC (seg0 ++ List.replicate sp 32) sp r = seg0 ++ collapse (List.replicate sp 32 ++ r)
  | [], seg0, sp, h0, _ => by
    have := h0 rfl
    subst this
    simp [goC, collapse]
  | c :: r, seg0, sp, _, hl => by
    by_cases hc : c = 32
    · subst hc
      have hr : r ≠ [] := by
        intro e; subst e; simp at hl
      have hl' : r.getLast? ≠ some 32 := by
        cases r with
        | nil => exact absurd rfl hr
        | cons d r' => simpa [List.getLast?_cons_cons] using hl
      have ih := goC_eq r seg0 (sp + 1) (fun e => absurd e hr) hl'
      simp only [goC, if_true]
      rw [List.append_assoc, ← List.replicate_succ']
      rw [ih, List.replicate_succ', List.append_assoc]
      rfl
    · have hl' : r.getLast? ≠ some 32 := by
        cases r with
        | nil => simp
        | cons d r' => simpa [List.getLast?_cons_cons] using hl
      by_cases hsp : sp > 1
      · have ih := goC_eq r [c] 0 (fun _ => rfl) hl'
        simp only [List.replicate_zero, List.append_nil, List.nil_append] at ih
        simp only [goC, hc, if_false, hsp, if_true, ih]
        obtain ⟨n, rfl⟩ : ∃ n, sp = n + 1 := ⟨sp - 1, by omega⟩
        rw [collapse_spaces_cons n c r hc, collapse_cons_ne c r hc]
        have : (seg0 ++ List.replicate (n + 1) 32).take ((seg0 ++ List.replicate (n + 1) 32).length - (n + 1) + 1) = seg0 ++ [32] := by
          have hlen : (seg0 ++ List.replicate (n + 1) 32).length - (n + 1) + 1 = seg0.length + 1 := by simp
          rw [hlen, List.take_append]
          simp [List.replicate_succ, List.take_of_length_le]
        rw [this]
        simp
      · have ih := goC_eq r (seg0 ++ List.replicate sp 32 ++ [c]) 0 (fun _ => rfl) hl'
        simp only [List.replicate_zero, List.append_nil, List.nil_append] at ih
        simp only [goC, hc, if_false, hsp, ih]
        have hsp' : sp = 0 ∨ sp = 1 := by omega
        rcases hsp' with rfl | rfl
        · simp [collapse_cons_ne c r hc]
        · have := collapse_spaces_cons 0 c r hc
          simp only [Nat.zero_add, List.replicate_one, List.singleton_append] at this ⊢
          rw [this, collapse_cons_ne c r hc]
          simp

abbrev isSp : UInt8 → Bool := fun x => decide (x = 32)

/-- number of leading spaces -/
def lead : Bytes → Nat
  | [] => 0
  | x :: r => if x = 32 then lead r + 1 else 0

theorem trimLeft_eq_drop_lead : ∀ l : Bytes, trimLeft isSp l = l.drop (lead l)
  | [] => rfl
  | x :: r => by
    by_cases h : x = 32
    · simp [trimLeft, lead, h, isSp, trimLeft_eq_drop_lead r]
    · simp [trimLeft, lead, h, isSp]

/-- the translated test `i < len(str) && str[i] == ' '` at a natural index -/
theorem spaceAt_cast (str : Bytes) (k : Nat) :
    (decide ((k : Int) < Int.ofNat str.length) && (str.getD ((k : Int)).toNat 0 == (32 : UInt8))) = (str[k]? == some 32) := by
  have ho : Int.ofNat str.length = (str.length : Int) := rfl
  by_cases h : k < str.length
  · have : (k : Int) < (str.length : Int) := by omega
    simp [this, List.getElem?_eq_getElem h]
  · have : ¬ (k : Int) < (str.length : Int) := by omega
    simp [this, List.getElem?_eq_none (Nat.le_of_not_lt h)]

theorem lead_drop (str : Bytes) (k : Nat) :
    lead (str.drop k) = if str[k]? = some 32 then lead (str.drop (k + 1)) + 1 else 0 := by
  by_cases h : k < str.length
  · rw [List.drop_eq_getElem_cons h, List.getElem?_eq_getElem h]
    simp [lead]
  · rw [List.drop_eq_nil_of_le (Nat.le_of_not_lt h), List.getElem?_eq_none (Nat.le_of_not_lt h)]
    simp [lead]

theorem buildCanonicalHeaderValue_regenerated_from_source_loop2 (strs : List Bytes) (buf : Bytes) (e : Int) (str : Bytes) :
    ∀ (fuel k : Nat), k ≤ str.length → str.length - k + 1 ≤ fuel →
      buildCanonicalHeaderValueIR_loop2 strs buf (k : Int) e str fuel = .inr (((k + lead (str.drop k) : Nat)) : Int) := by
  intro fuel
  induction fuel with
  | zero => intro k _ h; omega
  | succ n ih =>
    intro k hk hf
    rw [buildCanonicalHeaderValueIR_loop2, spaceAt_cast, lead_drop]
    by_cases hs : str[k]? = some 32
    · have hlt : k < str.length := (List.getElem?_eq_some_iff.mp hs).1
      have hc : ((k : Int) + 1) = ((k + 1 : Nat) : Int) := by omega
      simp only [hs, beq_self_eq_true, Bool.not_true, Bool.false_eq_true, if_false, if_true, hc]
      rw [ih (k + 1) (by omega) (by omega)]
      congr 2
      omega
    · simp [hs]

theorem trimRight_snoc_space (x : Bytes) : trimRight isSp (x ++ [32]) = trimRight isSp x := by
  simp [trimRight, trimLeft, isSp]

theorem trimRight_snoc_ne (x : Bytes) (a : UInt8) (h : a ≠ 32) : trimRight isSp (x ++ [a]) = x ++ [a] := by
  simp [trimRight, trimLeft, isSp, h]

/-- `l[a:b]` for natural indices -/
def slc (l : Bytes) (a b : Nat) : Bytes := (l.take b).drop a

theorem sliceL_cast (l : Bytes) (a b : Nat) : sliceL l (a : Int) (b : Int) = slc l a b := by
  simp [sliceL, slc]

theorem slc_cons (l : Bytes) (m e : Nat) (hm : m < e) (he : e ≤ l.length) : slc l m e = l[m] :: slc l (m + 1) e := by
  unfold slc
  have : m < (l.take e).length := by rw [List.length_take]; omega
  rw [List.drop_eq_getElem_cons this]
  simp

theorem slc_snoc (l : Bytes) (s m : Nat) (hs : s ≤ m) (hm : m < l.length) : slc l s (m + 1) = slc l s m ++ [l[m]] := by
  unfold slc
  rw [List.take_add_one, List.getElem?_eq_getElem hm]
  simp only [Option.toList_some]
  rw [List.drop_append_of_le_length (by simp; omega)]

theorem slc_self (l : Bytes) (m : Nat) : slc l m m = [] := by
  unfold slc
  exact List.drop_eq_nil_of_le (by rw [List.length_take]; exact Nat.min_le_left _ _)

theorem slc_one (l : Bytes) (m : Nat) (hm : m < l.length) : slc l m (m + 1) = [l[m]] := by
  rw [slc_snoc l m m (Nat.le_refl _) hm, slc_self]; rfl

theorem slc_length (l : Bytes) (s m : Nat) (hm : m ≤ l.length) : (slc l s m).length = m - s := by
  simp [slc, List.length_take, Nat.min_eq_left hm]

theorem slc_take (l : Bytes) (s m k : Nat) (hk : s + k ≤ m) : (slc l s m).take k = slc l s (s + k) := by
  unfold slc
  rw [List.take_drop, List.take_take]
  congr 2
  omega

theorem buildCanonicalHeaderValue_regenerated_from_source_loop3 (strs : List Bytes) (buf : Bytes) (str : Bytes) (s : Nat) :
    ∀ (fuel j : Nat), s ≤ j → j ≤ str.length → j - s + 1 ≤ fuel →
      buildCanonicalHeaderValueIR_loop3 strs buf (s : Int) (j : Int) str fuel =
        .inr (((s + (trimRight isSp (slc str s j)).length : Nat)) : Int) := by
  intro fuel
  induction fuel with
  | zero => intro j _ _ h; omega
  | succ n ih =>
    intro j hsj hj hf
    by_cases hgt : s < j
    · obtain ⟨i, rfl⟩ : ∃ i, j = i + 1 := ⟨j - 1, by omega⟩
      have hi : i < str.length := by omega
      have he : (((i + 1 : Nat) : Int) - 1) = (i : Int) := by omega
      have hsl := slc_snoc str s i (by omega) hi
      by_cases hsp : str[i] = 32
      · have hcond : (decide (((i + 1 : Nat) : Int) > (s : Int)) && (str.getD ((i : Int)).toNat 0 == (32 : UInt8))) = true := by
          rw [getD_cast str i hi]; simp [hsp]; omega
        simp only [buildCanonicalHeaderValueIR_loop3, he]
        simp only [hcond, Bool.not_true, Bool.false_eq_true, if_false]
        rw [ih i (by omega) (by omega) (by omega), hsl, hsp, trimRight_snoc_space]
      · have hcond : (decide (((i + 1 : Nat) : Int) > (s : Int)) && (str.getD ((i : Int)).toNat 0 == (32 : UInt8))) = false := by
          rw [getD_cast str i hi]; simp [hsp]
        simp only [buildCanonicalHeaderValueIR_loop3, he]
        simp only [hcond, Bool.not_false, if_true]
        rw [hsl, trimRight_snoc_ne _ _ hsp]
        congr 1
        have : (slc str s i ++ [str[i]]).length = i + 1 - s := by simp [slc]; omega
        rw [this]
        have : s + (i + 1 - s) = i + 1 := by omega
        exact_mod_cast this.symm
    · have hjs : j = s := by omega
      subst hjs
      have hcond : (decide (((j : Nat) : Int) > (j : Int)) && (str.getD (((j : Int) - 1) : Int).toNat 0 == (32 : UInt8))) = false := by simp
      simp only [buildCanonicalHeaderValueIR_loop3, hcond, Bool.not_false, if_true, slc_self]
      simp [trimRight, trimLeft]

theorem buildCanonicalHeaderValue_regenerated_from_source_loop4 (strs : List Bytes) (str : Bytes) (e : Nat) (he : e ≤ str.length) :
    ∀ (fuel m s sp : Nat) (buf : Bytes), s ≤ m → m ≤ e → sp ≤ m - s → e - m + 1 ≤ fuel →
      ∃ b s' m' sp', buildCanonicalHeaderValueIR_loop4 strs buf (s : Int) (e : Int) (m : Int) (sp : Int) str fuel = .inr (b, s', m', sp') ∧
        b ++ sliceL str s' (e : Int) = buf ++ goC (slc str s m) sp (slc str m e) := by
  intro fuel
  induction fuel with
  | zero => intro m s sp buf _ _ _ h; omega
  | succ n ih =>
    intro m s sp buf hsm hme hsp hf
    by_cases hlt : m < e
    · have hml : m < str.length := by omega
      have hc1 : ((m : Int) + 1) = ((m + 1 : Nat) : Int) := by omega
      have hcond : decide ((m : Int) < (e : Int)) = true := by simp; omega
      have hcons := slc_cons str m e hlt he
      by_cases h32 : str[m] = 32
      · have hb : (str.getD ((m : Int)).toNat 0 == (32 : UInt8)) = true := by rw [getD_cast str m hml]; simp [h32]
        have hc2 : ((sp : Int) + 1) = ((sp + 1 : Nat) : Int) := by omega
        obtain ⟨b, s', m', sp', hr, hbuf⟩ := ih (m + 1) s (sp + 1) buf (by omega) (by omega) (by omega) (by omega)
        refine ⟨b, s', m', sp', ?_, ?_⟩
        · simp only [buildCanonicalHeaderValueIR_loop4, hcond, Bool.not_true, Bool.false_eq_true, if_false, hb, if_true, hc1, hc2]
          exact hr
        · rw [hbuf, hcons, slc_snoc str s m hsm hml, h32]
          simp [goC]
      · have hb : (str.getD ((m : Int)).toNat 0 == (32 : UInt8)) = false := by rw [getD_cast str m hml]; simp [h32]
        have hz : (0 : Int) = ((0 : Nat) : Int) := rfl
        by_cases hsp1 : sp > 1
        · have hd : decide ((sp : Int) > 1) = true := by simp; omega
          have hidx : (((m : Int) - (sp : Int)) + 1) = ((m - sp + 1 : Nat) : Int) := by omega
          obtain ⟨b, s', m', sp', hr, hbuf⟩ := ih (m + 1) m 0 (buf ++ slc str s (m - sp + 1)) (by omega) (by omega) (by omega) (by omega)
          refine ⟨b, s', m', sp', ?_, ?_⟩
          · simp only [buildCanonicalHeaderValueIR_loop4, hcond, Bool.not_true, Bool.false_eq_true, if_false, hb, hd, if_true, hc1,
              hidx, sliceL_cast]
            rw [hz]
            exact hr
          · rw [hbuf, hcons, slc_one str m hml]
            have hlen := slc_length str s m (by omega)
            have htk : (slc str s m).take ((slc str s m).length - sp + 1) = slc str s (m - sp + 1) := by
              rw [hlen, slc_take str s m (m - s - sp + 1) (by omega)]
              congr 1
              omega
            simp only [goC, h32, if_false, hsp1, if_true, htk, List.append_assoc]
        · have hd : decide ((sp : Int) > 1) = false := by simp; omega
          obtain ⟨b, s', m', sp', hr, hbuf⟩ := ih (m + 1) s 0 buf (by omega) (by omega) (by omega) (by omega)
          refine ⟨b, s', m', sp', ?_, ?_⟩
          · simp only [buildCanonicalHeaderValueIR_loop4, hcond, Bool.not_true, Bool.false_eq_true, if_false, hb, hd, hc1]
            rw [hz]
            exact hr
          · rw [hbuf, hcons, slc_snoc str s m hsm hml]
            simp only [goC, h32, if_false, hsp1]
    · have hme' : m = e := by omega
      subst hme'
      have hcond : decide ((m : Int) < (m : Int)) = false := by simp
      refine ⟨buf, (s : Int), (m : Int), (sp : Int), ?_, ?_⟩
      · simp only [buildCanonicalHeaderValueIR_loop4, hcond, Bool.not_false, if_true]
      · rw [sliceL_cast, slc_self]
        simp [goC]

/-- `trimRight` returns a prefix that does not end in a space; stated for `y.reverse` so that the recursion appends at the end -/
theorem trimRight_facts : ∀ y : Bytes, (trimRight isSp y.reverse = y.reverse.take (trimRight isSp y.reverse).length) ∧
    (trimRight isSp y.reverse).length ≤ y.reverse.length ∧ (trimRight isSp y.reverse).getLast? ≠ some 32
  | [] => by simp [trimRight, trimLeft]
  | a :: y => by
    obtain ⟨h1, h2, h3⟩ := trimRight_facts y
    rw [List.reverse_cons]
    by_cases ha : a = 32
    · subst ha
      rw [trimRight_snoc_space]
      refine ⟨?_, ?_, h3⟩
      · rw [List.take_append_of_le_length h2]; exact h1
      · simp only [List.length_append, List.length_singleton]; omega
    · rw [trimRight_snoc_ne _ _ ha]
      refine ⟨(List.take_of_length_le (Nat.le_refl _)).symm, Nat.le_refl _, ?_⟩
      simp [ha]

/-- the canonical form of one header value -/
def cv (str : Bytes) : Bytes := collapse (trimRight isSp (trimLeft isSp str))

theorem lead_le (l : Bytes) : lead l ≤ l.length := by
  induction l with
  | nil => simp [lead]
  | cons x r ih => simp only [lead]; split <;> simp <;> omega

/-- the final flush `if s < e { buf += str[s:e] }`: the slice is empty when the test fails -/
theorem append_sliceL_if (str b : Bytes) (s e : Int) :
    (if decide (s < e) = true then b ++ sliceL str s e else b) = b ++ sliceL str s e := by
  by_cases h : s < e
  · rw [if_pos (decide_eq_true h)]
  · have hnil : sliceL str s e = [] := by
      unfold sliceL
      apply List.drop_eq_nil_of_le
      rw [List.length_take]
      omega
    rw [if_neg (fun hd => h (of_decide_eq_true hd)), hnil, List.append_nil]

theorem buildCanonicalHeaderValue_regenerated_from_source_step (strs0 : List Bytes) (buf : Bytes) (i : Int) (str : Bytes) (rest : List Bytes) :
    buildCanonicalHeaderValueIR_loop1 strs0 buf i (str :: rest) =
      buildCanonicalHeaderValueIR_loop1 strs0 ((if i > 0 then buf ++ [44] else buf) ++ cv str) (i + 1) rest := by
  have hs0 := lead_le str
  obtain ⟨hpre, hlen, hlast⟩ := trimRight_facts (str.drop (lead str)).reverse
  rw [List.reverse_reverse] at hpre hlen hlast
  let t := trimRight isSp (str.drop (lead str))
  have ht : t = trimRight isSp (trimLeft isSp str) := by simp only [t, trimLeft_eq_drop_lead]
  have htl : t.length ≤ str.length - lead str := by simpa using hlen
  have he : lead str + t.length ≤ str.length := by omega
  have hbuf : (if decide (i > 0) = true then buf ++ [(44 : UInt8)] else buf) = (if i > 0 then buf ++ [44] else buf) := by
    by_cases h : i > 0 <;> simp [h]
  simp only [buildCanonicalHeaderValueIR_loop1, hbuf]
  generalize (if i > 0 then buf ++ [44] else buf) = buf0
  -- leading spaces, trailing spaces, then the copy loop on what is between them
  have h2 := buildCanonicalHeaderValue_regenerated_from_source_loop2 strs0 buf0 0 str (str.length + 1) 0 (Nat.zero_le _) (by omega)
  have h3 := buildCanonicalHeaderValue_regenerated_from_source_loop3 strs0 buf0 str (lead str) (str.length + 1) str.length hs0
    (Nat.le_refl _) (by omega)
  obtain ⟨b, s', m', sp', h4, hb⟩ := buildCanonicalHeaderValue_regenerated_from_source_loop4 strs0 str (lead str + t.length) he
    (str.length + 1) (lead str) (lead str) 0 buf0 (Nat.le_refl _) (by omega) (by omega) (by omega)
  simp only [slc, List.drop_zero, Nat.zero_add, List.take_length] at h2 h3
  have ho : Int.ofNat str.length = ((str.length : Nat) : Int) := rfl
  -- `erw`: the literal `0 : Int` is the cast of `0 : Nat` only up to unfolding
  erw [h2]
  simp only
  rw [ho, h3]
  simp only
  erw [h4]
  simp only
  have hslc : slc str (lead str) (lead str + t.length) = t := by
    unfold slc
    rw [List.drop_take]
    have : lead str + t.length - lead str = t.length := by omega
    rw [this]
    exact hpre.symm
  have hg := goC_eq t [] 0 (fun _ => rfl) hlast
  simp only [List.replicate_zero, List.append_nil, List.nil_append] at hg
  rw [slc_self, hslc, hg] at hb
  rw [append_sliceL_if, hb, cv, ← ht]

theorem buildCanonicalHeaderValue_regenerated_from_source_loop1 (strs0 : List Bytes) : ∀ (strs : List Bytes) (buf : Bytes) (i : Int), 0 < i →
    buildCanonicalHeaderValueIR_loop1 strs0 buf i strs = .inr (buf ++ (strs.map fun s => (44 : UInt8) :: cv s).flatten) := by
  intro strs
  induction strs with
  | nil => intro buf i _; simp [buildCanonicalHeaderValueIR_loop1]
  | cons str rest ih =>
    intro buf i hi
    rw [buildCanonicalHeaderValue_regenerated_from_source_step, ih _ (i + 1) (by omega)]
    simp [hi]

/-- `buildCanonicalHeaderValue` = `canonValue` (per value: trim spaces, collapse runs of spaces; joined by `,`); in particular
the fuel `len(str) + 1` of the three inner loops always suffices (`some`) -/
theorem buildCanonicalHeaderValue_regenerated_from_source (strs : List Bytes) :
    buildCanonicalHeaderValueIR strs = some (canonValue strs) := by
  unfold buildCanonicalHeaderValueIR canonValue
  cases strs with
  | nil => simp [buildCanonicalHeaderValueIR_loop1, joinB]
  | cons a r =>
    simp only
    rw [buildCanonicalHeaderValue_regenerated_from_source_step, buildCanonicalHeaderValue_regenerated_from_source_loop1 _ r _ ((0 : Int) + 1) (by omega)]
    simp only [List.map_cons, joinB_cons_flatten, List.map_map, Function.comp_def]
    simp [cv]

end EgVerif.Signer
