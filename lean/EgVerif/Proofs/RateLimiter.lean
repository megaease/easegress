import EgVerif.Spec.RateLimiter
import Mathlib.Tactic.Linarith
/-! Lemmas for C09 (rate limiter): the packed-token invariant of `acquire … 1` and the arithmetic of
cycles it needs. Property theorems are in `Props/C09.lean`. -/
namespace EgVerif.RateLimiter

/-- With `x = tokens - j * L`: the number of releases the packed-token picture puts into relative cycle `j`. -/
def clamp (L x : Int) : Nat := (min L (max 0 x)).toNat

/-- The invariant: the `tokens` reserved from the start of `cycle` are packed `L` per
cycle, and every earlier cycle is within the limit. -/
structure Inv (p : Policy) (s : RL) (h : Hist) : Prop where
  tok_nonneg : 0 ≤ s.tokens
  packed : ∀ j : Nat, cnt p.P h (s.cycle + j) = clamp p.L (s.tokens - j * p.L)
  past : ∀ c : Int, c < s.cycle → cnt p.P h c ≤ p.L.toNat

theorem cnt_append (P : Int) (h : Hist) (e : Int × Out) (c : Int) :
    cnt P (h ++ [e]) c = cnt P h c + (if e.2.permitted && relCycle P e == c then 1 else 0) := by
  unfold cnt
  simp [List.filter_append, List.filter_cons]
  split <;> simp

theorem clamp_le (L x : Int) : clamp L x ≤ L.toNat := by
  unfold clamp; omega

theorem clamp_eq_full {L : Int} (hL : 0 < L) (x : Int) : clamp L x = L.toNat ↔ L ≤ x := by
  unfold clamp; omega

theorem clamp_rebase {L : Int} (hL : 0 < L) (x : Int) {m : Int} (hm : 0 ≤ m) :
    clamp L ((if x < 0 then 0 else x) - m) = clamp L (x - m) := by
  unfold clamp; split <;> omega

theorem ediv_eq_iff_sub {L : Int} (hL : 0 < L) (t j : Int) :
    t / L = j ↔ 0 ≤ t - j * L ∧ t - j * L < L := by
  have h1 : t / L ≤ j ↔ t < (j + 1) * L := by rw [← Int.lt_add_one_iff, Int.ediv_lt_iff_lt_mul hL]
  have h2 : j ≤ t / L ↔ j * L ≤ t := Int.le_ediv_iff_mul_le hL
  rw [le_antisymm_iff, h1, h2, add_mul, one_mul]
  omega

/-- The token taken when `t` are reserved is released in relative cycle `t / L`. -/
theorem clamp_step (L t : Int) (j : Nat) (hL : 0 < L) :
    clamp L (t - j * L) + (if t / L = (j : Int) then 1 else 0) = clamp L (t + 1 - j * L) := by
  simp only [ediv_eq_iff_sub hL, add_sub_right_comm]
  generalize t - (j : Int) * L = x
  unfold clamp
  split <;> omega

/-- All cycles `0 … q` ahead are full exactly when `L * (q + 1)` tokens are reserved. -/
theorem horizon_full_iff {L q : Int} (hL : 0 < L) (hq : 0 ≤ q) (t : Int) :
    (∀ j : Nat, (j : Int) ≤ q → clamp L (t - j * L) = L.toNat) ↔ L * (q + 1) ≤ t := by
  simp only [clamp_eq_full hL, mul_add, mul_one, mul_comm L q]
  constructor
  · intro hall
    have := hall q.toNat (by omega)
    rw [Int.toNat_of_nonneg hq] at this
    omega
  · intro ht j hj
    have : (j : Int) * L ≤ q * L := Int.mul_le_mul_of_nonneg_right hj hL.le
    omega

/-- Waiting from `now` to the start of the `k`-th next cycle, `1 ≤ k ≤ T / P`, takes at most `T`. -/
theorem wait_bounds {P T now k : Int} (hP : 0 < P) (hk1 : 1 ≤ k) (hkq : k ≤ T / P) :
    0 ≤ P * (now / P + k) - now ∧ P * (now / P + k) - now ≤ T := by
  have h1 : P * 1 ≤ P * k := Int.mul_le_mul_of_nonneg_left hk1 hP.le
  have h2 : P * k ≤ P * (T / P) := Int.mul_le_mul_of_nonneg_left hkq hP.le
  have h3 : P * (T / P) ≤ T := Int.mul_ediv_self_le hP.ne'
  have h4 := Int.mul_ediv_add_emod now P
  have h5 := Int.emod_nonneg now hP.ne'
  have h6 := Int.emod_lt_of_pos now hP
  rw [mul_add]
  omega

/-- Well-formed policy: what `createRateLimiter` / spec validation guarantee. -/
structure Policy.WF (p : Policy) : Prop where
  hL : 0 < p.L
  hP : 0 < p.P
  hT : 0 ≤ p.T

/-- The tokens already reserved from the start of the cycle of `now`. -/
def rebased (L P : Int) (s : RL) (now : Int) : Int :=
  let t0 := s.tokens - (now / P - s.cycle) * L
  if t0 < 0 then 0 else t0

theorem rebased_nonneg (L P : Int) (s : RL) (now : Int) : 0 ≤ rebased L P s now := by
  unfold rebased; simp only; split <;> omega

theorem rebased_same {L P : Int} {s : RL} {now : Int} (hc : now / P = s.cycle) (ht : 0 ≤ s.tokens) :
    rebased L P s now = s.tokens := by
  unfold rebased
  rw [hc, sub_self, zero_mul, sub_zero]
  exact if_neg (not_lt.mpr ht)

theorem acquire_eq {p : Policy} (wf : p.WF) (s : RL) {now : Int} (n : Int) (hnow : 0 ≤ now) :
    acquire p s now n =
      if p.L * (p.T / p.P + 1) ≤ rebased p.L p.P s now then (s, ⟨false, p.T⟩)
      else (⟨now / p.P, rebased p.L p.P s now + n⟩,
        ⟨true, if rebased p.L p.P s now < p.L then 0
               else p.P * (now / p.P + rebased p.L p.P s now / p.L) - now⟩) := by
  have e1 : Int.tdiv p.T p.P = p.T / p.P := Int.tdiv_eq_ediv_of_nonneg wf.hT
  have e2 : Int.tdiv now p.P = now / p.P := Int.tdiv_eq_ediv_of_nonneg hnow
  have e3 := Int.tdiv_eq_ediv_of_nonneg (b := p.L) (rebased_nonneg p.L p.P s now)
  have er : rebased p.L p.P s now = if s.tokens - (now / p.P - s.cycle) * p.L < 0 then 0
      else s.tokens - (now / p.P - s.cycle) * p.L := rfl
  simp only [acquire, e1, e2, ← er, e3, ge_iff_le]
  split
  · rfl
  · split <;> rfl

theorem acquire_spare {p : Policy} (wf : p.WF) {s : RL} {now : Int} (n : Int) (hnow : 0 ≤ now)
    (ht : rebased p.L p.P s now < p.L) :
    acquire p s now n = (⟨now / p.P, rebased p.L p.P s now + n⟩, ⟨true, 0⟩) := by
  have hq : p.L * 1 ≤ p.L * (p.T / p.P + 1) :=
    Int.mul_le_mul_of_nonneg_left (by have := Int.ediv_nonneg wf.hT wf.hP.le; omega) wf.hL.le
  rw [acquire_eq wf s n hnow, if_neg (by omega), if_pos ht]

theorem cnt_rebased {p : Policy} (wf : p.WF) {s : RL} {h : Hist} {now : Int}
    (hmono : s.cycle ≤ now / p.P) (inv : Inv p s h) (j : Nat) :
    cnt p.P h (now / p.P + j) = clamp p.L (rebased p.L p.P s now - j * p.L) := by
  obtain ⟨d, hd⟩ := Int.eq_ofNat_of_zero_le (show 0 ≤ now / p.P - s.cycle by omega)
  have h1 : now / p.P + (j : Int) = s.cycle + ((d + j : Nat) : Int) := by push_cast; omega
  have hj : 0 ≤ (j : Int) * p.L := Int.mul_nonneg (Int.natCast_nonneg j) wf.hL.le
  rw [h1, inv.packed (d + j), rebased, hd, clamp_rebase wf.hL _ hj]
  push_cast
  rw [add_mul, sub_sub]

theorem Inv.cnt_le {p : Policy} {s : RL} {h : Hist} (inv : Inv p s h) (c : Int) :
    cnt p.P h c ≤ p.L.toNat := by
  by_cases hc : c < s.cycle
  · exact inv.past c hc
  · obtain ⟨d, hd⟩ := Int.eq_ofNat_of_zero_le (show 0 ≤ c - s.cycle by omega)
    rw [show c = s.cycle + (d : Int) by omega, inv.packed d]
    exact clamp_le _ _

theorem inv_init {p : Policy} (wf : p.WF) : Inv p init [] := by
  refine ⟨le_refl _, fun j => ?_, fun c _ => Nat.zero_le _⟩
  have : 0 ≤ (j : Int) * p.L := Int.mul_nonneg (Int.natCast_nonneg j) wf.hL.le
  show 0 = clamp p.L (0 - j * p.L)
  unfold clamp; omega

theorem relCycle_admit {p : Policy} (wf : p.WF) (now : Int) {t : Int} (ht : 0 ≤ t) :
    relCycle p.P (now, (⟨true, if t < p.L then 0 else p.P * (now / p.P + t / p.L) - now⟩ : Out))
      = now / p.P + t / p.L := by
  unfold relCycle
  simp only
  split
  · rename_i hlt
    rw [Int.ediv_eq_zero_of_lt ht hlt, add_zero, add_zero]
  · rw [add_sub_cancel, Int.mul_ediv_cancel_left _ wf.hP.ne']

theorem step_inv {p : Policy} (wf : p.WF) {s : RL} {h : Hist} {now : Int} (hnow : 0 ≤ now)
    (hmono : s.cycle ≤ now / p.P) (inv : Inv p s h) :
    Inv p (acquire p s now 1).1 (h ++ [(now, (acquire p s now 1).2)]) ∧
      (acquire p s now 1).1.cycle ≤ now / p.P := by
  have hL := wf.hL
  rw [acquire_eq wf s 1 hnow]
  split
  · refine ⟨⟨inv.tok_nonneg, ?_, ?_⟩, hmono⟩
    · intro j; rw [cnt_append]; simpa using inv.packed j
    · intro c hc; rw [cnt_append]; simpa using inv.past c hc
  · have ht := rebased_nonneg p.L p.P s now
    have hrc := relCycle_admit wf now ht
    refine ⟨⟨by simp only; omega, ?_, ?_⟩, le_refl _⟩
    · intro j
      rw [cnt_append, cnt_rebased wf hmono inv j, ← clamp_step p.L (rebased p.L p.P s now) j hL]
      simp only [hrc, Bool.true_and, beq_iff_eq, add_right_inj]
    · intro c hc
      simp only at hc
      have hq : 0 ≤ rebased p.L p.P s now / p.L := Int.ediv_nonneg ht hL.le
      have hne : ¬ (now / p.P + rebased p.L p.P s now / p.L = c) := by omega
      rw [cnt_append]
      simp only [hrc, Bool.true_and, beq_iff_eq, hne, if_false, Nat.add_zero]
      exact inv.cnt_le c

end EgVerif.RateLimiter
