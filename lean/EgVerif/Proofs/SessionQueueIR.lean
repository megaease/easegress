import EgVerif.Model.SessionQueue
import EgVerif.Gen.FactsC15IR
/-!
# C15: the definitions regenerated from `session.go` equal the hand-written model

`Gen/FactsC15IR.lean` is produced on every run by `harness/factextract/facts_c15_ir.go` (irlib) from the
bodies of `Session.getPacketFromMsg / publish / puback / doResend`. Each theorem
below proves the generated definition equal to the model function for ALL inputs; they are re-exported
(together with `extractionFailed = false`) from `Props/C15.lean`.
-/
namespace EgVerif.SessionQueue
open EgVerif.Topic (alGet alSet alErase)
open EgVerif.Gen.FactsC15IR

variable (online full : Bool) (m : Msg) (s : Sess) (pid pq : Nat) (pt pp : String)

theorem getPacket_regenerated_from_source_loop :
    ∀ (fuel : Nat) (next : Nat) (n : Int),
    getPacketIR_loop1 s m s.pending next pid pq pt pp () n fuel = .inr (skipPending fuel s.pending next) := by
  intro fuel
  induction fuel with
  | zero => intro next n; rfl
  | succ f ih =>
    intro next n
    cases hg : alGet next s.pending with
    | none => simp [getPacketIR_loop1, lookupMsg, skipPending, hg]
    | some v => simp [getPacketIR_loop1, lookupMsg, skipPending, hg, ih]

/-- `Session.getPacketFromMsg` (repaired, fix `C15-packet-id-skip-pending`): ids that are still keys of `pending`
are skipped (bounded loop of 65 536 steps), the packet carries the id found, the counter steps past it. -/
theorem getPacket_regenerated_from_source :
    getPacketIR s m = (pkt (freeId s.pending s.nextID) m, (freeId s.pending s.nextID + 1) % idMod) := by
  unfold getPacketIR
  dsimp only
  rw [getPacket_regenerated_from_source_loop]
  rfl

/-- `Session.publish` -/
theorem publish_regenerated_from_source :
    publishIR online full m s = publish online full m s := by
  obtain ⟨pend, q, n⟩ := s
  obtain ⟨t, pl, qos⟩ := m
  cases online
  · simp [publishIR, publish, clientOf]
  · by_cases h0 : qos = 0
    · subst h0
      cases full <;> simp [publishIR, publish, clientOf, pkt]
    · by_cases h1 : qos = 1
      · subst h1
        simp [publishIR, publish, clientOf, pkt]
      · simp [publishIR, publish, clientOf, h0, h1]

/-- `Session.puback` -/
theorem puback_regenerated_from_source (i : Nat) : pubackIR i s = puback i s := rfl

theorem doResend_regenerated_from_source_loop (P : List (Nat × Msg)) (Q : List Nat)
    (n : Nat) (out : List Packet) (client : Option Unit) :
    ∀ (q pre : List Nat), Q = pre ++ q →
    doResendIR_loop1 online s P Q n out pid pq pt pp client pre.length q =
      match firstPending q P with
      | none => .inr (Q, out)
      | some (q', j, m) => .inl ((⟨P, q', n⟩ : Sess), if client.isSome then out ++ [pkt j m] else out) := by
  intro q
  induction q with
  | nil => intro pre _; simp [doResendIR_loop1, firstPending]
  | cons idx r ih =>
    intro pre hQ
    cases hg : alGet idx P with
    | some m =>
      have hd : Q.drop pre.length = idx :: r := by rw [hQ]; simp
      simp only [doResendIR_loop1, firstPending, lookupMsg, hg, Bool.false_eq_true, if_false, if_true, hd, pkt]
    | none =>
      simp only [doResendIR_loop1, firstPending, lookupMsg, hg, Bool.false_eq_true, if_false]
      have := ih (pre ++ [idx]) (by rw [hQ]; simp)
      simpa using this

/-- `Session.doResend` -/
theorem doResend_regenerated_from_source :
    doResendIR online s = doResend online s := by
  obtain ⟨pend, q, n⟩ := s
  cases pend with
  | nil => simp [doResendIR, doResend]
  | cons e pr =>
    simp only [doResendIR, doResend, List.length_cons, List.isEmpty_cons, Bool.false_eq_true, if_false]
    have hne : (pr.length + 1 == 0) = false := by simp
    simp only [hne, Bool.false_eq_true, if_false]
    have hl := doResend_regenerated_from_source_loop online ⟨e :: pr, q, n⟩ 0 0 "" "" (e :: pr) q n []
      (clientOf online) q [] rfl
    simp only [List.length_nil] at hl
    rw [hl]
    cases hf : firstPending q (e :: pr) with
    | none => rfl
    | some x =>
      obtain ⟨q', j, m⟩ := x
      cases online <;> simp [clientOf]

end EgVerif.SessionQueue
