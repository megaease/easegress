import EgVerif.Spec.ClusterMutex
import Mathlib.Tactic.Linarith
/-!
Invariants of the cluster-mutex model (C18).

`Step` is `step` as a relation, so that every proof about one step goes by cases on the rule that fired.
The invariant of `step` is `Inv`. It is the conjunction (`inv_iff`) of

* `LiveInv`, the part that also survives lease expiry (`stepX`): at most one non-idle thread per mutex object,
  no duplicate keys, a holder *whose key is still present* owns the head of the queue;
* `Owned`, the accounting that an expiry destroys: every locked local mutex and every queued key has an owner,
  every waiter and holder is queued.

Under expiry `LiveInv` alone gives exclusivity among the holders whose key is present; `CritInQ` (every holder's
key is present) is kept as long as no *holder's* lease expires (`SafeRun`) and gives full exclusivity back.
The last section shows that a failed acquisition is state-neutral, which is why the judge's replay may drop it.
-/
namespace EgVerif.ClusterMutex

@[simp] theorem upd_same {β : Type} (f : Nat → β) (a : Nat) (v : β) : upd f a v a = v := by simp [upd]
theorem upd_other {β : Type} (f : Nat → β) {a x : Nat} (v : β) (h : x ≠ a) : upd f a v x = f x := by
  simp [upd, h]

theorem of_upd {β : Type} {P : β → Prop} {f : Nat → β} {t x : Nat} {v : β} (hv : ¬ P v) (h : P (upd f t v x)) :
    x ≠ t ∧ P (f x) := by
  by_cases hx : x = t
  · subst hx; rw [upd_same] at h; exact absurd h hv
  · rw [upd_other _ _ hx] at h; exact ⟨hx, h⟩

theorem upd_upd {β : Type} (f : Nat → β) (a : Nat) (v w : β) : upd (upd f a v) a w = upd f a w := by
  funext x; by_cases h : x = a <;> simp [upd, h]

theorem upd_id {β : Type} (f : Nat → β) (a : Nat) (v : β) (h : f a = v) : upd f a v = f := by
  funext x; by_cases hx : x = a
  · subst hx; simp [upd, h]
  · simp [upd, hx]

theorem upd_ne_idle_iff {pc : Nat → PC} {t : Nat} {p' : PC} (h0 : pc t ≠ .idle) (h1 : p' ≠ .idle) (x : Nat) :
    upd pc t p' x ≠ .idle ↔ pc x ≠ .idle := by
  by_cases hx : x = t
  · subst hx; simp [h0, h1]
  · rw [upd_other _ _ hx]

theorem head_erase_ne {k k' : Nat} {q : List Nat} (h : q.head? = some k') (hne : k' ≠ k) :
    (q.erase k).head? = some k' := by
  cases q with
  | nil => simp at h
  | cons a rest =>
    simp only [List.head?_cons, Option.some.injEq] at h
    subst h
    have : (a == k) = false := by simpa using hne
    simp [this]

theorem head?_append_of_head? {k a : Nat} {q : List Nat} (h : q.head? = some k) : (q ++ [a]).head? = some k := by
  cases q with
  | nil => simp at h
  | cons b rest => simpa using h

inductive Step (c : Cfg) (s : State) : Act → State → Prop
  | localLock (t : Nat) (hp : s.pc t = .idle) (hh : s.held (c.obj t) = false) :
    Step c s (.localLock t) { s with pc := upd s.pc t .haveLocal, held := upd s.held (c.obj t) true }
  | etcdEnqueue (t : Nat) (hp : s.pc t = .haveLocal) :
    Step c s (.etcdEnqueue t) { s with
      pc := upd s.pc t .waiting,
      queue := if c.sess (c.obj t) ∈ s.queue then s.queue else s.queue ++ [c.sess (c.obj t)] }
  | etcdGranted (t : Nat) (hp : s.pc t = .waiting) (hq : s.queue.head? = some (c.sess (c.obj t))) :
    Step c s (.etcdGranted t) { s with pc := upd s.pc t .crit }
  | etcdTimeout (t : Nat) (hp : s.pc t = .waiting) :
    Step c s (.etcdTimeout t) { s with pc := upd s.pc t .failing, queue := s.queue.erase (c.sess (c.obj t)) }
  | etcdErrorEarly (t : Nat) (hp : s.pc t = .haveLocal) :
    Step c s (.etcdErrorEarly t) { s with pc := upd s.pc t .failing, queue := s.queue.erase (c.sess (c.obj t)) }
  | localUnlockFail (t : Nat) (hp : s.pc t = .failing) :
    Step c s (.localUnlockFail t) { s with pc := upd s.pc t .idle, held := upd s.held (c.obj t) false }
  | critical (t : Nat) (hp : s.pc t = .crit) : Step c s (.critical t) s
  | etcdUnlock (t : Nat) (hp : s.pc t = .crit) :
    Step c s (.etcdUnlock t) { s with pc := upd s.pc t .releasing, queue := s.queue.erase (c.sess (c.obj t)) }
  | localUnlock (t : Nat) (hp : s.pc t = .releasing) :
    Step c s (.localUnlock t) { s with pc := upd s.pc t .idle, held := upd s.held (c.obj t) false }

theorem step_iff {c : Cfg} {s s' : State} {a : Act} : step c s a = some s' ↔ Step c s a s' := by
  constructor
  · intro h
    cases a <;> simp only [step] at h <;> split at h <;> cases h <;> rename_i g
    · exact .localLock _ g.1 g.2
    · exact .etcdEnqueue _ g
    · exact .etcdGranted _ g.1 g.2
    · exact .etcdTimeout _ g
    · exact .etcdErrorEarly _ g
    · exact .localUnlockFail _ g
    · exact .critical _ g
    · exact .etcdUnlock _ g
    · exact .localUnlock _ g
  · intro h
    cases h <;> simp [step, *]

theorem run_nil {c : Cfg} {s s' : State} : run c s [] = some s' ↔ s' = s := by
  simp [run, eq_comm]

theorem run_cons {c : Cfg} {s s' : State} {a : Act} {as : List Act} :
    run c s (a :: as) = some s' ↔ ∃ s1, Step c s a s1 ∧ run c s1 as = some s' := by
  simp only [run, ← step_iff]
  cases step c s a <;> simp

theorem crit_iff_of_step {c : Cfg} {s s' : State} {a : Act} (h : Step c s a s') (hg : ∀ t, a ≠ .etcdGranted t)
    (hu : ∀ t, a ≠ .etcdUnlock t) (x : Nat) : s'.pc x = .crit ↔ s.pc x = .crit := by
  have key : ∀ (t : Nat) {p p' : PC}, s.pc t = p → p ≠ .crit → p' ≠ .crit →
      (upd s.pc t p' x = .crit ↔ s.pc x = .crit) := by
    intro t p p' ht hp hp'
    by_cases hx : x = t
    · subst hx; simp [ht, hp, hp']
    · rw [upd_other _ _ hx]
  cases h with
  | etcdGranted t => exact absurd rfl (hg t)
  | etcdUnlock t => exact absurd rfl (hu t)
  | critical t => exact Iff.rfl
  | _ =>
    -- every other rule moves its thread between two positions outside the critical section
    exact key _ (by assumption) (by decide) (by decide)

/-! ### The part of the invariant that survives lease expiry -/

/-- One mutex object per session (= per member) for this lock name: `api.Server.getMutex`.
Stated over the objects the threads actually use — two threads whose objects live on the same session use the
same object. `∀ o1 o2, sess o1 = sess o2 → o1 = o2` would demand `sess` injective on all of ℕ, which the judge's
own configuration `sess o = o / 8` does not satisfy; the proofs only ever apply it to `c.obj t1`, `c.obj t2`. -/
def OneObjectPerSession (c : Cfg) : Prop :=
  ∀ t1 t2, c.sess (c.obj t1) = c.sess (c.obj t2) → c.obj t1 = c.obj t2

structure LiveInv (c : Cfg) (s : State) : Prop where
  local1 : ∀ t1 t2, s.pc t1 ≠ .idle → s.pc t2 ≠ .idle → c.obj t1 = c.obj t2 → t1 = t2
  heldOf : ∀ t, s.pc t ≠ .idle → s.held (c.obj t) = true
  nodup : s.queue.Nodup
  liveHead : ∀ t, s.pc t = .crit → c.sess (c.obj t) ∈ s.queue → s.queue.head? = some (c.sess (c.obj t))

def CritInQ (c : Cfg) (s : State) : Prop := ∀ t, s.pc t = .crit → c.sess (c.obj t) ∈ s.queue

theorem live_init (c : Cfg) : LiveInv c init :=
  ⟨fun _ _ h => absurd rfl h, fun _ h => absurd rfl h, List.nodup_nil, fun _ h => by simp [init] at h⟩

theorem critInQ_init (c : Cfg) : CritInQ c init := fun _ h => by simp [init] at h

theorem LiveInv.sess_ne {c : Cfg} (h1 : OneObjectPerSession c) {s : State} (inv : LiveInv c s) {x t : Nat}
    (hx : x ≠ t) (a : s.pc x ≠ .idle) (b : s.pc t ≠ .idle) : c.sess (c.obj x) ≠ c.sess (c.obj t) :=
  fun e => hx (inv.local1 x t a b (h1 _ _ e))

/-- **At most one holder whose key is present**: both own the head of the queue, so they are on the same
session, hence use the same object, hence are the same thread. -/
theorem LiveInv.exclusive {c : Cfg} (h1 : OneObjectPerSession c) {s : State} (inv : LiveInv c s) {t1 t2 : Nat}
    (a : s.pc t1 = .crit) (b : s.pc t2 = .crit) (k1 : c.sess (c.obj t1) ∈ s.queue)
    (k2 : c.sess (c.obj t2) ∈ s.queue) : t1 = t2 := by
  have e := inv.liveHead t2 b k2
  rw [inv.liveHead t1 a k1] at e
  exact inv.local1 t1 t2 (by rw [a]; decide) (by rw [b]; decide) (h1 _ _ (Option.some.inj e))

/-- The guard of `etcdGranted` holds only while nobody is inside: a holder would own the head of the queue
too, so it would be the waiting thread itself. -/
theorem LiveInv.head_free {c : Cfg} (h1 : OneObjectPerSession c) {s : State} (inv : LiveInv c s)
    (ci : CritInQ c s) {t : Nat} (hp : s.pc t = .waiting) (hq : s.queue.head? = some (c.sess (c.obj t)))
    (x : Nat) : s.pc x ≠ .crit := by
  intro hx
  have e := inv.liveHead x hx (ci x hx)
  rw [hq] at e
  have := inv.local1 t x (by rw [hp]; decide) (by rw [hx]; decide) (h1 _ _ (Option.some.inj e))
  subst this
  rw [hp] at hx; cases hx

theorem live_repc {c : Cfg} {s : State} (inv : LiveInv c s) (t : Nat) (p' : PC) (q' : List Nat)
    (h0 : s.pc t ≠ .idle) (h1 : p' ≠ .idle) (hnd : q'.Nodup)
    (hl : ∀ x, upd s.pc t p' x = .crit → c.sess (c.obj x) ∈ q' → q'.head? = some (c.sess (c.obj x))) :
    LiveInv c { s with pc := upd s.pc t p', queue := q' } :=
  have nid := upd_ne_idle_iff h0 h1
  ⟨fun t1 t2 a b => inv.local1 t1 t2 ((nid _).mp a) ((nid _).mp b), fun x a => inv.heldOf x ((nid _).mp a), hnd, hl⟩

/-- `t` leaves for a position outside the critical section and *some* key is deleted: a holder whose key is
still present afterwards had another key, so it keeps the head. -/
theorem live_erase {c : Cfg} {s : State} (inv : LiveInv c s) (t : Nat) (p' : PC) (k : Nat)
    (h0 : s.pc t ≠ .idle) (h1 : p' ≠ .idle) (hc : p' ≠ .crit) :
    LiveInv c { s with pc := upd s.pc t p', queue := s.queue.erase k } := by
  refine live_repc inv t p' _ h0 h1 (inv.nodup.erase _) fun x a hm => ?_
  obtain ⟨_, a⟩ := of_upd (P := (· = PC.crit)) hc a
  have hm' := (inv.nodup.mem_erase_iff).mp hm
  exact head_erase_ne (inv.liveHead x a hm'.2) hm'.1

theorem live_toIdle {c : Cfg} {s : State} (inv : LiveInv c s) (t : Nat) (h0 : s.pc t ≠ .idle) :
    LiveInv c { s with pc := upd s.pc t .idle, held := upd s.held (c.obj t) false } := by
  have sub : ∀ x, upd s.pc t .idle x ≠ .idle → x ≠ t ∧ s.pc x ≠ .idle :=
    fun x => of_upd (P := (· ≠ PC.idle)) (fun h => h rfl)
  refine ⟨fun t1 t2 a b => inv.local1 t1 t2 (sub _ a).2 (sub _ b).2, fun x a => ?_, inv.nodup, fun x a hm => ?_⟩
  · obtain ⟨hxt, hx⟩ := sub x a
    have : c.obj x ≠ c.obj t := fun e => hxt (inv.local1 x t hx h0 e)
    simp only; rw [upd_other _ _ this]; exact inv.heldOf x hx
  · exact inv.liveHead x (of_upd (P := (· = PC.crit)) (by decide) a).2 hm

theorem live_step {c : Cfg} (h1 : OneObjectPerSession c) {s s' : State} (inv : LiveInv c s) (a : Act)
    (h : step c s a = some s') : LiveInv c s' := by
  cases step_iff.mp h with
  | localLock t hp hh =>
    have sub : ∀ x, upd s.pc t .haveLocal x ≠ .idle → x = t ∨ (x ≠ t ∧ s.pc x ≠ .idle) := by
      intro x hx; by_cases hxt : x = t
      · exact Or.inl hxt
      · rw [upd_other _ _ hxt] at hx; exact Or.inr ⟨hxt, hx⟩
    -- the object was free, so no thread inside `Lock`/`Unlock` uses it
    have free : ∀ x, s.pc x ≠ .idle → c.obj x ≠ c.obj t := by
      intro x hx e; have := inv.heldOf x hx; rw [e, hh] at this; cases this
    refine ⟨fun t1 t2 a b e => ?_, fun x a => ?_, inv.nodup, fun x a hm => ?_⟩
    · rcases sub t1 a with r1 | ⟨_, r1⟩ <;> rcases sub t2 b with r2 | ⟨_, r2⟩
      · rw [r1, r2]
      · subst r1; exact absurd e.symm (free t2 r2)
      · subst r2; exact absurd e (free t1 r1)
      · exact inv.local1 t1 t2 r1 r2 e
    · rcases sub x a with r | ⟨_, r⟩
      · subst r; simp
      · simp only; rw [upd_other _ _ (free x r)]; exact inv.heldOf x r
    · exact inv.liveHead x (of_upd (P := (· = PC.crit)) (by decide) a).2 hm
  | etcdEnqueue t hp =>
    have h0 : s.pc t ≠ .idle := by rw [hp]; decide
    refine live_repc inv t .waiting _ h0 (by decide) ?_ fun x a hm => ?_
    · split
      · exact inv.nodup
      · rename_i hk
        rw [List.nodup_append]
        exact ⟨inv.nodup, by simp, fun a ha b hb => by simp at hb; subst hb; exact fun e => hk (e ▸ ha)⟩
    · obtain ⟨hxt, a⟩ := of_upd (P := (· = PC.crit)) (by decide) a
      split at hm
      · rename_i hk; simp only [hk, if_true]; exact inv.liveHead x a hm
      · rename_i hk
        simp only [hk, if_false]
        rcases List.mem_append.mp hm with hm | hm
        · exact head?_append_of_head? (inv.liveHead x a hm)
        · simp at hm; exact absurd hm (inv.sess_ne h1 hxt (by rw [a]; decide) h0)
  | etcdGranted t hp hq =>
    refine live_repc inv t .crit _ (by rw [hp]; decide) (by decide) inv.nodup fun x a hm => ?_
    by_cases hxt : x = t
    · subst hxt; exact hq
    · rw [upd_other _ _ hxt] at a; exact inv.liveHead x a hm
  | localUnlockFail t hp => exact live_toIdle inv t (by rw [hp]; decide)
  | critical t hp => exact inv
  | localUnlock t hp => exact live_toIdle inv t (by rw [hp]; decide)
  | _ =>
    -- time-out, early error, unlock: the thread deletes its own key and stays outside the critical section
    exact live_erase inv _ _ _ (by rw [‹s.pc _ = _›]; decide) (by decide) (by decide)

theorem live_expire {c : Cfg} {s : State} (inv : LiveInv c s) (k : Nat) : LiveInv c (s.expire k) := by
  refine ⟨inv.local1, inv.heldOf, inv.nodup.erase _, fun x a hm => ?_⟩
  have hm' := (inv.nodup.mem_erase_iff).mp hm
  exact head_erase_ne (inv.liveHead x a hm'.2) hm'.1

theorem critInQ_keep {c : Cfg} {s : State} (t : Nat) {p' : PC} {hd : Nat → Bool} {q' : List Nat} (hp : p' ≠ .crit)
    (hq : ∀ x, x ≠ t → s.pc x = .crit → c.sess (c.obj x) ∈ q') :
    CritInQ c { pc := upd s.pc t p', held := hd, queue := q' } := by
  intro x a
  obtain ⟨hxt, a⟩ := of_upd (P := (· = PC.crit)) hp a
  exact hq x hxt a

theorem critInQ_step {c : Cfg} (h1 : OneObjectPerSession c) {s s' : State} (inv : LiveInv c s) (ci : CritInQ c s)
    (a : Act) (h : step c s a = some s') : CritInQ c s' := by
  -- a thread that deletes its own key does not delete a holder's: they are on different sessions
  have own : ∀ t, s.pc t ≠ .idle → ∀ x, x ≠ t → s.pc x = .crit →
      c.sess (c.obj x) ∈ s.queue.erase (c.sess (c.obj t)) := fun t ht x hxt a =>
    (List.mem_erase_of_ne (inv.sess_ne h1 hxt (by rw [a]; decide) ht)).mpr (ci x a)
  cases step_iff.mp h with
  | localLock t hp hh => exact critInQ_keep t (by decide) fun x _ a => ci x a
  | etcdEnqueue t hp =>
    refine critInQ_keep t (by decide) fun x _ a => ?_
    split
    · exact ci x a
    · exact List.mem_append_left _ (ci x a)
  | etcdGranted t hp hq =>
    intro x a
    by_cases hxt : x = t
    · subst hxt; exact List.mem_of_mem_head? hq
    · simp only at a; rw [upd_other _ _ hxt] at a; exact ci x a
  | localUnlockFail t hp => exact critInQ_keep t (by decide) fun x _ a => ci x a
  | critical t hp => exact ci
  | localUnlock t hp => exact critInQ_keep t (by decide) fun x _ a => ci x a
  | _ => exact critInQ_keep _ (by decide) (own _ (by rw [‹s.pc _ = _›]; decide))

/-- The thread's session key is (supposed to be) in the queue. -/
def InQ (p : PC) : Prop := p = .waiting ∨ p = .crit

theorem InQ.ne_idle {p : PC} (h : InQ p) : p ≠ .idle := by
  rcases h with h | h <;> rw [h] <;> decide

structure Inv (c : Cfg) (s : State) : Prop where
  local1 : ∀ t1 t2, s.pc t1 ≠ .idle → s.pc t2 ≠ .idle → c.obj t1 = c.obj t2 → t1 = t2
  heldOf : ∀ t, s.pc t ≠ .idle → s.held (c.obj t) = true
  heldBy : ∀ o, s.held o = true → ∃ t, c.obj t = o ∧ s.pc t ≠ .idle
  nodup : s.queue.Nodup
  inQ : ∀ t, InQ (s.pc t) → c.sess (c.obj t) ∈ s.queue
  qOwner : ∀ k ∈ s.queue, ∃ t, InQ (s.pc t) ∧ c.sess (c.obj t) = k
  critHead : ∀ t, s.pc t = .crit → s.queue.head? = some (c.sess (c.obj t))

structure Owned (c : Cfg) (s : State) : Prop where
  heldBy : ∀ o, s.held o = true → ∃ t, c.obj t = o ∧ s.pc t ≠ .idle
  inQ : ∀ t, InQ (s.pc t) → c.sess (c.obj t) ∈ s.queue
  qOwner : ∀ k ∈ s.queue, ∃ t, InQ (s.pc t) ∧ c.sess (c.obj t) = k

theorem Owned.critInQ {c : Cfg} {s : State} (ow : Owned c s) : CritInQ c s := fun t h => ow.inQ t (Or.inr h)

theorem inv_iff {c : Cfg} {s : State} : Inv c s ↔ LiveInv c s ∧ Owned c s :=
  ⟨fun i => ⟨⟨i.local1, i.heldOf, i.nodup, fun t h _ => i.critHead t h⟩, ⟨i.heldBy, i.inQ, i.qOwner⟩⟩,
   fun ⟨l, o⟩ => ⟨l.local1, l.heldOf, o.heldBy, l.nodup, o.inQ, o.qOwner, fun t h => l.liveHead t h (o.critInQ t h)⟩⟩

theorem Inv.exclusive {c : Cfg} (h1 : OneObjectPerSession c) {s : State} (inv : Inv c s) {t1 t2 : Nat}
    (a : s.pc t1 = .crit) (b : s.pc t2 = .crit) : t1 = t2 :=
  (inv_iff.mp inv).1.exclusive h1 a b (inv.inQ t1 (Or.inr a)) (inv.inQ t2 (Or.inr b))

theorem inv_init (c : Cfg) : Inv c init :=
  inv_iff.mpr ⟨live_init c, fun _ h => by simp [init] at h, fun _ h => absurd rfl h.ne_idle,
    fun _ h => by simp [init] at h⟩

theorem heldBy_repc {c : Cfg} {s : State} (ow : Owned c s) {t : Nat} {p' : PC} (h0 : s.pc t ≠ .idle)
    (h1 : p' ≠ .idle) (o : Nat) (a : s.held o = true) : ∃ x, c.obj x = o ∧ upd s.pc t p' x ≠ .idle := by
  obtain ⟨x, hx, hx'⟩ := ow.heldBy o a
  exact ⟨x, hx, (upd_ne_idle_iff h0 h1 x).mpr hx'⟩

theorem qOwner_other {c : Cfg} {s : State} (ow : Owned c s) (t : Nat) (p' : PC) {k : Nat} (hk : k ∈ s.queue)
    (ht : InQ (s.pc t) → c.sess (c.obj t) ≠ k) : ∃ x, InQ (upd s.pc t p' x) ∧ c.sess (c.obj x) = k := by
  obtain ⟨x, hx, hx'⟩ := ow.qOwner k hk
  have hxt : x ≠ t := by intro h; subst h; exact ht hx hx'
  exact ⟨x, by rw [upd_other _ _ hxt]; exact hx, hx'⟩

/-- Time-out, early error, unlock: the thread's session key is erased. After an early error the thread had no
key and the erase is the cleanup delete of `mutex.Lock`, a no-op. -/
theorem owned_erase {c : Cfg} (h1 : OneObjectPerSession c) {s : State} (live : LiveInv c s) (ow : Owned c s)
    (t : Nat) (p' : PC) (h0 : s.pc t ≠ .idle) (hp : p' ≠ .idle) (hq : ¬ InQ p') :
    Owned c { s with pc := upd s.pc t p', queue := s.queue.erase (c.sess (c.obj t)) } := by
  refine ⟨heldBy_repc ow h0 hp, fun x a => ?_, fun k hk => ?_⟩
  · obtain ⟨hx, a⟩ := of_upd hq a
    exact (List.mem_erase_of_ne (live.sess_ne h1 hx a.ne_idle h0)).mpr (ow.inQ x a)
  · have hk' := (live.nodup.mem_erase_iff).mp hk
    exact qOwner_other ow t p' hk'.2 fun _ e => hk'.1 e.symm

/-- The deferred `m.lock.Unlock()`. -/
theorem owned_toIdle {c : Cfg} {s : State} (ow : Owned c s) (t : Nat) (hq : ¬ InQ (s.pc t)) :
    Owned c { s with pc := upd s.pc t .idle, held := upd s.held (c.obj t) false } := by
  refine ⟨fun o a => ?_, fun x a => ?_, fun k hk => qOwner_other ow t _ hk fun h => absurd h hq⟩
  · simp only at a
    by_cases ho : o = c.obj t
    · subst ho; simp at a
    · rw [upd_other _ _ ho] at a
      obtain ⟨x, hx, hx'⟩ := ow.heldBy o a
      have hxt : x ≠ t := by intro h; subst h; exact ho hx.symm
      exact ⟨x, hx, by simp only; rw [upd_other _ _ hxt]; exact hx'⟩
  · exact ow.inQ x (of_upd (fun h => h.ne_idle rfl) a).2

theorem owned_step {c : Cfg} (h1 : OneObjectPerSession c) {s s' : State} (live : LiveInv c s) (ow : Owned c s)
    (a : Act) (h : step c s a = some s') : Owned c s' := by
  cases step_iff.mp h with
  | localLock t hp hh =>
    have hnq : ¬ InQ (s.pc t) := fun h => h.ne_idle hp
    refine ⟨fun o a => ?_, fun x a => ?_, fun k hk => qOwner_other ow t _ hk fun h => absurd h hnq⟩
    · simp only at a
      by_cases ho : o = c.obj t
      · exact ⟨t, ho.symm, by simp⟩
      · rw [upd_other _ _ ho] at a
        obtain ⟨x, hx, hx'⟩ := ow.heldBy o a
        have hxt : x ≠ t := by intro h; subst h; exact ho hx.symm
        exact ⟨x, hx, by simp only; rw [upd_other _ _ hxt]; exact hx'⟩
    · exact ow.inQ x (of_upd (by simp [InQ]) a).2
  | etcdEnqueue t hp =>
    have hnq : ¬ InQ (s.pc t) := by rw [hp]; rintro (h | h) <;> cases h
    have hsub : ∀ k, k ∈ s.queue →
        k ∈ (if c.sess (c.obj t) ∈ s.queue then s.queue else s.queue ++ [c.sess (c.obj t)]) := by
      intro k hk; split
      · exact hk
      · exact List.mem_append_left _ hk
    refine ⟨heldBy_repc ow (by rw [hp]; decide) (by decide), fun x a => ?_, fun k hk => ?_⟩
    · by_cases hx : x = t
      · subst hx; simp only; split
        · assumption
        · simp
      · simp only at a; rw [upd_other _ _ hx] at a; exact hsub _ (ow.inQ x a)
    · simp only at hk
      by_cases hin : k ∈ s.queue
      · exact qOwner_other ow t _ hin fun h => absurd h hnq
      · have : k = c.sess (c.obj t) := by
          split at hk
          · exact absurd hk hin
          · rcases List.mem_append.mp hk with h | h
            · exact absurd h hin
            · simpa using h
        exact ⟨t, by simp [InQ], this.symm⟩
  | etcdGranted t hp hq =>
    have inq : ∀ x, InQ (upd s.pc t .crit x) ↔ InQ (s.pc x) := by
      intro x; by_cases hx : x = t
      · subst hx; simp [InQ, hp]
      · rw [upd_other _ _ hx]
    refine ⟨heldBy_repc ow (by rw [hp]; decide) (by decide), fun x a => ow.inQ x ((inq x).mp a), fun k hk => ?_⟩
    obtain ⟨x, hx, hx'⟩ := ow.qOwner k hk
    exact ⟨x, (inq x).mpr hx, hx'⟩
  | localUnlockFail t hp => exact owned_toIdle ow t (by simp [InQ, hp])
  | critical t hp => exact ow
  | localUnlock t hp => exact owned_toIdle ow t (by simp [InQ, hp])
  | _ => exact owned_erase h1 live ow _ _ (by rw [‹s.pc _ = _›]; decide) (by decide) (by simp [InQ])

theorem inv_step {c : Cfg} (hinj : OneObjectPerSession c) {s s' : State} (inv : Inv c s) (a : Act)
    (h : step c s a = some s') : Inv c s' :=
  have ⟨live, ow⟩ := inv_iff.mp inv
  inv_iff.mpr ⟨live_step hinj live a h, owned_step hinj live ow a h⟩

theorem inv_run {c : Cfg} (hinj : OneObjectPerSession c) : ∀ (as : List Act) {s s' : State}, Inv c s →
    run c s as = some s' → Inv c s'
  | [], _, _, inv, h => run_nil.mp h ▸ inv
  | a :: as, _, _, inv, h =>
    have ⟨_, hs, h⟩ := run_cons.mp h
    inv_run hinj as (inv_step hinj inv a (step_iff.mpr hs)) h

theorem live_runX {c : Cfg} (h1 : OneObjectPerSession c) : ∀ (as : List ActX) {s s' : State}, LiveInv c s →
    runX c s as = some s' → LiveInv c s'
  | [], _, _, inv, h => by cases h; exact inv
  | .base b :: as, _, _, inv, h => by
    simp only [runX, stepX] at h
    split at h
    · cases h
    · rename_i hs; exact live_runX h1 as (live_step h1 inv b hs) h
  | .leaseExpire k :: as, _, _, inv, h => live_runX h1 as (live_expire inv k) h

/-- Histories in which a lease expires only while no goroutine of that member holds the lock
(waiting members may lose their lease). -/
def SafeRun (c : Cfg) : State → List ActX → Prop
  | _, [] => True
  | s, .base a :: as => match step c s a with
    | none => True
    | some s' => SafeRun c s' as
  | s, .leaseExpire k :: as => (∀ t, s.pc t = .crit → c.sess (c.obj t) ≠ k) ∧ SafeRun c (s.expire k) as

theorem safe_runX {c : Cfg} (h1 : OneObjectPerSession c) : ∀ (as : List ActX) {s s' : State}, LiveInv c s →
    CritInQ c s → SafeRun c s as → runX c s as = some s' → LiveInv c s' ∧ CritInQ c s'
  | [], _, _, inv, ci, _, h => by cases h; exact ⟨inv, ci⟩
  | .base b :: as, _, _, inv, ci, hs, h => by
    simp only [runX, stepX] at h
    split at h
    · cases h
    · rename_i hst
      simp only [SafeRun, hst] at hs
      exact safe_runX h1 as (live_step h1 inv b hst) (critInQ_step h1 inv ci b hst) hs h
  | .leaseExpire k :: as, _, _, inv, ci, hs, h =>
    -- the expiring key is no holder's, so every holder's key stays
    safe_runX h1 as (live_expire inv k) (fun x a => (List.mem_erase_of_ne (hs.1 x a)).mpr (ci x a)) hs.2 h

theorem runX_base (c : Cfg) : ∀ (as : List Act) (s : State), runX c s (as.map .base) = run c s as
  | [], _ => rfl
  | a :: as, s => by
    simp only [List.map_cons, runX, stepX, run]
    cases step c s a with
    | none => rfl
    | some s1 => exact runX_base c as s1

theorem safeRun_base (c : Cfg) : ∀ (as : List Act) (s : State), SafeRun c s (as.map .base)
  | [], _ => trivial
  | a :: as, s => by
    simp only [List.map_cons, SafeRun]
    cases step c s a with
    | none => trivial
    | some s1 => exact safeRun_base c as s1

/-! ### Failed acquisitions in the judge's replay

`scheduleOf` drops `failed` events. That is sound because a failed `mutex.Lock` is **state-neutral** in the
model: wherever `failSeq t` (local lock, enqueue, time-out with key removal, deferred local unlock) is
enabled — `t` idle and its object's local mutex free — it ends in exactly the state it started from
(`failSeq_neutral`), so inserting the failed attempts at any enabled positions does not change what the replay
reaches. Enabledness itself is checked by `failedReplayOK` (`Spec/ClusterMutex.lean`). -/

theorem key_absent_of_free {c : Cfg} (h1 : OneObjectPerSession c) {s : State} (inv : Inv c s) (t : Nat)
    (hh : s.held (c.obj t) = false) : c.sess (c.obj t) ∉ s.queue := by
  intro hk
  obtain ⟨t', hq, hs⟩ := inv.qOwner _ hk
  have := inv.heldOf t' hq.ne_idle
  rw [h1 _ _ hs, hh] at this; cases this

/-- A failed acquisition (time-out after the key was created, or lost response + cleanup) leaves the model
state exactly as it was. -/
theorem failSeq_neutral {c : Cfg} (h1 : OneObjectPerSession c) {s : State} (inv : Inv c s) (t : Nat)
    (hp : s.pc t = .idle) (hh : s.held (c.obj t) = false) : run c s (failSeq t) = some s := by
  have hk := key_absent_of_free h1 inv t hh
  have hq : (s.queue ++ [c.sess (c.obj t)]).erase (c.sess (c.obj t)) = s.queue := by
    rw [List.erase_append_right _ hk]; simp
  simp only [failSeq, run_cons, run_nil]
  refine ⟨_, .localLock t hp hh, _, .etcdEnqueue t (upd_same _ _ _), _, .etcdTimeout t (upd_same _ _ _), _,
    .localUnlockFail t (upd_same _ _ _), ?_⟩
  -- the four updates of `pc t` and the two of `held (obj t)` collapse; the key was appended and erased again
  simp only [upd_upd, upd_id _ _ _ hp, upd_id _ _ _ hh, if_neg hk, hq]

/-- … and so does the early-error variant (first request failed without effect). -/
theorem earlyFail_neutral {c : Cfg} (h1 : OneObjectPerSession c) {s : State} (inv : Inv c s) (t : Nat)
    (hp : s.pc t = .idle) (hh : s.held (c.obj t) = false) :
    run c s (lockActs t .earlyError) = some s := by
  have hq : s.queue.erase (c.sess (c.obj t)) = s.queue :=
    List.erase_of_not_mem (key_absent_of_free h1 inv t hh)
  simp only [lockActs, run_cons, run_nil]
  refine ⟨_, .localLock t hp hh, _, .etcdErrorEarly t (upd_same _ _ _), _, .localUnlockFail t (upd_same _ _ _), ?_⟩
  simp only [upd_upd, upd_id _ _ _ hp, upd_id _ _ _ hh, hq]

theorem run_append_mx (c : Cfg) : ∀ (a b : List Act) (s : State),
    run c s (a ++ b) = (run c s a).bind (fun s' => run c s' b)
  | [], _, _ => rfl
  | x :: a, b, s => by
    simp only [List.cons_append, run]
    cases step c s x with
    | none => rfl
    | some s1 => exact run_append_mx c a b s1

theorem failSeq_insert {c : Cfg} (h1 : OneObjectPerSession c) {s : State} (inv : Inv c s) (t : Nat)
    (hp : s.pc t = .idle) (hh : s.held (c.obj t) = false) (as : List Act) :
    run c s (failSeq t ++ as) = run c s as := by
  rw [run_append_mx, failSeq_neutral h1 inv t hp hh]; rfl

/-- every failure is trivially "recovered" when the final probe succeeded — and in the model it does: in
every reachable state with all goroutines idle the queue is empty and all local mutexes are free (Props:
`failed_acquire_leaves_free`, `free_can_acquire`) -/
theorem failuresRecovered_of_probe (evs : List TEv) : failuresRecovered true evs = true := by
  induction evs with
  | nil => rfl
  | cons e r ih => cases e <;> simp [failuresRecovered, ih]

end EgVerif.ClusterMutex
