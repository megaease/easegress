import EgVerif.Model.CircuitBreaker
import EgVerif.Gen.FactsC08IR
import EgVerif.Gen.FactsC08IRw
import EgVerif.Gen.FactsC08IRc
/-!
Tie by translation for C08 (`notes/IR.md`): the `…IR` definitions of `Gen.FactsC08IR`, `Gen.FactsC08IRw` and
`Gen.FactsC08IRc` are produced on every run by the go/ast micro-translator (`harness/factextract/irlib.go`) from
the current bodies of `CountBasedWindow.Push`, `TimeBasedWindow.evict` / `Push`, `CircuitBreaker.transitTo`,
`AcquirePermission`, `RecordResult`, `circuitBreakerWrapper.Wrap` and `CircuitBreakerPolicy.CreateWrapper`; each
is proved equal to the function of `Model/CircuitBreaker.lean` that mirrors it (`TimeBasedWindow.Push` under the
hypothesis that the clock is not behind the window start).
-/
namespace EgVerif.CircuitBreaker
open EgVerif.Gen.FactsC08IR

theorem countPush_regenerated_from_source (w : CountWin) (r : Res) : countPushIR w r = w.push r := by
  obtain ⟨t, s, f, i, b⟩ := w
  simp only [countPushIR, CountWin.push]
  cases b.getD i Res.unknown <;> cases r <;> simp

theorem transitTo_regenerated_from_source (p : Policy) (cb : CB) (now : Int) (s : St) :
    transitToIR p cb now s = transitTo p cb now s := by
  obtain ⟨st, tr, win, nh, sid⟩ := cb
  simp only [transitToIR, transitTo]
  cases s <;> cases st <;> cases p.timeBased <;> simp

theorem acquire_regenerated_from_source (p : Policy) (cb : CB) (now : Int) :
    acquireIR p cb now = acquire p cb now := by
  obtain ⟨st, tr, win, nh, sid⟩ := cb
  simp only [acquireIR, acquire]
  cases st <;> simp <;> (repeat' split) <;> simp_all

theorem record_regenerated_from_source (p : Policy) (cb : CB) (id : Nat) (hasErr : Bool) (d now : Int) :
    recordIR p cb id hasErr d now = record p cb id hasErr d now := by
  have hcl : (if hasErr = true then Res.failure else if d ≥ p.slowDur then Res.slow else Res.success)
      = classify p hasErr d := rfl
  -- the source tests `state == StateHalfOpen` and `minCalls > permitted` one after the other
  have hmin : (if cb.st = St.halfOpen then if p.minCalls > p.permitted then p.permitted else p.minCalls
      else p.minCalls) = if cb.st = St.halfOpen ∧ p.minCalls > p.permitted then p.permitted else p.minCalls := by
    by_cases h : cb.st = St.halfOpen <;> simp only [h, true_and, false_and, if_true, if_false]
  simp only [recordIR, record, bne_iff_ne, ne_eq, beq_iff_eq, decide_eq_true_eq, hcl, hmin]
  generalize cb.win.push now (classify p hasErr d) = W
  generalize (if cb.st = St.halfOpen ∧ p.minCalls > p.permitted then p.permitted else p.minCalls) = M
  -- the same decision tree on both sides; a branch of the translation hands the five fields of the breaker
  -- on as a tuple, which `simp only` projects and reassembles (structure eta)
  by_cases hid : id = cb.stateID
  · simp only [hid, not_true_eq_false, if_false]
    by_cases hm : W.total < M
    · simp only [hm, if_true]
    · simp only [hm, if_false]
      by_cases hf : W.failureRate ≥ p.failTh
      · simp only [hf, if_true]
      · simp only [hf, if_false]
        by_cases hs : W.slowRate ≥ p.slowTh
        · simp only [hs, if_true]
        · simp only [hs, if_false]
          by_cases hh : cb.st = St.halfOpen
          · simp only [hh, if_true]
          · simp only [hh, if_false]
  · simp only [hid, not_false_eq_true, if_true]

/-! ### TimeBasedWindow (`firstBucket` is an `Int` in the generated code, a `Nat` in the model) -/

private theorem tmod_succ_cast (a n : Nat) : Int.tmod ((a : Int) + 1) (n : Int) = (((a + 1) % n : Nat) : Int) := by
  rw [Int.ofNat_tmod]; rfl

theorem timeEvict_regenerated_from_source_loop (w0 : TimeWin) (now secs ev : Int) (fuel : Nat) :
    ∀ (t s f : Nat) (b : Int) (fi : Nat) (bk : List Bucket) (i : Int),
    timeEvictIR_loop1 w0 now t s f b (fi : Int) bk secs ev i fuel =
      let L := TimeWin.evictLoop fuel ⟨t, s, f, b, fi, bk⟩
      .inr (L.total, L.slow, L.failure, (L.first : Int), L.bucket) := by
  induction fuel with
  | zero => intros; rfl
  | succ n ih =>
    intro t s f b fi bk i
    simp only [timeEvictIR_loop1, TimeWin.evictLoop, Int.toNat_natCast, List.length_set, tmod_succ_cast]
    exact ih _ _ _ _ _ _ _

theorem evictLoop_beginAt (n : Nat) (w : TimeWin) : (TimeWin.evictLoop n w).beginAt = w.beginAt := by
  induction n generalizing w with
  | zero => rfl
  | succ n ih => simp only [TimeWin.evictLoop, ih]

private theorem evictLoop_eta (n : Nat) (w : TimeWin) :
    (⟨(TimeWin.evictLoop n w).total, (TimeWin.evictLoop n w).slow, (TimeWin.evictLoop n w).failure, w.beginAt,
      (TimeWin.evictLoop n w).first, (TimeWin.evictLoop n w).bucket⟩ : TimeWin) = TimeWin.evictLoop n w := by
  have h := evictLoop_beginAt n w
  cases hL : TimeWin.evictLoop n w
  simp_all

theorem timeEvict_regenerated_from_source (w : TimeWin) (now : Int) : timeEvictIR w now = w.evict now := by
  obtain ⟨t, s, f, b, fi, bk⟩ := w
  simp only [timeEvictIR, TimeWin.evict, decide_eq_true_eq, Int.sub_zero]
  split
  · simp
  · rw [timeEvict_regenerated_from_source_loop]
    simp only [Int.toNat_natCast]
    split <;> exact evictLoop_eta _ _

/-- `TimeBasedWindow.Push`. The Go index arithmetic is on `int`; it coincides with the model's `Nat`
arithmetic when the clock has not gone back behind the window start (after `evict`). -/
theorem timePush_regenerated_from_source (w : TimeWin) (now : Int) (r : Res)
    (h : (w.evict now).beginAt ≤ now) : timePushIR w now r = w.push now r := by
  obtain ⟨t, s, f, b, fi, bk⟩ := w
  simp only [timePushIR, TimeWin.push, Int.toNat_natCast]
  generalize TimeWin.evict _ now = e at h ⊢
  obtain ⟨t', s', f', b', fi', bk'⟩ := e
  have hd : 0 ≤ Int.tdiv (now - b') sec := Int.tdiv_nonneg (by simp at h; omega) (by decide)
  obtain ⟨d, hd'⟩ := Int.eq_ofNat_of_zero_le hd
  have hidx : (Int.tmod ((fi' : Int) + Int.tdiv (now - b') sec) (bk'.length : Int)).toNat =
      (fi' + (Int.tdiv (now - b') sec).toNat) % bk'.length := by
    rw [hd', ← Int.natCast_add, ← Int.ofNat_tmod]; simp only [Int.toNat_natCast]
  simp only [hidx]
  generalize (fi' + (Int.tdiv (now - b') sec).toNat) % bk'.length = idx
  by_cases hlt : idx < bk'.length
  · cases r <;> simp [hlt]
  · have hle : bk'.length ≤ idx := Nat.le_of_not_lt hlt
    cases r <;> simp [List.set_eq_of_length_le hle]

/-- `circuitBreakerWrapper.Wrap` (the returned closure), with its deferred
`if panicked { RecordResult(stateID, true, …) }` inlined before every return and on the panic path
(`irSpec.DeferInline`). -/
theorem wrap_regenerated_from_source (permitted : Bool) (o : Outcome) :
    EgVerif.Gen.FactsC08IRw.wrapIR permitted o = wrap permitted o := by
  cases permitted <;> cases o <;> rfl

/-- `CircuitBreakerPolicy.CreateWrapper`: the breaker is created with the configured thresholds / sizes, a
TIME_BASED window iff the type says so in any letter case, slow-call threshold and open wait of one minute and
no half-open maximum wait unless configured. -/
theorem createWrapper_regenerated_from_source (raw : RawPolicy) (parse : String → Int × Bool) :
    EgVerif.Gen.FactsC08IRc.createWrapperIR raw parse = policyOf raw parse := by
  unfold EgVerif.Gen.FactsC08IRc.createWrapperIR policyOf
  by_cases h1 : raw.winType.toUpper = "TIME_BASED" <;> by_cases h2 : raw.slowDur = "" <;>
    by_cases h3 : raw.maxWaitHalf = "" <;> by_cases h4 : raw.waitOpen = "" <;> simp [h1, h2, h3, h4]

end EgVerif.CircuitBreaker
