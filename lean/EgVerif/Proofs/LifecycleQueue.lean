import EgVerif.Proofs.Lifecycle
/-!
# C20 — the pending-event queue between `applyConfig` and the consumer

`Model/Lifecycle.lean` handles a watcher's event inside the step that applies the snapshot. In the code the
registry goroutine only sends the event into the watcher's buffered channel and goes on applying further
snapshots; the consumer goroutine (`Supervisor.run`) receives one event at a time and passes it, unmodified,
to `handleEvent`. `QSys` models that: the registry part (snapshot counter, entities, `watcher.entities` —
none of which depends on the consumer: `step_reg_indep`), the FIFO of events sent and not yet received, and
the consumer's actual state. `qrun` ranges over every interleaving of `produce` (apply a snapshot / attach
the watcher: the event is computed against `watcher.entities` and enqueued) and `consume` (receive the
oldest event and handle it).

At every moment of every interleaving the consumer's state is the synchronous model's state after a prefix
of the applied items, and the queue holds exactly the events of the remaining items (`qrun_prefix`);
draining the queue gives the synchronous state (`qrun_drained`). So `exactly_once` and `live_eq_snapshot`
hold for that prefix at any time, and for the whole history once the queue is empty — however many
snapshots were applied while the consumer was busy.

An empty event is enqueued too (the code does not send it): handling it is a no-op (`handleEvent_emptyEv`),
so the two are indistinguishable for the consumer.
-/
namespace EgVerif.Lifecycle

/-- the registry part of a step does not look at the consumer -/
theorem step_reg_indep (P : Params) (s : Sys) (c : CState) (it : Item) :
    let s' : Sys := { s with w := { s.w with cons := c } }
    (step P s' it).g = (step P s it).g ∧ (step P s' it).t = (step P s it).t ∧
    (step P s' it).ents = (step P s it).ents ∧ (step P s' it).w.attached = (step P s it).w.attached ∧
    (step P s' it).w.wents = (step P s it).w.wents ∧ evOf P s' it = evOf P s it := by
  cases it with
  | snap cfg =>
    simp only [step, stepW, evOf]
    by_cases ha : s.w.attached = true <;> simp [ha]
  | attach =>
    simp only [step, attachW, evOf]
    by_cases ha : s.w.attached = true <;> simp [ha]

structure QSys where
  /-- registry, `watcher.entities`; its `w.cons` is a ghost: where the consumer will be once drained -/
  s : Sys
  /-- events sent and not yet received (with the step that feeds the iteration-order oracle), oldest first -/
  queue : List (Nat × Event)
  /-- the consumer's actual state -/
  cons : CState

def QSys.init : QSys := ⟨Sys.init, [], Sys.init.w.cons⟩

inductive QItem
  /-- the registry goroutine applies a snapshot / a watcher is attached: the event is sent -/
  | produce (it : Item)
  /-- the consumer goroutine receives the oldest pending event and handles it -/
  | consume

def qstep (P : Params) (q : QSys) : QItem → QSys
  | .produce it => ⟨step P q.s it, q.queue ++ [(q.s.t, evOf P q.s it)], q.cons⟩
  | .consume =>
    match q.queue with
    | [] => q
    | e :: r => ⟨q.s, r, handleEvent P e.1 q.cons e.2⟩

def qrun (P : Params) (q : QSys) (its : List QItem) : QSys := its.foldl (qstep P) q

def produced : List QItem → List Item
  | [] => []
  | .produce it :: r => it :: produced r
  | .consume :: r => produced r

/-- the events of the items `h`, starting in the synchronous state `s` -/
def pending (P : Params) : Sys → List Item → List (Nat × Event)
  | _, [] => []
  | s, it :: r => (s.t, evOf P s it) :: pending P (step P s it) r

theorem pending_append (P : Params) : ∀ (a : List Item) (s : Sys) (it : Item),
    pending P s (a ++ [it]) = pending P s a ++ [((run P s a).t, evOf P (run P s a) it)]
  | [], s, it => rfl
  | x :: a, s, it => by
    simp only [List.cons_append, pending, pending_append P a (step P s x) it]
    rfl

theorem pending_length (P : Params) : ∀ (h : List Item) (s : Sys), (pending P s h).length = h.length
  | [], _ => rfl
  | it :: r, s => congrArg (· + 1) (pending_length P r (step P s it))

/-- the invariant: the registry has applied `h`; the consumer has handled the events of a prefix `a`
of it, the queue holds those of the rest `b` -/
def QInv (P : Params) (q : QSys) (h : List Item) : Prop :=
  ∃ a b, h = a ++ b ∧ q.s = run P Sys.init h ∧ q.cons = (run P Sys.init a).w.cons ∧
    q.queue = pending P (run P Sys.init a) b

theorem qinv_init (P : Params) : QInv P QSys.init [] :=
  ⟨[], [], rfl, rfl, rfl, rfl⟩

theorem qinv_step {P : Params} (ok : P.OrderOK) {q : QSys} {h : List Item} (inv : QInv P q h) (x : QItem) :
    QInv P (qstep P q x) (h ++ produced [x]) := by
  obtain ⟨a, b, hab, hs, hc, hq⟩ := inv
  cases x with
  | produce it =>
    refine ⟨a, b ++ [it], by rw [hab, List.append_assoc]; rfl, ?_, hc, ?_⟩
    · simp only [qstep, produced, hs, run_append]; rfl
    · simp only [qstep]
      rw [pending_append, ← run_append, ← hab, ← hs, hq]
  | consume =>
    simp only [produced, List.append_nil, qstep]
    cases hqq : q.queue with
    | nil => exact ⟨a, b, hab, hs, hc, by rw [← hq, hqq]⟩
    | cons e r =>
      -- the queue is not empty, so an applied item is still unconsumed
      cases b with
      | nil => rw [hqq] at hq; cases hq
      | cons it rest =>
        rw [hqq, pending, List.cons.injEq] at hq
        refine ⟨a ++ [it], rest, by rw [hab, List.append_assoc]; rfl, hs, ?_, ?_⟩
        · rw [run_append, hq.1, hc]
          exact (step_cons ok _ it).symm
        · rw [run_append, hq.2]; rfl

theorem produced_append : ∀ (a b : List QItem), produced (a ++ b) = produced a ++ produced b
  | [], _ => rfl
  | .produce it :: a, b => by simp [produced, produced_append a b]
  | .consume :: a, b => by simp [produced, produced_append a b]

theorem qinv_run {P : Params} (ok : P.OrderOK) : ∀ (its : List QItem) {q : QSys} {h : List Item},
    QInv P q h → QInv P (qrun P q its) (h ++ produced its)
  | [], q, h, inv => by simpa [qrun, produced] using inv
  | x :: its, q, h, inv => by
    have := qinv_run ok its (qinv_step ok inv x)
    rwa [List.append_assoc, ← produced_append] at this

/-- Every interleaving, at every moment: the registry part is the synchronous run over all applied items;
the consumer's state is the synchronous consumer after a prefix `a` of them; the queue holds the events of the
rest `b`, in order. -/
theorem qrun_prefix {P : Params} (ok : P.OrderOK) (its : List QItem) :
    ∃ a b, produced its = a ++ b ∧ (qrun P QSys.init its).s = run P Sys.init (produced its) ∧
      (qrun P QSys.init its).cons = (run P Sys.init a).w.cons ∧
      (qrun P QSys.init its).queue = pending P (run P Sys.init a) b := by
  have := qinv_run ok its (qinv_init P)
  rwa [List.nil_append] at this

theorem qrun_drained {P : Params} (ok : P.OrderOK) (its : List QItem)
    (hq : (qrun P QSys.init its).queue = []) :
    (qrun P QSys.init its).cons = (run P Sys.init (produced its)).w.cons := by
  obtain ⟨a, b, hab, _, hc, hqq⟩ := qrun_prefix ok its
  have hb : b = [] := List.eq_nil_of_length_eq_zero (by rw [← pending_length P b, ← hqq, hq]; rfl)
  rw [hc, hab, hb, List.append_nil]

end EgVerif.Lifecycle
