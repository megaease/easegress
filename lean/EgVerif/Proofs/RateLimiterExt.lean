import EgVerif.Spec.RateLimiterExt
import EgVerif.Proofs.RateLimiter
import Mathlib.Tactic.Linarith
import Mathlib.Tactic.SplitIfs
/-! Lemmas for C09 about limiters with timeout 0 asked for `n ≥ 0` permits at a
time (MQTT byte limiter, the two dimensions of the multi limiter). -/
namespace EgVerif.RateLimiter

/-- One dimension of a timeout-0 limiter: rebase the tokens to the current period, refuse when the
period's limit is reached **or another dimension vetoes**, otherwise take `n` tokens. -/
def vstep (L P : Int) (s : RL) (now n : Int) (veto : Bool) : RL × Bool :=
  if rebased L P s now ≥ L ∨ veto = true then (s, false) else (⟨now / P, rebased L P s now + n⟩, true)

theorem usedIn_append (P : Int) (h : NHist) (e : Int × Int × Bool) (c : Int) :
    usedIn P (h ++ [e]) c = usedIn P h c + (if e.2.2 && e.1 / P == c then e.2.1 else 0) := by
  unfold usedIn
  rw [List.filter_append, List.foldl_append]
  by_cases hc : (e.2.2 && e.1 / P == c) = true
  · simp [hc]
  · simp [hc]

theorem maxIn_append (P : Int) (h : NHist) (e : Int × Int × Bool) (c : Int) :
    maxIn P (h ++ [e]) c =
      (if e.2.2 && e.1 / P == c then (if e.2.1 > maxIn P h c then e.2.1 else maxIn P h c) else maxIn P h c) := by
  unfold maxIn
  rw [List.filter_append, List.foldl_append]
  by_cases hc : (e.2.2 && e.1 / P == c) = true
  · simp [hc]
  · simp [hc]

structure VInv (L P : Int) (s : RL) (h : NHist) : Prop where
  tok_nonneg : 0 ≤ s.tokens
  used_le : usedIn P h s.cycle ≤ s.tokens
  tok_lt : s.tokens < L + maxIn P h s.cycle
  past : ∀ c, c ≠ s.cycle → usedIn P h c < L + maxIn P h c
  future : ∀ c, s.cycle < c → usedIn P h c = 0
  max_nonneg : ∀ c, 0 ≤ maxIn P h c

/-- What the invariant is for: in every period the admitted amount stays below `L` + the largest
admitted request. -/
theorem VInv.overshoot {L P : Int} {s : RL} {h : NHist} (inv : VInv L P s h) (c : Int) :
    usedIn P h c < L + maxIn P h c := by
  by_cases hc : c = s.cycle
  · rw [hc]; exact lt_of_le_of_lt inv.used_le inv.tok_lt
  · exact inv.past c hc

theorem vinv_init {L : Int} (P : Int) (hL : 0 < L) : VInv L P init [] := by
  have h0 : ∀ c, (0 : Int) < L + maxIn P [] c := fun c => by
    rw [show maxIn P [] c = 0 from rfl, add_zero]; exact hL
  exact ⟨le_refl _, le_refl _, h0 _, fun c _ => h0 c, fun _ _ => rfl, fun _ => le_refl _⟩

theorem VInv.refused {L P : Int} {s : RL} {h : NHist} (inv : VInv L P s h) (now n : Int) :
    VInv L P s (h ++ [(now, n, false)]) := by
  have hu : ∀ c, usedIn P (h ++ [(now, n, false)]) c = usedIn P h c := fun c => by
    rw [usedIn_append]; exact add_zero _
  have hm : ∀ c, maxIn P (h ++ [(now, n, false)]) c = maxIn P h c := fun c => by
    rw [maxIn_append]; rfl
  refine ⟨inv.tok_nonneg, ?_, ?_, fun c hc => ?_, fun c hc => ?_, fun c => ?_⟩
  · rw [hu]; exact inv.used_le
  · rw [hm]; exact inv.tok_lt
  · rw [hu, hm]; exact inv.past c hc
  · rw [hu]; exact inv.future c hc
  · rw [hm]; exact inv.max_nonneg c

theorem VInv.admitted {L P : Int} {s : RL} {h : NHist} (inv : VInv L P s h) {now n : Int} (hn : 0 ≤ n)
    (hmono : s.cycle ≤ now / P) (hlt : rebased L P s now < L) :
    VInv L P ⟨now / P, rebased L P s now + n⟩ (h ++ [(now, n, true)]) := by
  have ht := rebased_nonneg L P s now
  -- what was admitted in the period of `now` is covered by the rebased tokens
  have hused : usedIn P h (now / P) ≤ rebased L P s now := by
    rcases lt_or_eq_of_le hmono with hc | hc
    · rw [inv.future _ hc]; exact ht
    · rw [rebased_same hc.symm inv.tok_nonneg, ← hc]; exact inv.used_le
  have hu : ∀ c, usedIn P (h ++ [(now, n, true)]) c = usedIn P h c + if now / P = c then n else 0 :=
    fun c => by rw [usedIn_append]; simp only [Bool.true_and, beq_iff_eq]
  have hm : ∀ c, maxIn P (h ++ [(now, n, true)]) c =
      if now / P = c then (if n > maxIn P h c then n else maxIn P h c) else maxIn P h c :=
    fun c => by rw [maxIn_append]; simp only [Bool.true_and, beq_iff_eq]
  refine ⟨?_, ?_, ?_, fun c hc => ?_, fun c hc => ?_, fun c => ?_⟩
  · show 0 ≤ rebased L P s now + n
    omega
  · show usedIn P _ (now / P) ≤ rebased L P s now + n
    rw [hu, if_pos rfl]; omega
  · show rebased L P s now + n < L + maxIn P _ (now / P)
    have := inv.max_nonneg (now / P)
    rw [hm, if_pos rfl]; split <;> omega
  · rw [hu, hm, if_neg (Ne.symm hc), if_neg (Ne.symm hc), add_zero]
    exact inv.overshoot c
  · have hc' : s.cycle < c := lt_of_le_of_lt hmono hc
    rw [hu, if_neg (ne_of_lt hc), add_zero]
    exact inv.future c hc'
  · have := inv.max_nonneg c
    rw [hm]; split_ifs <;> omega

theorem vinv_step {L P : Int} {s : RL} {h : NHist} {now n : Int} (veto : Bool)
    (hn : 0 ≤ n) (hmono : s.cycle ≤ now / P) (inv : VInv L P s h) :
    VInv L P (vstep L P s now n veto).1 (h ++ [(now, n, (vstep L P s now n veto).2)]) ∧
      (vstep L P s now n veto).1.cycle ≤ now / P := by
  unfold vstep
  split
  · exact ⟨inv.refused now n, hmono⟩
  · rename_i hadm
    exact ⟨inv.admitted hn hmono (by omega), le_refl _⟩

theorem acquire_T0 {p : Policy} (hL : 0 < p.L) (hP : 0 < p.P) (hT : p.T = 0) (s : RL) {now : Int} (n : Int)
    (hnow : 0 ≤ now) :
    acquire p s now n = ((vstep p.L p.P s now n false).1, ⟨(vstep p.L p.P s now n false).2, 0⟩) := by
  rw [acquire_eq ⟨hL, hP, hT.ge⟩ s n hnow, hT, Int.zero_ediv, zero_add, mul_one]
  unfold vstep
  by_cases h : p.L ≤ rebased p.L p.P s now
  · simp [h]
  · simp [h, not_le.mp h]

/-- The two-dimensional multi limiter with timeout 0 (the MQTT `[requests, bytes]` limiter) is, per
dimension, a `vstep` vetoed by the other dimension; both dimensions decide alike and admissions
never wait. -/
theorem macquire2_T0 (L0 L1 P : Int) (c t0 t1 now n0 n1 : Int) (hnow : 0 ≤ now) :
    let p : MPolicy := { Ls := [L0, L1], P := P, T := 0 }
    let v0 := vstep L0 P ⟨c, t0⟩ now n0 (decide (rebased L1 P ⟨c, t1⟩ now ≥ L1))
    let v1 := vstep L1 P ⟨c, t1⟩ now n1 (decide (rebased L0 P ⟨c, t0⟩ now ≥ L0))
    macquire p ⟨c, [t0, t1]⟩ now [n0, n1] =
      (⟨v0.1.cycle, [v0.1.tokens, v1.1.tokens]⟩, ⟨v0.2, 0, false⟩) ∧
    v0.2 = v1.2 ∧ v0.1.cycle = v1.1.cycle := by
  have e2 : Int.tdiv now P = now / P := Int.tdiv_eq_ediv_of_nonneg hnow
  have ea : (if t0 - (now / P - c) * L0 < 0 then 0 else t0 - (now / P - c) * L0) = rebased L0 P ⟨c, t0⟩ now := rfl
  have eb : (if t1 - (now / P - c) * L1 < 0 then 0 else t1 - (now / P - c) * L1) = rebased L1 P ⟨c, t1⟩ now := rfl
  simp only [macquire, vstep, e2, List.zipWith, ea, eb]
  by_cases ha : rebased L0 P ⟨c, t0⟩ now ≥ L0 <;> by_cases hb : rebased L1 P ⟨c, t1⟩ now ≥ L1 <;> simp [ha, hb]

theorem maxIn_le (P : Int) (h : NHist) (c b : Int) (hb : 0 ≤ b) (hall : ∀ e ∈ h, e.2.1 ≤ b) :
    maxIn P h c ≤ b := by
  unfold maxIn
  have key : ∀ (l : List (Int × Int × Bool)) (a : Int), a ≤ b → (∀ e ∈ l, e.2.1 ≤ b) →
      l.foldl (fun a e => if e.2.1 > a then e.2.1 else a) a ≤ b := by
    intro l
    induction l with
    | nil => intro a ha _; exact ha
    | cons x xs ih =>
      intro a ha hl
      have := hl x List.mem_cons_self
      rw [List.foldl_cons]
      refine ih _ ?_ (fun e he => hl e (List.mem_cons_of_mem _ he))
      split_ifs <;> omega
  exact key _ 0 hb (fun e he => hall e (List.mem_filter.mp he).1)

/-- With one permit per arrival the largest admitted request is at most 1, so "below `L` + the largest
request" is "at most `L`". -/
theorem usedIn_le_of_ones {L P : Int} {h : NHist} (hone : ∀ e ∈ h, e.2.1 = 1) {c : Int}
    (hb : usedIn P h c < L + maxIn P h c) : usedIn P h c ≤ L := by
  have := maxIn_le P h c 1 (by decide) (fun e he => (hone e he).le)
  omega

theorem overshootOk_of {L P : Int} {h : NHist} (hb : ∀ c, usedIn P h c < L + maxIn P h c) :
    overshootOk L P h = true := by
  simp only [overshootOk, List.all_eq_true, decide_eq_true_eq]
  exact fun e _ => hb _

theorem requestsOk_of {L P : Int} {h : NHist} (hb : ∀ c, usedIn P h c ≤ L) : requestsOk L P h = true := by
  simp only [requestsOk, List.all_eq_true, decide_eq_true_eq]
  exact fun e _ => hb _

theorem mem_runHist_const {arr : List (Int × Int)} {flags : List Bool} {k : Int} {e : Int × Int × Bool}
    (he : e ∈ runHist arr flags (fun _ => k)) : e.2.1 = k := by
  simp only [runHist, List.mem_map] at he
  obtain ⟨x, _, rfl⟩ := he
  rfl

theorem period_pos (timePeriod : Int) : 0 < (if timePeriod > 0 then timePeriod else 1) * second := by
  unfold second; split <;> omega

end EgVerif.RateLimiter
