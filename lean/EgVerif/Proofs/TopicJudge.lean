import EgVerif.Proofs.Topic
/-!
# C14: the judge's executable spec `routedOK` is connected to the theorems

`routedOK` (`Spec/Topic.lean`) is what the judge runs on the `findSubscribers` results observed from the Go harness.
It is tied to the theorems from both sides:

`routedOK_accepts_model`: on the model's own behaviour after any history the judge's check passes.
`routedOK_sound`: whatever observation passes the check is exactly the routed set of the abstract subscriptions.

The file also holds the two facts about when the TopicManager refuses a SUBSCRIBE.
-/
namespace EgVerif.Topic

theorem eraseDups_of_nodup {l : List Client} (nd : l.Nodup) : l.eraseDups = l := by
  induction l with
  | nil => rfl
  | cons a r ih =>
    rw [List.nodup_cons] at nd
    have hf : r.filter (fun b => !b == a) = r := by
      rw [List.filter_eq_self]
      intro x hx
      have : x ≠ a := fun e => nd.1 (e ▸ hx)
      simpa using this
    rw [List.eraseDups_cons, hf, ih nd.2]

theorem routedOK_collapseMax {s : Subs} {lv : List Level} {hits : List (Client × QoS)}
    (h : ∀ x, x ∈ hits ↔ x ∈ specFind s lv) : routedOK s lv (collapseMax hits) = true := by
  unfold routedOK
  simp only [Bool.and_eq_true, List.all_eq_true, List.contains_iff_mem, List.any_eq_true, decide_eq_true_eq,
    beq_iff_eq]
  refine ⟨⟨?_, ?_⟩, ?_⟩
  · rintro ⟨c, q⟩ hp
    exact (h (c, q)).mp (ownMax_some (mem_collapseMax.mp hp)).1
  · rintro ⟨c, q⟩ hp
    obtain ⟨mx, hmx⟩ := ownMax_isSome_of_mem ((h (c, q)).mpr hp)
    exact ⟨(c, mx), mem_collapseMax.mpr hmx, rfl⟩
  · rw [eraseDups_of_nodup (collapseMax_nodup _)]
    simp

/-- **The judge's spec accepts the model**: after any history of subscribe / unsubscribe / disconnect
operations, the map the (repaired) `findSubscribers` builds — `collapseMax` of the trie walk's hits — passes
`routedOK` against the abstract subscription set, for every topic. -/
theorem routedOK_accepts_model (ops : List Op) (lv : List Level) :
    routedOK (specRun [] ops) lv (collapseMax (find (run State.init ops).trie lv)) = true :=
  routedOK_collapseMax (routing_after_any_history ops lv)

/-- **Soundness of the judge's spec**: an observed result that passes `routedOK` contains only routed
(client, qos) pairs of the abstract subscription set — each QoS is one of that client's own matching
subscriptions — and every client holding a matching live subscription appears in it. -/
theorem routedOK_sound (s : Subs) (lv : List Level) (obs : List (Client × QoS)) (h : routedOK s lv obs = true) :
    (∀ p ∈ obs, ∃ f, (f, p.1, p.2) ∈ s ∧ «matches» f lv = true) ∧
    (∀ f c q, (f, c, q) ∈ s → «matches» f lv = true → ∃ o ∈ obs, o.1 = c) := by
  unfold routedOK at h
  simp only [Bool.and_eq_true, List.all_eq_true, List.contains_iff_mem, List.any_eq_true, decide_eq_true_eq,
    beq_iff_eq] at h
  obtain ⟨⟨h1, h2⟩, _⟩ := h
  exact ⟨fun p hp => (mem_specFind s lv p).mp (h1 p hp),
    fun f c q hf hm => h2 (c, q) ((mem_specFind s lv (c, q)).mpr ⟨f, hf, hm⟩)⟩

/-- **A SUBSCRIBE is refused (no SUBACK, nothing changes) iff some filter of the packet is malformed** -/
theorem subscribe_error_iff_malformed (s : State) (c : Client) (fs : List (List Char × QoS)) :
    (step s (.subscribe c fs)).2 = true ↔ ∃ p ∈ fs, wellFormed p.1 = false := by
  rw [step_subscribe]
  cases h : fs.all (fun p => wellFormed p.1) with
  | true =>
    rw [if_pos rfl]
    simp only [List.all_eq_true] at h
    constructor
    · intro e; cases e
    · rintro ⟨p, hp, hw⟩; rw [h p hp] at hw; cases hw
  | false =>
    rw [if_neg Bool.false_ne_true]
    obtain ⟨p, hp, hw⟩ := List.all_eq_false.mp h
    exact ⟨fun _ => ⟨p, hp, Bool.eq_false_iff.mpr hw⟩, fun _ => rfl⟩

/-- …and a well-formed SUBSCRIBE is acknowledged and stored -/
theorem wellformed_subscribe_accepted (s : State) (c : Client) (fs : List (List Char × QoS))
    (h : ∀ p ∈ fs, wellFormed p.1 = true) : (step s (.subscribe c fs)).2 = false := by
  rw [step_subscribe, if_pos (List.all_eq_true.mpr h)]

end EgVerif.Topic
