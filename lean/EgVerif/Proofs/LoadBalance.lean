import EgVerif.Spec.LoadBalance
import Mathlib.Tactic.SplitIfs
import Mathlib.Tactic.Linarith
/-! Lemmas about the model of C04 (load balancers): what one selection can return, the round-robin
arithmetic, single steps of the pool, the counter values one generation hands out over a run. Property
theorems are in `Props/C04.lean`. -/
namespace EgVerif.LoadBalance

/-! ### one selection: a member of the list, or a panic -/

theorem index_natCast (ss : List Server) (i : Nat) (h : i < ss.length) :
    index ss (i : Int) = .srv ss[i] := by
  unfold index
  rw [if_neg (by omega), Int.toNat_natCast, List.getElem?_eq_getElem h]

theorem index_ne_panic {ss : List Server} {i : Nat} (h : i < ss.length) : index ss (i : Int) ≠ .panic := by
  rw [index_natCast ss i h]
  exact Res.noConfusion

theorem index_spec (ss : List Server) (i : Int) : index ss i = .panic ∨ ∃ s ∈ ss, index ss i = .srv s := by
  unfold index
  split_ifs
  · exact .inl rfl
  · cases h : ss[i.toNat]? with
    | none => exact .inl rfl
    | some s => exact .inr ⟨s, List.mem_of_getElem? h, rfl⟩

theorem weightedLoop_spec : ∀ (ss : List Server) (r : Int),
    weightedLoop ss r = .panic ∨ ∃ s ∈ ss, 0 < s.weight ∧ weightedLoop ss r = .srv s
  | [], _ => .inl rfl
  | a :: rest, r => by
    simp only [weightedLoop, List.mem_cons, exists_eq_or_imp]
    split_ifs
    · exact (weightedLoop_spec rest r).imp_right .inr
    · exact .inr (.inl ⟨by omega, rfl⟩)
    · exact (weightedLoop_spec rest _).imp_right .inr

/-- `rand.Intn(total)` returns `0 ≤ r < total`: the loop finds a server before running off the end. -/
theorem weightedLoop_no_panic : ∀ (ss : List Server) (r : Int),
    r < totalWeight ss → 0 ≤ r → weightedLoop ss r ≠ .panic
  | [], r, h, h0 => absurd h (Int.not_lt.mpr h0)
  | a :: rest, r, h, h0 => by
    rw [totalWeight] at h
    simp only [weightedLoop]
    by_cases h1 : a.weight ≤ 0
    · rw [if_neg (Int.not_lt.mpr h1), Int.zero_add] at h
      rw [if_pos h1]
      exact weightedLoop_no_panic rest r h h0
    · rw [if_pos (Int.not_le.mp h1)] at h
      rw [if_neg h1]
      split_ifs
      · exact Res.noConfusion
      · exact weightedLoop_no_panic rest _ (by omega) (by omega)

theorem totalWeight_nonneg : ∀ ss : List Server, 0 ≤ totalWeight ss
  | [] => Int.le_refl 0
  | a :: rest => by
    simp only [totalWeight]
    have := totalWeight_nonneg rest
    split_ifs <;> omega

theorem totalWeight_pos_iff : ∀ ss : List Server, 0 < totalWeight ss ↔ ∃ s ∈ ss, 0 < s.weight
  | [] => by simp [totalWeight]
  | a :: rest => by
    have := totalWeight_nonneg rest
    simp only [totalWeight, List.mem_cons, exists_eq_or_imp, ← totalWeight_pos_iff rest]
    split_ifs <;> omega

theorem weightedChoose_spec (ss : List Server) (r : Nat) : weightedChoose ss r = .panic ∨
    ∃ s ∈ ss, (0 < totalWeight ss → 0 < s.weight) ∧ weightedChoose ss r = .srv s := by
  unfold weightedChoose
  split_ifs with ht
  · exact (index_spec ss r).imp_right fun ⟨s, hs, h⟩ => ⟨s, hs, fun _ => by omega, h⟩
  · exact (weightedLoop_spec ss r).imp_right fun ⟨s, hs, hw, h⟩ => ⟨s, hs, fun _ => hw, h⟩

theorem weightedChoose_no_panic (ss : List Server) (r : Nat)
    (hr : (r : Int) < if totalWeight ss ≤ 0 then (ss.length : Int) else totalWeight ss) :
    weightedChoose ss r ≠ .panic := by
  unfold weightedChoose
  split_ifs with ht
  · rw [if_pos ht] at hr
    exact index_ne_panic (by omega)
  · rw [if_neg ht] at hr
    exact weightedLoop_no_panic _ _ hr (by omega)

theorem choose_nil (lb : LB) (x : Sel) (h : lb.servers = []) : choose lb x = .nil := by
  unfold choose
  rw [h]; rfl

/-- Whatever the policy, a selection on a non-empty list ends in an index expression into the list or in
the weighted loop over it. -/
theorem choose_spec (lb : LB) (x : Sel) (h : lb.servers ≠ []) :
    choose lb x = .panic ∨ ∃ s ∈ lb.servers, choose lb x = .srv s := by
  obtain ⟨policy, ss⟩ := lb
  unfold choose hashIndex
  rw [if_neg (mt List.eq_nil_of_length_eq_zero h)]
  cases policy with
  | weightedRandom => exact (weightedChoose_spec ss _).imp_right fun ⟨s, hs, _, h⟩ => ⟨s, hs, h⟩
  | _ => exact index_spec ss _

theorem choose_of_ne_panic {lb : LB} {x : Sel} (h : choose lb x ≠ .panic) :
    (lb.servers = [] ∧ choose lb x = .nil) ∨ ∃ s ∈ lb.servers, choose lb x = .srv s := by
  by_cases he : lb.servers = []
  · exact .inl ⟨he, choose_nil lb x he⟩
  · exact .inr ((choose_spec lb x he).resolve_left h)

theorem toInt64_small {c : Nat} (h : c < 9223372036854775808) : toInt64 c = (c : Int) := by
  unfold toInt64
  rw [Nat.mod_eq_of_lt (by omega), if_pos h]

theorem rr_index {c n : Nat} (h : c < 9223372036854775808) :
    Int.tmod (toInt64 c) (n : Int) = ((c % n : Nat) : Int) := by
  rw [toInt64_small h, Int.tmod_eq_emod_of_nonneg (by omega), Int.natCast_mod]

theorem rrCount_succ (k n j : Nat) (hn : 0 < n) (hj : j < n) :
    rrCount (k + 1) n j = rrCount k n j + if k % n = j then 1 else 0 := by
  have hd := Nat.div_add_mod k n
  have hr := Nat.mod_lt k hn
  -- whether or not `k + 1` completes a round, position `j` has now been served `k / n + [j ≤ k % n]` times
  have hA : rrCount (k + 1) n j = k / n + if j < k % n + 1 then 1 else 0 := by
    unfold rrCount
    by_cases hc : k % n + 1 < n
    · obtain ⟨h2, h3⟩ :=
        (Nat.div_mod_unique hn).mpr ⟨(by omega : k % n + 1 + n * (k / n) = k + 1), hc⟩
      rw [h2, h3]
    · have hm : n * (k / n + 1) = n * (k / n) + n := Nat.mul_succ _ _
      obtain ⟨h2, h3⟩ := (Nat.div_mod_unique hn).mpr ⟨(by omega : 0 + n * (k / n + 1) = k + 1), hn⟩
      rw [h2, h3, if_neg (Nat.not_lt_zero j), if_pos (by omega)]
  rw [hA, rrCount, Nat.add_assoc]
  congr 1
  rcases Nat.lt_trichotomy j (k % n) with h | h | h
  · rw [if_pos (Nat.lt_succ_of_lt h), if_pos h, if_neg (Nat.ne_of_gt h)]
  · rw [← h, if_pos (Nat.lt_succ_self j), if_neg (Nat.lt_irrefl j), if_pos rfl]
  · rw [if_neg (Nat.not_lt.mpr h), if_neg (Nat.lt_asymm h), if_neg (Nat.ne_of_lt h)]

theorem sticky_map (keys : List (List Nat)) (F : List Nat → Int) :
    sticky (keys.map (fun k => (k, F k))) = true := by
  unfold sticky
  simp only [List.all_eq_true, List.mem_map]
  rintro _ ⟨k1, _, rfl⟩ _ ⟨k2, _, rfl⟩
  by_cases h : k1 = k2
  · subst h; simp
  · simp [h]

/-- `sched` = the order in which threads perform their atomic fetch-add; the result pairs each
thread with the value it obtained. -/
def handOut : List Nat → Nat → List (Nat × Nat)
  | [], _ => []
  | t :: r, c => (t, c) :: handOut r (c + 1)

theorem handOut_values : ∀ (sched : List Nat) (c : Nat),
    (handOut sched c).map (·.2) = List.range' c sched.length
  | [], _ => rfl
  | t :: r, c => by simp [handOut, handOut_values r (c + 1), List.range']

theorem filterMap_ite {α β : Type} (p : α → Bool) (f : α → β) : ∀ l : List α,
    l.filterMap (fun a => if p a = true then some (f a) else none) = (l.filter p).map f
  | [] => rfl
  | a :: r => by
    rw [List.filterMap_cons, List.filter_cons, filterMap_ite p f r]
    cases p a <;> rfl

theorem afterReports_concat (sps : PoolSpec) (rs : List (List Instance)) (r : List Instance) :
    afterReports sps (rs ++ [r]) = useService sps r := by
  rw [afterReports, List.foldl_append, List.foldl_cons, List.foldl_nil]

def stores : List Ev → List (List Server)
  | [] => []
  | .store ss :: es => ss :: stores es
  | _ :: es => stores es

theorem stores_append (xs ys : List Ev) : stores (xs ++ ys) = stores xs ++ stores ys := by
  induction xs with
  | nil => rfl
  | cons e es ih => cases e <;> simp [stores, ih]

theorem mem_getD_mapIdx_map {α β : Type} (f : Nat → α → β) (xs : List (List α)) {i : Nat} {e : β}
    (he : e ∈ (xs.mapIdx (fun i l => l.map (f i))).getD i []) : ∃ x ∈ xs.getD i [], e = f i x := by
  rw [List.getD_eq_getElem?_getD, List.getElem?_mapIdx] at he
  rw [List.getD_eq_getElem?_getD]
  cases h : xs[i]? with
  | none => rw [h] at he; cases he
  | some l =>
    rw [h] at he
    obtain ⟨x, hx, rfl⟩ := List.mem_map.mp he
    exact ⟨x, hx, rfl⟩

theorem bump_eq_modify : ∀ (gs : List (LB × Nat)) (i : Nat),
    bump gs i = gs.modify i (fun g => (g.1, g.2 + 1))
  | [], _ => by simp [bump]
  | (_, _) :: _, 0 => rfl
  | _ :: r, i + 1 => by rw [bump, List.modify_succ_cons, bump_eq_modify r i]

theorem bump_map_fst (gs : List (LB × Nat)) (i : Nat) : (bump gs i).map (·.1) = gs.map (·.1) := by
  apply List.ext_getElem?
  intro g
  rw [bump_eq_modify, List.getElem?_map, List.getElem?_map, List.getElem?_modify]
  cases gs[g]? with
  | none => rfl
  | some a => by_cases h : i = g <;> simp [h]

/-- The one place where the `pick` branch of `step` is taken apart: a thread that holds an existing
generation fetches that generation's counter and chooses on its balancer; any other pick does nothing. -/
theorem step_pick (p : Pool) (t : Nat) (x : Sel) :
    (∃ g lb c, p.held.lookup t = some g ∧ p.gens[g]? = some (lb, c) ∧ step p (.pick t x) =
      ({ p with gens := bump p.gens g }, some ⟨t, g, c, choose lb { x with counter := c }⟩)) ∨
    step p (.pick t x) = (p, none) := by
  cases hh : p.held.lookup t with
  | none => exact .inr (by simp only [step, hh])
  | some g =>
    cases hg : p.gens[g]? with
    | none => exact .inr (by simp only [step, hh, hg])
    | some lc => exact .inl ⟨g, lc.1, lc.2, rfl, hg, by simp only [step, hh, hg]⟩

theorem step_policy (p : Pool) (e : Ev) : (step p e).1.policy = p.policy := by
  cases e with
  | load t => rfl
  | store ss => rfl
  | pick t x => rcases step_pick p t x with ⟨g, lb, c, _, _, hs⟩ | hs <;> rw [hs]

theorem step_gens (p : Pool) (e : Ev) :
    (step p e).1.gens.map (·.1) = p.gens.map (·.1) ++ (stores [e]).map (newLB p.policy) := by
  cases e with
  | load t => exact (List.append_nil _).symm
  | store ss => exact List.map_append
  | pick t x =>
    rw [show stores [Ev.pick t x] = [] from rfl, List.map_nil, List.append_nil]
    rcases step_pick p t x with ⟨g, lb, c, _, _, hs⟩ | hs <;> rw [hs]
    exact bump_map_fst _ _

/-! ### round robin across list replacement: counters per generation -/

/-- counter of generation `g` (0 for a generation that does not exist yet: it will be created with 0) -/
def ctr (gs : List (LB × Nat)) (g : Nat) : Nat :=
  match gs[g]? with
  | some (_, c) => c
  | none => 0

theorem ctr_append_zero (gs : List (LB × Nat)) (lb : LB) (g : Nat) : ctr (gs ++ [(lb, 0)]) g = ctr gs g := by
  unfold ctr
  by_cases h : g < gs.length
  · rw [List.getElem?_append_left h]
  · -- beyond `gs` both sides are 0: the new counter, or no generation at all
    rw [Nat.not_lt] at h
    rw [List.getElem?_append_right h, List.getElem?_eq_none h]
    cases g - gs.length <;> rfl

theorem ctr_bump {gs : List (LB × Nat)} {i : Nat} {lb : LB} {c : Nat} (h : gs[i]? = some (lb, c)) (g : Nat) :
    ctr (bump gs i) g = ctr gs g + if i = g then 1 else 0 := by
  unfold ctr
  rw [bump_eq_modify, List.getElem?_modify]
  by_cases hg : i = g
  · rw [← hg, h, if_pos rfl]; simp
  · rw [if_neg hg]
    cases gs[g]? <;> simp [hg]

/-- the selections made on generation `g`, in the order the fetch-adds happened -/
def onGen (g : Nat) (outs : List Out) : List Out := outs.filter (fun o => o.gen == g)

/-- what a step selects on generation `g` takes that generation's counter, and moves it on -/
theorem step_onGen (p : Pool) (e : Ev) (g : Nat) :
    (onGen g (step p e).2.toList).map (·.counter) =
        List.range' (ctr p.gens g) (onGen g (step p e).2.toList).length ∧
      ctr (step p e).1.gens g = ctr p.gens g + (onGen g (step p e).2.toList).length := by
  cases e with
  | load t => exact ⟨rfl, rfl⟩
  | store ss => exact ⟨rfl, ctr_append_zero _ _ g⟩
  | pick t x =>
    rcases step_pick p t x with ⟨g', lb, c, _, hg, hs⟩ | hs <;> rw [hs]
    · by_cases h : g' = g
      · subst h
        have hc : ctr p.gens g' = c := by rw [ctr, hg]
        simp [onGen, ctr_bump hg, hc]
      · simp [onGen, h, ctr_bump hg]
    · exact ⟨rfl, rfl⟩

/-- **Every generation hands out its own consecutive counter values**, whatever loads, picks on other
generations and publications are interleaved. -/
theorem gen_counters (g : Nat) : ∀ (evs : List Ev) (p : Pool),
    (onGen g (run p evs)).map (·.counter) = List.range' (ctr p.gens g) (onGen g (run p evs)).length
  | [], p => rfl
  | e :: es, p => by
    obtain ⟨h1, h2⟩ := step_onGen p e g
    have ih := gen_counters g es (step p e).1
    rw [h2] at ih
    unfold onGen at *
    rw [run, List.filter_append, List.map_append, List.length_append, h1, ih, List.range'_append_1]

end EgVerif.LoadBalance
