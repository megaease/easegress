import EgVerif.Proofs.Pipeline
import EgVerif.Gen.FactsC02IR
/-!
Regenerated tie by translation for C02 (`notes/IR.md`, `harness/factextract/facts_c02_ir.go`): the `…IR`
definitions of `Gen.FactsC02IR` are produced on every run by the go/ast micro-translator from the current
bodies of the Go functions; each is proved equal to the hand-written function of `Model/Pipeline.lean` for
all inputs (`Props/C02.lean`). Here: `isBuiltInFilter`, `Context.UseNamespace`, the translated loops of
`Pipeline.doHandle`, `Spec.ValidateJumpIf` and `Spec.Validate`, and with them `doHandle`, `Handle` and `Validate`.
-/
namespace EgVerif.Pipeline
open EgVerif.Gen.FactsC02IR

theorem isBuiltInFilter_regenerated_from_source (name : String) :
    isBuiltInFilterIR name = decide (name = END) := by
  unfold isBuiltInFilterIR
  by_cases h : name = END <;> simp [h]

theorem useNamespace_regenerated_from_source (ns0 ns : String) : useNamespaceIR ns0 ns = useNs ns := by
  unfold useNamespaceIR useNs
  by_cases h : ns = "" <;> simp [h]

/-! ## `Pipeline.doHandle` -/

/-- what the generated call site of the loop returns -/
def finDH (s : Sum (String × List Stat × Bool) (List Stat × String × String × String × Bool)) :
    String × List Stat × Bool :=
  match s with
  | .inl r => r
  | .inr t => (t.2.2.1, t.1, t.2.2.2.2)

/-- the translated loop's `continue` test, when control arrives at the node -/
theorem arrive_test {next name : String} (ha : next = "" ∨ next = name) :
    ¬ ((next != "") && (next != name)) = true := by
  rcases ha with rfl | rfl <;> simp

/-- The translated loop takes the same way through an iteration as the model's: by induction on the
model's run. `ans` is the namespace the translated loop carries along (it does not reach the result). -/
theorem doHandle_regenerated_from_source_loop (kind : String → String) (res : Nat → String) (ns0 : String)
    (flow0 : List Node) {l : List Node} {i : Nat} {result next : String} {stats : List Stat}
    {out : String × List Stat × Bool} (h : LoopRel kind res l i result next stats out) :
    ∀ ans, finDH (doHandleIR_loop1 kind res ns0 flow0 stats ans result next false i l) = out := by
  induction h with
  | nil => intro ans; rfl
  | skip h1 h2 _ ih =>
    intro ans
    rw [doHandleIR_loop1, if_pos (by simp [h1, h2])]
    exact ih ans
  | atEnd ha he =>
    intro ans
    rw [doHandleIR_loop1, if_neg (arrive_test ha), if_pos (beq_iff_eq.mpr he)]
    rfl
  | stop ha he hc =>
    intro ans
    obtain ⟨hr, hx⟩ := not_continues_iff.mp hc
    rw [doHandleIR_loop1, if_neg (arrive_test ha), if_neg (by simpa using he), if_neg (by simpa using hr),
      if_pos (by simpa using hx)]
    rfl
  | @run n _ _ _ _ _ _ _ ha he hp _ ih =>
    intro ans
    rw [doHandleIR_loop1, if_neg (arrive_test ha), if_neg (by simpa using he)]
    rcases hp with ⟨hr, rfl⟩ | ⟨hr, hl, h1, h2⟩
    · rw [if_pos (by simpa using hr)]
      exact ih (useNs n.ns)
    · rw [if_neg (by simpa using hr), hl, if_neg (by simp [h1, h2])]
      exact ih (useNs n.ns)

/-- `Pipeline.doHandle`, for every namespace `ns0` that is active on entry. -/
theorem doHandle_regenerated_from_source (kind : String → String) (res : Nat → String) (ns0 : String)
    (flow : List Node) (stats : List Stat) :
    doHandleIR kind res ns0 flow stats = doHandle kind res flow stats := by
  unfold doHandle
  rw [← doHandle_regenerated_from_source_loop kind res ns0 flow (loop_rel kind res flow 0 "" "" stats) ns0]
  unfold doHandleIR finDH
  dsimp only
  generalize doHandleIR_loop1 kind res ns0 flow stats ns0 "" "" false 0 flow = x
  cases x <;> rfl

/-! ## `Pipeline.Handle` -/

theorem handle_regenerated_from_source (res : Nat → String) (p : Pipe) : handleIR res p = handle res p := by
  unfold handleIR handle
  rfl

/-! ## `Spec.ValidateJumpIf` -/

/-- the association-list counter `m` represents the multiset `vt` -/
def CtrRel (m : List (String × Int)) (vt : List String) : Prop := ∀ t, ctrGet m t = (vt.count t : Int)

theorem ctrRel_incr {m : List (String × Int)} {vt : List String} (h : CtrRel m vt) (k : String) :
    CtrRel ((k, ctrGet m k + 1) :: m) (k :: vt) := by
  intro t
  by_cases e : t = k
  · subst e
    simp [ctrGet, List.lookup, List.count_cons_self]
    have := h t
    simp only [ctrGet] at this
    omega
  · have e' : (t == k) = false := by simpa using e
    have e'' : ¬ k = t := fun x => e x.symm
    have := h t
    simp only [ctrGet] at this
    simp [ctrGet, List.lookup, e', e'', this]

theorem ctrRel_init : CtrRel [(END, 1)] [END] :=
  ctrRel_incr (m := []) (vt := []) (fun _ => rfl) END

/-- the inner loop over `node.JumpIf`: closed form -/
theorem validateJumpIf_regenerated_from_source_loop_inner (kinds : List (String × List String)) (s : PSpec)
    (specs : List (String × String)) (m : List (String × Int)) (vt : List String) (hm : CtrRel m vt)
    (node : Node) (spec : Option String) (results : List String) :
    ∀ l : List (String × String),
      validateJumpIfIR_loop2 kinds s specs m node spec results l =
        if l.all (fun j => results.contains j.1 && vt.count j.2 == 1) then .inr () else .inl false
  | [] => by simp [validateJumpIfIR_loop2]
  | (r, t) :: rest => by
    rw [validateJumpIfIR_loop2, List.all_cons,
      validateJumpIf_regenerated_from_source_loop_inner kinds s specs m vt hm node spec results rest]
    dsimp only
    rw [hm t]
    cases results.contains r
    · rfl
    · -- the translated tests reject count 0 and count > 1; the model asks for count 1
      match vt.count t with
      | 0 => rfl
      | 1 => rfl
      | c + 2 =>
        simp only [Bool.not_true, Bool.false_eq_true, if_false, Bool.true_and, beq_iff_eq, gt_iff_lt,
          decide_eq_true_eq]
        rw [if_neg (by omega), if_pos (by omega)]
        rfl

/-- what the generated call site does with the outer loop's result -/
def okSum {α : Type} (s : Sum Bool α) : Bool :=
  match s with
  | .inl r => r
  | .inr _ => true

theorem scan_none_of_suffix (fs : List (String × String)) (kinds : List (String × List String)) :
    ∀ (pre suf : List Node), scan fs kinds suf = none → scan fs kinds (pre ++ suf) = none
  | [], _, h => h
  | n :: pre, suf, h => by
    simp only [List.cons_append, scan, scan_none_of_suffix fs kinds pre suf h]

/-- one step of the backward scan, once the nodes after `n` were accepted with counter `vt` -/
theorem scan_cons_some (fs : List (String × String)) (kinds : List (String × List String)) (n : Node)
    {rest : List Node} {vt : List String} (hs : scan fs kinds rest = some vt) :
    scan fs kinds (n :: rest) =
      if n.filter = END then some vt
      else match fs.lookup n.filter with
        | none => none
        | some k =>
          if n.jumpIf.all (fun j => ((kinds.lookup k).getD []).contains j.1 && vt.count j.2 == 1)
          then some (n.name :: vt) else none := by
  rw [scan, hs]
  rfl

theorem nodeAt_nat (l : List Node) (k : Nat) (h : k < l.length) : nodeAt l (k : Int) = l[k] := by
  simp [nodeAt, h]

/-- the backward loop of `ValidateJumpIf`: after the nodes `k, k+1, …` were visited with `validTargets`
representing the model's multiset, the rest of the loop succeeds iff the model's scan of the whole flow
succeeds. -/
theorem validateJumpIf_regenerated_from_source_loop (kinds : List (String × List String)) (s : PSpec)
    (specs : List (String × String)) :
    ∀ (k : Nat) (m : List (String × Int)) (vt : List String), k ≤ s.flow.length →
      scan specs kinds (s.flow.drop k) = some vt → CtrRel m vt →
      okSum (validateJumpIfIR_loop1 kinds s specs m ((k : Int) - 1) k) = (scan specs kinds s.flow).isSome
  | 0, m, vt, _, hs, _ => by
    rw [List.drop_zero] at hs
    rw [validateJumpIfIR_loop1, hs]
    rfl
  | k + 1, m, vt, hk, hs, hm => by
    have hlt : k < s.flow.length := hk
    have hi : ((k + 1 : Nat) : Int) - 1 = k := by omega
    have hsc := scan_cons_some specs kinds s.flow[k] hs
    rw [List.getElem_cons_drop hlt] at hsc
    -- a node that is rejected makes the whole scan fail
    have hfail : scan specs kinds (s.flow.drop k) = none →
        okSum (Sum.inl false : Sum Bool (List (String × Int))) = (scan specs kinds s.flow).isSome :=
      fun h => by
        rw [← List.take_append_drop k s.flow, scan_none_of_suffix specs kinds _ _ h]
        rfl
    have ih := validateJumpIf_regenerated_from_source_loop kinds s specs k
    rw [validateJumpIfIR_loop1, hi, nodeAt_nat s.flow k hlt]
    by_cases hE : s.flow[k].filter = END
    · rw [if_pos hE] at hsc
      rw [if_pos (beq_iff_eq.mpr hE)]
      exact ih m vt (Nat.le_of_lt hlt) hsc hm
    · rw [if_neg hE] at hsc
      rw [if_neg (by simpa using hE)]
      cases hl : specs.lookup s.flow[k].filter with
      | none =>
        simp only [hl] at hsc
        exact hfail hsc
      | some kd =>
        simp only [hl] at hsc
        simp only [Option.isNone_some, Bool.false_eq_true, if_false, Option.getD_some]
        rw [validateJumpIf_regenerated_from_source_loop_inner kinds s specs m vt hm]
        split at hsc
        next hall =>
          rw [if_pos hall]
          exact ih _ _ (Nat.le_of_lt hlt) hsc (ctrRel_incr hm _)
        next hall =>
          rw [if_neg hall]
          exact hfail hsc

/-! ## `Spec.Validate` -/

theorem validate_regenerated_from_source_loop_filters (kinds : List (String × List String)) (s : PSpec)
    (resil : List Bool) (ep : String) :
    ∀ (l : List (String × String)) (specs : List (String × String)) (seen : List String),
      (∀ x, seen.contains x = (specs.lookup x).isSome) →
      validateIR_loop1 kinds s resil ep specs l =
        if validateFilters kinds l seen then .inr (l.reverse ++ specs) else .inl false
  | [], specs, seen, _ => by simp [validateIR_loop1, validateFilters]
  | f :: rest, specs, seen, hrel => by
    have hrel' : ∀ x, (f.1 :: seen).contains x = (((f.1, f.2) :: specs).lookup x).isSome := by
      intro x
      rw [List.contains_cons, List.lookup_cons, hrel x]
      cases x == f.1 <;> rfl
    rw [validateIR_loop1, validateFilters]
    dsimp only
    generalize (urlName f.1 && (kinds.lookup f.2).isSome) = a
    rw [isBuiltInFilter_regenerated_from_source,
      validate_regenerated_from_source_loop_filters kinds s resil ep rest ((f.1, f.2) :: specs) (f.1 :: seen) hrel',
      hrel f.1, List.reverse_cons, List.append_assoc]
    -- the translated tests come in the order of the model's conjunction
    cases a
    · rfl
    · by_cases h2 : f.1 = END
      · simp [h2]
      · cases (specs.lookup f.1).isSome
        · simp [h2]
        · simp [h2]

theorem validate_regenerated_from_source_loop_resil (kinds : List (String × List String)) (s : PSpec)
    (resil : List Bool) (ep : String) (specs : List (String × String)) :
    ∀ l : List Bool, validateIR_loop2 kinds s resil ep specs l = if l.all id then .inr () else .inl false
  | [] => by simp [validateIR_loop2]
  | r :: rest => by
    unfold validateIR_loop2
    cases r <;> simp [validate_regenerated_from_source_loop_resil kinds s resil ep specs rest]

theorem scan_congr_lookup (f1 f2 : List (String × String)) (kinds : List (String × List String))
    (h : ∀ x, f1.lookup x = f2.lookup x) : ∀ flow : List Node, scan f1 kinds flow = scan f2 kinds flow
  | [] => rfl
  | n :: rest => by simp only [scan, scan_congr_lookup f1 f2 kinds h rest, h]

theorem lookup_reverse_of_nodup : ∀ (l : List (String × String)), (l.map (·.1)).Nodup →
    ∀ x, l.reverse.lookup x = l.lookup x
  | [], _, _ => rfl
  | a :: t, hn, x => by
    simp only [List.map_cons, List.nodup_cons] at hn
    rw [List.reverse_cons, List.lookup_append, lookup_reverse_of_nodup t hn.2 x]
    by_cases e : x = a.1
    · subst e
      have : t.lookup a.1 = none := by
        rw [List.lookup_eq_none_iff]
        intro p hp
        have : p.1 ≠ a.1 := fun e => hn.1 (e ▸ List.mem_map_of_mem (f := (·.1)) hp)
        simpa using fun e => this e.symm
      simp [this, List.lookup]
    · have e' : (x == a.1) = false := by simpa using e
      simp [List.lookup, e']

/-- `Spec.Validate` = the model's `validate` and every resilience entry accepted. -/
theorem validate_regenerated_from_source (kinds : List (String × List String)) (s : PSpec) (resil : List Bool) :
    validateIR kinds s resil = (validate kinds s && resil.all id) := by
  unfold validateIR validate
  dsimp only
  rw [validate_regenerated_from_source_loop_filters kinds s resil "filters" s.filters [] [] (by simp)]
  by_cases hv : validateFilters kinds s.filters [] = true
  · have hn := ((validateFilters_iff kinds s.filters []).mp hv).2
    have hsc : scan s.filters.reverse kinds s.flow = scan s.filters kinds s.flow :=
      scan_congr_lookup _ _ kinds (lookup_reverse_of_nodup s.filters hn) s.flow
    simp only [hv, if_true, List.append_nil, hsc, validate_regenerated_from_source_loop_resil, Bool.true_and]
    cases (scan s.filters kinds s.flow).isSome <;> cases resil.all id <;> simp
  · have hv' : validateFilters kinds s.filters [] = false := by simpa using hv
    simp [hv']

end EgVerif.Pipeline
