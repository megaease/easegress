import EgVerif.Proofs.Topic
import EgVerif.Gen.FactsC14IR
/-!
# C14: the definitions regenerated from `findSubscribers`, `splitTopic` and `insert` equal the model

`Gen/FactsC14IR.lean` is produced on every run by `harness/factextract/facts_c14_ir.go` (irlib) from the bodies of
the functions of topic.go. `findSubscribers`: three nested loops (topic levels × frontier nodes × children of a
node) with the early exit on an empty frontier, and the final loop with the parent-level `#`; the generated
definition equals the model's `find` (after `split`) for ALL tries and topics. `splitTopic`: the rune loop over a
pre-sized slice with `Int` indices, tied to `splitLoop` character by character. `insert`: pointers read as path
cursors (`ptrSub`, `ptrUpd`; their lemmas are here and serve `remove` in `TopicRemoveIR.lean` too).
-/
namespace EgVerif.Topic
open EgVerif.Gen.FactsC14IR

theorem hash_lit : ("#").toList = hash := by decide
theorem plus_lit : ("+").toList = plus := by decide

theorem level_beq (a b : Level) : (a == b) = decide (a = b) :=
  Bool.eq_iff_iff.mpr (by rw [beq_iff_eq, decide_eq_true_iff])

/-! the loops of `findSubscribers`; `lv` and `err` are the results of `getLevels`, which the loops only carry -/
section
variable (t : Trie) (topic : List Char) (lv : List Level) (err : Bool)

theorem findSubscribers_regenerated_from_source_loop3 (cur : List Trie) (tl : Level) : ∀ (ch : List (Level × Trie)) (ans : List (Client × QoS)) (next : List Trie),
    findIR_loop3 t topic lv err ans cur next tl ch =
      .inr (ans ++ (ch.filter (fun p => decide (p.1 = hash))).flatMap (fun p => p.2.clients),
            next ++ (ch.filter (fun p => decide (p.1 ≠ hash) && (decide (p.1 = plus) || decide (p.1 = tl)))).map (·.2)) := by
  intro ch
  induction ch with
  | nil => intro ans next; simp only [findIR_loop3, List.filter_nil, List.flatMap_nil, List.map_nil, List.append_nil]
  | cons p r ih =>
    intro ans next
    obtain ⟨l, nd⟩ := p
    simp only [findIR_loop3, hash_lit, plus_lit, level_beq, List.filter_cons, decide_not, ih]
    cases decide (l = hash) <;> cases (decide (l = plus) || decide (l = tl)) <;> simp

theorem findSubscribers_regenerated_from_source_loop2 (cur : List Trie) (tl : Level) : ∀ (nodes : List Trie) (ans : List (Client × QoS)) (next : List Trie),
    findIR_loop2 t topic lv err ans cur next tl nodes =
      .inr (ans ++ hashHits nodes, next ++ nextNodes tl nodes) := by
  intro nodes
  induction nodes with
  | nil => intro ans next; simp [findIR_loop2, hashHits, nextNodes]
  | cons n r ih =>
    intro ans next
    simp only [findIR_loop2, findSubscribers_regenerated_from_source_loop3, ih]
    simp [hashHits, nextNodes, List.flatMap_cons, List.append_assoc]

theorem findSubscribers_regenerated_from_source_loop4 (cur : List Trie) : ∀ (nodes : List Trie) (ans : List (Client × QoS)),
    findIR_loop4 t topic lv err ans cur nodes = .inr (ans ++ endHits nodes) := by
  intro nodes
  induction nodes with
  | nil => intro ans; simp [findIR_loop4, endHits]
  | cons n r ih =>
    intro ans
    simp only [findIR_loop4, lookupChild, hash_lit, ih]
    cases hg : alGet hash n.children <;> simp [endHits, List.flatMap_cons, List.append_assoc, hg]

/-- what `findSubscribers` does after its level loop (the final loop over the frontier), applied to the loop's
result -/
def findTail :
    Sum (Option (List (Client × QoS))) (List (Client × QoS) × List Trie) → Option (List (Client × QoS))
  | .inl r => r
  | .inr (ans, cur) =>
    match findIR_loop4 t topic lv err ans cur cur with
    | .inl r => r
    | .inr ans => some ans

theorem findSubscribers_regenerated_from_source_loop1 :
    ∀ (ls : List Level) (ans : List (Client × QoS)) (cur : List Trie),
    findTail t topic lv err (findIR_loop1 t topic lv err ans cur ls) = some (ans ++ findLoop ls cur) := by
  intro ls
  induction ls with
  | nil => intro ans cur; rw [findIR_loop1, findTail, findSubscribers_regenerated_from_source_loop4]; rfl
  | cons tl rest ih =>
    intro ans cur
    rw [findIR_loop1, findSubscribers_regenerated_from_source_loop2, findLoop_cons, List.nil_append]
    cases hn : nextNodes tl cur with
    | nil => simp [findTail, findLoop_no_frontier]
    | cons a b =>
      have := ih (ans ++ hashHits cur) (a :: b)
      rw [List.append_assoc] at this
      exact this

end

/-- **`TopicManager.findSubscribers`** (frontier walk, `#` children at every level, early exit on an empty
frontier, parent-level `#` at the end): the generated definition returns, for a well-formed topic, exactly
the model's `find` hits in the model's order, and `none` for a malformed topic. -/
theorem findSubscribers_regenerated_from_source (t : Trie) (topic : List Char) :
    findIR t topic = (split topic).map (find t) := by
  unfold findIR getLevelsE
  cases hs : split topic with
  | none => rfl
  | some lv => exact findSubscribers_regenerated_from_source_loop1 t topic lv false lv [] [t]

/-- what `splitTopic` does after its loop (the last level), applied to the loop's result -/
def splitTail (topic : List Char) : Sum (Option (List Level)) (List Level × Int × Int × Bool) → Option (List Level)
  | .inl r => r
  | .inr (levels, loc, ls, fl) =>
    let level : List Char := topic.drop ls.toNat
    if (decide ((level.length : Int) > 1) && fl) then none else some (levels.set loc.toNat level)

theorem set_pad (acc : List Level) (x : Level) (n : Nat) :
    (acc ++ List.replicate (n + 1) ([] : Level)).set acc.length x = (acc ++ [x]) ++ List.replicate n [] := by
  induction acc with
  | nil => simp [List.replicate_succ]
  | cons a r ih => simp [ih]

theorem countSlash_cons_slash (r : List Char) : countSlash ('/' :: r) = countSlash r + 1 := by
  simp [countSlash]

theorem countSlash_cons_other (c : Char) (r : List Char) (h : c ≠ '/') : countSlash (c :: r) = countSlash r := by
  simp [countSlash, h]

/-! what the translated rune loop does on each kind of character -/
section
variable (topic : List Char) (lv : List Level) (loc st : Int) (fl : Bool) (i : Int) (rest : List Char)

theorem splitIR_loop1_slash :
    splitIR_loop1 topic lv loc st fl i ('/' :: rest) =
      if decide (((((topic.drop st.toNat).take (i - st).toNat).length : Nat) : Int) > 1) && fl then .inl none
      else splitIR_loop1 topic (lv.set loc.toNat ((topic.drop st.toNat).take (i - st).toNat)) (loc + 1) (i + 1)
        false (i + 1) rest := by
  simp only [splitIR_loop1, beq_self_eq_true, if_true]

theorem splitIR_loop1_cons {ch : Char} (h : ch ≠ '/') :
    splitIR_loop1 topic lv loc st fl i (ch :: rest) =
      if ch = '#' ∧ (i != (topic.length : Int) - 1) = true then .inl none
      else splitIR_loop1 topic lv loc st (fl || decide (ch = '+' ∨ ch = '#')) (i + 1) rest := by
  by_cases h2 : ch = '+'
  · subst h2; simp [splitIR_loop1]
  · by_cases h3 : ch = '#'
    · subst h3
      by_cases hi : (i != (topic.length : Int) - 1) = true <;> simp [splitIR_loop1, hi]
    · simp [splitIR_loop1, h, h2, h3]
end

theorem decide_natCast_gt_one (n : Nat) : decide ((n : Int) > 1) = decide (n > 1) := by
  simp only [decide_eq_decide]; omega

/-- loop invariant of `splitTopic`: `done` = the characters before `levelStart`, `cur` = `topic[levelStart:i]`,
`acc` = the levels stored so far, the rest of the pre-sized slice is still empty. -/
theorem splitTopic_regenerated_from_source_loop (topic : List Char) :
    ∀ (rest done cur : List Char) (acc : List Level) (flag : Bool),
    topic = done ++ cur ++ rest →
    splitTail topic (splitIR_loop1 topic (acc ++ List.replicate (countSlash rest + 1) ([] : Level))
      ((acc.length : Nat) : Int) ((done.length : Nat) : Int) flag (((done.length + cur.length : Nat)) : Int) rest) =
      splitLoop rest cur flag acc := by
  intro rest
  induction rest with
  | nil =>
    intro done cur acc flag ht
    have hd : topic.drop done.length = cur := by rw [ht, List.append_nil, List.drop_left]
    rw [splitLoop_nil, splitIR_loop1, splitTail]
    simp only [Int.toNat_natCast, hd, decide_natCast_gt_one]
    rw [show countSlash [] + 1 = 0 + 1 from rfl, set_pad, List.replicate_zero, List.append_nil]
  | cons ch r ih =>
    intro done cur acc flag ht
    by_cases h47 : ch = '/'
    · subst h47
      have hlev : (topic.drop done.length).take (done.length + cur.length - done.length) = cur := by
        rw [ht, Nat.add_sub_cancel_left, List.append_assoc, List.drop_left, List.take_left]
      have := ih (done ++ cur ++ ['/']) [] (acc ++ [cur]) false (by rw [ht]; simp only [List.append_assoc, List.cons_append, List.nil_append])
      simp only [List.length_append, List.length_singleton, List.length_nil, Nat.add_zero, Int.natCast_succ] at this
      rw [splitLoop_slash, splitIR_loop1_slash, ← Int.natCast_sub (Nat.le_add_right _ _)]
      simp only [Int.toNat_natCast, hlev, decide_natCast_gt_one]
      split
      · rfl
      · rw [countSlash_cons_slash, set_pad]
        exact this
    · have step := ih done (cur ++ [ch]) acc (flag || decide (ch = '+' ∨ ch = '#'))
        (by rw [ht]; simp only [List.append_assoc, List.cons_append, List.nil_append])
      rw [List.length_append, List.length_singleton, ← Nat.add_assoc, Int.natCast_succ] at step
      have hlen : topic.length = done.length + cur.length + (r.length + 1) := by
        rw [ht, List.length_append, List.length_append, List.length_cons]
      -- the `#` is the last character iff nothing follows it
      have hlast : ((((done.length + cur.length : Nat)) : Int) != ((topic.length : Nat) : Int) - 1) = true ↔ r ≠ [] := by
        rw [hlen, bne_iff_ne, ← List.length_pos_iff]
        omega
      rw [splitLoop_cons h47, splitIR_loop1_cons _ _ _ _ _ _ _ h47, countSlash_cons_other ch r h47]
      simp only [hlast]
      split
      · rfl
      · exact step

/-- **`splitTopic`** (rune loop, `wildCardFlag`, `#` only as the last character, pre-sized `levels`): the
generated definition equals the model's `split` on every string. -/
theorem splitTopic_regenerated_from_source (topic : List Char) : splitIR topic = split topic :=
  -- `splitIR topic` unfolds to `splitTail topic` of the loop started with nothing read and nothing stored
  splitTopic_regenerated_from_source_loop topic topic [] [] [] false rfl

theorem ptrSub_append (b : List Level) : ∀ (a : List Level) (t : Trie),
    ptrSub (a ++ b) t = (ptrSub a t).bind (ptrSub b) := by
  intro a
  induction a with
  | nil => intro t; rfl
  | cons x r ih =>
    intro t
    cases t with
    | node cl ch =>
      simp only [List.cons_append, ptrSub]
      cases alGet x ch with
      | none => rfl
      | some c => exact ih c

theorem ptrUpd_append (b : List Level) (f : Trie → Trie) : ∀ (a : List Level) (t : Trie),
    ptrUpd (a ++ b) f t = ptrUpd a (ptrUpd b f) t := by
  intro a
  induction a with
  | nil => intro t; rfl
  | cons x r ih =>
    intro t
    cases t with
    | node cl ch =>
      simp only [List.cons_append, ptrUpd]
      cases alGet x ch with
      | none => rfl
      | some c => simp only [ih c]

theorem ptrSub_snoc (l : Level) {p : List Level} {t n : Trie} (h : ptrSub p t = some n) :
    ptrSub (p ++ [l]) t = alGet l n.children := by
  rw [ptrSub_append, h]
  cases n with
  | node cl ch =>
    simp only [Option.bind_some, ptrSub, Trie.children]
    cases alGet l ch <;> rfl

theorem ptrUpd_congr {f g : Trie → Trie} : ∀ {p : List Level} {t n : Trie},
    ptrSub p t = some n → f n = g n → ptrUpd p f t = ptrUpd p g t := by
  intro p
  induction p with
  | nil => intro t n h e; cases h; exact e
  | cons a r ih =>
    intro t n h e
    cases t with
    | node cl ch =>
      simp only [ptrSub] at h
      simp only [ptrUpd]
      cases hg : alGet a ch with
      | none => rfl
      | some c =>
        rw [hg] at h
        simp only [ih h e]

theorem ptrUpd_ptrUpd (h k : Trie → Trie) : ∀ (p : List Level) (t : Trie),
    ptrUpd p h (ptrUpd p k t) = ptrUpd p (fun n => h (k n)) t := by
  intro p
  induction p with
  | nil => intro t; rfl
  | cons a r ih =>
    intro t
    cases t with
    | node cl ch =>
      simp only [ptrUpd]
      cases hg : alGet a ch with
      | none => simp only [ptrUpd, hg]
      | some c => simp only [ptrUpd, alGet_alSet_self, alSet_alSet_same, ih]

theorem ptrSub_ptrUpd (k : Trie → Trie) : ∀ {p : List Level} {t n : Trie}, ptrSub p t = some n →
    ptrSub p (ptrUpd p k t) = some (k n) := by
  intro p
  induction p with
  | nil => intro t n h; cases h; rfl
  | cons a r ih =>
    intro t n h
    cases t with
    | node cl ch =>
      simp only [ptrSub] at h
      simp only [ptrUpd]
      cases hg : alGet a ch with
      | none => rw [hg] at h; cases h
      | some c =>
        rw [hg] at h
        simp only [ptrSub, alGet_alSet_self, ih h]

theorem ptrUpd_single {l : Level} {n ch : Trie} (f : Trie → Trie) (hg : alGet l n.children = some ch) :
    ptrUpd [l] f n = .node n.clients (alSet l (f ch) n.children) := by
  cases n with
  | node cl chn =>
    simp only [ptrUpd, Trie.children] at hg ⊢
    rw [hg]; rfl

/-- Loop invariant: the cursor is a valid path `p` into `root`. The loop never returns early, it leaves the
cursor on a valid path of the new trie, and setting the client there is the model's `insert` applied at `p`. -/
theorem insert_regenerated_from_source_loop (t0 : Trie) (topic : List Char) (q : QoS) (c : Client)
    (lv : List Level) (err : Bool) :
    ∀ (ls : List Level) (root : Trie) (p : List Level) (fr : Bool) (nn : Ptr) (ok : Bool) (n : Trie),
    ptrSub p root = some n →
    ∃ root' node' nn' ok',
      insertIR_loop1 t0 topic q c root lv err ⟨p, fr⟩ nn ok ls = .inr (root', node', nn', ok') ∧
      (ptrSub node'.path root').isSome = true ∧
      setClientPtr root' node' c q = ptrUpd p (insert ls c q) root := by
  intro ls
  induction ls with
  | nil =>
    intro root p fr nn ok n h
    refine ⟨root, ⟨p, fr⟩, nn, ok, rfl, by rw [h]; rfl, ptrUpd_congr h ?_⟩
    rw [insert_nil]
  | cons l ls ih =>
    intro root p fr nn ok n h
    simp only [insertIR_loop1, childPtr, h]
    cases hg : alGet l n.children with
    | some ch =>
      obtain ⟨root', node', nn', ok', e, hv, hs⟩ :=
        ih root (p ++ [l]) false ⟨p ++ [l], false⟩ true ch (by rw [ptrSub_snoc l h, hg])
      refine ⟨root', node', nn', ok', e, hv, ?_⟩
      rw [hs, ptrUpd_append]
      apply ptrUpd_congr h
      rw [ptrUpd_single _ hg, insert_cons, childD, hg]
      rfl
    | none =>
      have hk := ptrSub_ptrUpd (fun n' => Trie.node n'.clients (alSet l Trie.empty n'.children)) h
      obtain ⟨root', node', nn', ok', e, hv, hs⟩ :=
        ih _ (p ++ [l]) false ⟨p ++ [l], false⟩ false Trie.empty
          (by rw [ptrSub_snoc l hk]; exact alGet_alSet_self l _ _)
      refine ⟨root', node', nn', ok', e, hv, ?_⟩
      rw [hs, ptrUpd_append, ptrUpd_ptrUpd]
      apply ptrUpd_congr h
      rw [ptrUpd_single _ (alGet_alSet_self l Trie.empty n.children), insert_cons, childD, hg]
      exact congrArg _ (alSet_alSet_same ..)

/-- **`TopicManager.insert`** (walk / create a child per level through a mutable cursor, then
`node.clients[clientID] = qos`): with pointers read as path cursors, the generated definition equals the
model's recursive `insert` on every trie, topic, QoS and client. -/
theorem insert_regenerated_from_source (t : Trie) (topic : List Char) (q : QoS) (c : Client) :
    insertIR t topic q c = (split topic).map (fun ls => insert ls c q t) := by
  unfold insertIR getLevelsE
  cases hs : split topic with
  | none => rfl
  | some lv =>
    obtain ⟨root', node', nn', ok', e, _, h⟩ :=
      insert_regenerated_from_source_loop t topic q c lv false lv t [] false ⟨[], false⟩ false t rfl
    simp only [Bool.false_eq_true, if_false, e, h]
    rfl

end EgVerif.Topic
