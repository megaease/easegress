import EgVerif.Model.HotUpdate
import EgVerif.Gen.FactsC11IR
/-!
Regenerated tie by translation for C11 (`notes/IR.md`): `Gen.FactsC11IR.muxReloadIR` and
`runtimeReloadIR` are produced on every run by the go/ast micro-translator
(`harness/factextract/irlib.go`, spec in `facts_c11_ir.go`) from the current bodies of `mux.reload`
(`pkg/object/httpserver/mux.go`) and `runtime.reload` (`pkg/object/httpserver/runtime.go`); they are
proved equal to `Model/HotUpdate.lean`'s `muxReload` / `runtimeReload` for all inputs and oracles.
A changed comparison, a field of the new instance taken from somewhere else, a second `Store`, a
`Store` before the rules are built, a swapped start/close order … changes the generated definition
and breaks the corresponding proof.
-/
namespace EgVerif.HotUpdate
open EgVerif.Gen.FactsC11IR

private theorem set_mid {α : Type} (a : List α) (x y : α) (b : List α) :
    (a ++ x :: b).set a.length y = a ++ y :: b := by
  induction a with
  | nil => rfl
  | cons h t ih => simp [ih]

private theorem getD_mid {α : Type} (a : List α) (x d : α) (b : List α) :
    (a ++ x :: b).getD a.length d = x := by
  induction a with
  | nil => rfl
  | cons h t ih => simp [List.getD] at ih ⊢

/-- Both loops of `mux.reload` fill a slice allocated with `make` slot by slot, `arr[j] = f xs[j]`:
when the first `done.length` slots hold `f` of `done` the loop fills the rest, i.e. it computes a
`map` over `xs`. -/
private theorem fill_loop {α β γ : Type} (f : α → β) (d : α) (xs : List α)
    (loop : List (Option β) → Nat → Nat → Sum γ (List (Option β)))
    (h0 : ∀ arr j, loop arr j 0 = .inr arr)
    (hs : ∀ arr j n, loop arr j (n + 1) = loop (arr.set j (some (f (xs.getD j d)))) (j + 1) n) :
    ∀ rest done, xs = done ++ rest →
      loop (done.map (fun a => some (f a)) ++ List.replicate rest.length none) done.length rest.length =
        .inr (xs.map fun a => some (f a)) := by
  intro rest
  induction rest with
  | nil => intro done h; simp [h0, h]
  | cons x rest ih =>
    intro done h
    have hg : xs.getD done.length d = x := by rw [h]; exact getD_mid done x d rest
    have hset := set_mid (done.map fun a => some (f a)) none (some (f x)) (List.replicate rest.length none)
    rw [List.length_map] at hset
    rw [List.length_cons, hs, hg, List.replicate_succ, hset]
    simpa using ih (done ++ [x]) (by rw [h, List.append_assoc]; rfl)

section loops
/- What both loop functions are closed over: the parameters of `mux.reload`, the fields of the
instance under construction (`i1 … i10`), and the locals live at the loops. -/
variable (newTracer : Option Nat → Option Nat × Bool) (newARC : Nat → Option Nat × Bool) (m : MuxShared)
  (old : MuxInst) (superSpec muxMapper i1 : Nat) (i2 : SrvSpec) (i3 i4 i5 : Nat) (i6 i9 i10 : Option Nat)
  (eff : List MuxEffect) (spec : SrvSpec) (tracer : Option Nat) (oldInst : MuxInst)

/-- inner loop of `mux.reload` (`paths[j] = newMuxPath(ruleIPFilterChain, specRule.Paths[j])`). -/
theorem muxReload_regenerated_from_source_loop2 (i7 : List Nat) (i8 : List (Option BuiltRule))
    (specRule : SpecRule) (chain : List Nat) :
    muxReloadIR_loop2 newTracer newARC m old superSpec spec muxMapper i1 i2 i3 i4 i5 i6 i7 i8 i9 i10 eff spec tracer
        oldInst specRule chain (List.replicate specRule.paths.length none) 0 specRule.paths.length
      = .inr (specRule.paths.map fun p => some ⟨chain, p⟩) :=
  fill_loop (BuiltPath.mk chain) 0 specRule.paths
    (muxReloadIR_loop2 newTracer newARC m old superSpec spec muxMapper i1 i2 i3 i4 i5 i6 i7 i8 i9 i10 eff spec tracer
      oldInst specRule chain)
    (fun _ _ => rfl) (fun _ _ _ => rfl) specRule.paths [] rfl

/-- outer loop of `mux.reload` (`inst.rules[i] = newMuxRule(inst.ipFilterChan, specRule, paths)`). -/
theorem muxReload_regenerated_from_source_loop1 (top : List Nat) :
    muxReloadIR_loop1 newTracer newARC m old superSpec spec muxMapper i1 i2 i3 i4 i5 i6 top
        (List.replicate spec.rules.length none) i9 i10 eff spec tracer oldInst 0 spec.rules.length
      = .inr (spec.rules.map fun r => some (buildRule top r)) :=
  fill_loop (buildRule top) ⟨none, [], 0⟩ spec.rules
    (fun arr i n => muxReloadIR_loop1 newTracer newARC m old superSpec spec muxMapper i1 i2 i3 i4 i5 i6 top
      arr i9 i10 eff spec tracer oldInst i n)
    (fun _ _ => rfl)
    (fun arr i n => by
      simp only [muxReloadIR_loop1, List.length_replicate, Nat.sub_zero]
      rw [muxReload_regenerated_from_source_loop2]
      rfl)
    spec.rules [] rfl

end loops

theorem muxReload_regenerated_from_source
    (newTracer : Option Nat → Option Nat × Bool) (newARC : Nat → Option Nat × Bool) (m : MuxShared) (old : MuxInst)
    (superSpec : Nat) (spec : SrvSpec) (muxMapper : Nat) :
    muxReloadIR newTracer newARC m old superSpec spec muxMapper = muxReload newTracer newARC m old superSpec spec muxMapper := by
  unfold muxReloadIR
  simp only [List.length_replicate, Nat.sub_zero]
  rw [muxReload_regenerated_from_source_loop1]
  simp only [muxReload, buildInstance, reloadTracer, List.nil_append]
  congr 3
  · by_cases ht : old.spec.tracing = spec.tracing
    · cases old.tracer <;> simp [ht]
    · cases (newTracer spec.tracing).2 <;> simp [ht]
  · by_cases hc : spec.cacheSize > 0 <;> simp [hc]

theorem runtimeReload_regenerated_from_source (r : Runtime) (nextSuperSpec : Nat) (nextSpec : Option SrvSpec) (muxMapper : Nat) :
    runtimeReloadIR r nextSuperSpec nextSpec muxMapper = runtimeReload r nextSuperSpec nextSpec muxMapper := by
  obtain ⟨ss, cur, hl⟩ := r
  cases cur with
  | none => cases nextSpec <;> cases hl <;> rfl
  | some c =>
    cases nextSpec with
    | none => cases hl <;> rfl
    | some n =>
      -- both specs present: the only thing left open is the comparison outside the hot fields
      simp only [runtimeReloadIR, runtimeReload, runtimeReloadDecision, needRestartOpt]
      cases needRestart c n <;> cases hl <;> rfl

end EgVerif.HotUpdate
