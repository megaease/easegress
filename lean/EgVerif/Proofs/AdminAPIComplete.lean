import EgVerif.Proofs.AdminAPI
/-!
# C18 — completeness of the judge's `checkHistory`

`checkHistory_sound` (Props/C18) shows that an accepted history is a sequential execution. Here the converse:
the observation of **any sequential execution of the model** (`obsSeq`: the requests in log order, each with the
status and version `apply` returns, request `j` stamped `(2j+1, 2j+2)`) passes every field of `checkHistory`.
With `handlers_atomic` / `admin_mutations_serialized_under_mutex` (every concurrent run's log is such a sequential
execution) the executable spec of the api judge is connected to the theorems in both directions.

The successes of such an observation are exactly the served requests (`obs_success`), already in version order
(`sortByVer_obsSeq`), so the judge replays them as they were executed. A rejected mutation (409 / 404 / 400) is
justified at the position "number of successes before it": that position lies inside the operation's real-time
window (`window_split`) and the replayed state there is the state the request really saw (`replay_at_prefix`).
-/
namespace EgVerif.AdminAPI

/-- what the harness observes of the sequential execution of `rs` from `e`: request `j` stamped `(2j+1, 2j+2)` -/
def obsSeq : Etcd → Nat → List Req → List Op
  | _, _, [] => []
  | e, i, r :: rs =>
    ⟨.mut r, (apply e r).2.status, (apply e r).2.version, 2 * i + 1, 2 * i + 2⟩ :: obsSeq (apply e r).1 (i + 1) rs

theorem okStatus_cases (r : Req) : okStatus r = 200 ∨ okStatus r = 201 := by
  cases r <;> simp [okStatus]

/-- every observed operation is the observation of some request in the state its predecessors lead to -/
theorem mem_obsSeq : ∀ (rs : List Req) (e : Etcd) (i : Nat) (o : Op), o ∈ obsSeq e i rs →
    ∃ rs1 r rs2, rs = rs1 ++ r :: rs2 ∧
      o = ⟨.mut r, (apply (runSeq e rs1).1 r).2.status, (apply (runSeq e rs1).1 r).2.version,
        2 * (i + rs1.length) + 1, 2 * (i + rs1.length) + 2⟩
  | [], _, _, _, h => by simp [obsSeq] at h
  | r :: rs, e, i, o, h => by
    simp only [obsSeq, List.mem_cons] at h
    rcases h with rfl | h
    · exact ⟨[], r, rs, rfl, by simp [runSeq]⟩
    · obtain ⟨rs1, r', rs2, h1, h2⟩ := mem_obsSeq rs (apply e r).1 (i + 1) o h
      refine ⟨r :: rs1, r', rs2, by simp [h1], ?_⟩
      have : i + 1 + rs1.length = i + (rs1.length + 1) := by omega
      simpa [runSeq, this] using h2

theorem obsSeq_all_mut (rs : List Req) (e : Etcd) (i : Nat) : ∀ o ∈ obsSeq e i rs, ∃ r, o.kind = .mut r := by
  intro o ho
  obtain ⟨_, r, _, _, rfl⟩ := mem_obsSeq rs e i o ho
  exact ⟨r, rfl⟩

theorem obsSeq_stamps (rs : List Req) (e : Etcd) (i : Nat) :
    ∀ o ∈ obsSeq e i rs, 2 * i + 1 ≤ o.t0 ∧ o.t1 = o.t0 + 1 := by
  intro o ho
  obtain ⟨_, _, _, _, rfl⟩ := mem_obsSeq rs e i o ho
  refine ⟨?_, rfl⟩
  simp only
  omega

theorem obs_success (e : Etcd) (r : Req) (a b : Nat) :
    Op.success ⟨.mut r, (apply e r).2.status, (apply e r).2.version, a, b⟩ = (apply e r).2.version.isSome := by
  simp only [Op.success, Op.isMut, Bool.true_and]
  rcases apply_cases e r with ⟨hv, _, hs⟩ | ⟨hv, _, _, hs⟩
  · rw [hv]; rcases hs with h | h | h <;> simp [h]
  · rw [hv, hs]; rcases okStatus_cases r with h | h <;> simp [h]

theorem succ_rejected {e : Etcd} {r : Req} (hv : (apply e r).2.version = none) (i : Nat) (rs : List Req) :
    (obsSeq e i (r :: rs)).filter Op.success = (obsSeq (apply e r).1 (i + 1) rs).filter Op.success := by
  rw [obsSeq, List.filter_cons, obs_success, hv]; rfl

theorem succ_served {e : Etcd} {r : Req} {v : Nat} (hv : (apply e r).2.version = some v) (i : Nat) (rs : List Req) :
    (obsSeq e i (r :: rs)).filter Op.success =
      ⟨.mut r, (apply e r).2.status, some v, 2 * i + 1, 2 * i + 2⟩ ::
        (obsSeq (apply e r).1 (i + 1) rs).filter Op.success := by
  rw [obsSeq, List.filter_cons, obs_success, hv]; rfl

theorem obsSeq_versions : ∀ (rs : List Req) (e : Etcd) (i : Nat),
    ((obsSeq e i rs).filter Op.success).all (·.ver.isSome) = true ∧
    ((obsSeq e i rs).filter Op.success).map (·.ver.getD 0) =
      List.range' (e.version + 1) ((obsSeq e i rs).filter Op.success).length
  | [], e, i => by simp [obsSeq]
  | r :: rs, e, i => by
    obtain ⟨ih1, ih2⟩ := obsSeq_versions rs (apply e r).1 (i + 1)
    rcases apply_cases e r with ⟨hv, hst, _⟩ | ⟨hv, hver, _, _⟩
    · rw [succ_rejected hv]
      rw [hst] at ih1 ih2 ⊢
      exact ⟨ih1, ih2⟩
    · rw [succ_served hv]
      constructor
      · simp only [List.all_cons, Option.isSome_some, Bool.true_and]; exact ih1
      · simp only [List.map_cons, List.length_cons, Option.getD_some, ih2, hver, List.range'_succ]

/-- Replaying the successes of a sequential observation retraces the execution: one state per success, every
step matches, and whatever follows (`l2`) is replayed from the state the execution ended in. The tail `l2` is what
lets `replay_at_prefix` read off the state in the middle of a longer replay. -/
theorem replay_obs : ∀ (rs : List Req) (e : Etcd) (i : Nat) (l2 : List Op),
    ∃ pre : List Etcd, pre.length = ((obsSeq e i rs).filter Op.success).length ∧
      replay apply e ((obsSeq e i rs).filter Op.success ++ l2) =
        (pre ++ (replay apply (runSeq e rs).1 l2).1, (replay apply (runSeq e rs).1 l2).2)
  | [], _, _, _ => ⟨[], rfl, rfl⟩
  | r :: rs, e, i, l2 => by
    obtain ⟨pre, hl, hr⟩ := replay_obs rs (apply e r).1 (i + 1) l2
    rcases apply_cases e r with ⟨hv, hst, _⟩ | ⟨hv, _, _, _⟩
    · -- rejected: not a success, state unchanged
      rw [succ_rejected hv]
      simp only [runSeq]
      rw [hst] at hl hr ⊢
      exact ⟨pre, hl, hr⟩
    · rw [succ_served hv]
      refine ⟨e :: pre, by rw [List.length_cons, List.length_cons, hl], ?_⟩
      simp only [runSeq, List.cons_append, replay, hv, beq_self_eq_true, Bool.true_and, hr]

theorem insertByVer_le (o x : Op) (xs : List Op) (h : o.ver.getD 0 ≤ x.ver.getD 0) :
    insertByVer o (x :: xs) = o :: x :: xs := by simp [insertByVer, h]

theorem sortByVer_of_sorted : ∀ (l : List Op), (l.map (·.ver.getD 0)).Pairwise (· ≤ ·) → sortByVer l = l
  | [], _ => rfl
  | [x], _ => rfl
  | x :: y :: r, h => by
    have h' : ((y :: r).map (·.ver.getD 0)).Pairwise (· ≤ ·) := (List.pairwise_cons.mp h).2
    have ih := sortByVer_of_sorted (y :: r) h'
    have hxy : x.ver.getD 0 ≤ y.ver.getD 0 := (List.pairwise_cons.mp h).1 _ (by simp)
    have : sortByVer (x :: y :: r) = insertByVer x (sortByVer (y :: r)) := rfl
    rw [this, ih, insertByVer_le x y r hxy]

theorem sortByVer_obsSeq (e : Etcd) (i : Nat) (rs : List Req) :
    sortByVer ((obsSeq e i rs).filter Op.success) = (obsSeq e i rs).filter Op.success := by
  apply sortByVer_of_sorted
  rw [(obsSeq_versions rs e i).2]
  exact (List.pairwise_lt_range' (s := _) (n := _) (step := 1) (pos := Nat.one_pos)).imp (fun h => Nat.le_of_lt h)

/-- Completeness for the fields `checkHistory_sound` (Props/C18) uses: the observation of the sequential execution
of any request list from any initial content, with the final listing `fs` (equal to the resulting store as a map)
and the resulting version, passes `haveVersions`, `gapFree`, `enabled`, `finalStore`, `finalVersion`; it contains
`(runSeq e0 rs).2.filter Resp.ok`-many successes. -/
theorem checkHistory_complete (e0 : Etcd) (rs : List Req) (fs : Store)
    (hfs : storeEq (runSeq e0 rs).1.store fs = true) :
    let hc := checkHistory apply e0 (obsSeq e0 0 rs) fs (runSeq e0 rs).1.version
    hc.haveVersions = true ∧ hc.gapFree = true ∧ hc.enabled = true ∧ hc.finalStore = true ∧
      hc.finalVersion = true := by
  obtain ⟨h1, h2⟩ := obsSeq_versions rs e0 0
  obtain ⟨pre, _, hr⟩ := replay_obs rs e0 0 []
  rw [List.append_nil] at hr
  have hlast : (pre ++ [(runSeq e0 rs).1]).getLast? = some (runSeq e0 rs).1 := by simp
  simp only [checkHistory, sortByVer_obsSeq, hr, replay, hlast, Option.getD_some]
  refine ⟨h1, ?_, trivial, hfs, by simp⟩
  rw [h2, List.range'_eq_map_range]
  simp only [beq_iff_eq]
  apply List.map_congr_left
  intro a _; omega

theorem obsSeq_pairwise : ∀ (rs : List Req) (e : Etcd) (i : Nat),
    (obsSeq e i rs).Pairwise (fun a b => a.t0 < b.t0 ∧ b.t1 = b.t0 + 1)
  | [], _, _ => by simp [obsSeq]
  | r :: rs, e, i => by
    simp only [obsSeq, List.pairwise_cons]
    refine ⟨?_, obsSeq_pairwise rs _ _⟩
    intro o ho
    have := obsSeq_stamps rs (apply e r).1 (i + 1) o ho
    omega

/-- The conclusion is the `realTime` term of `checkHistory`, literally, with `l` for the sorted successes. -/
theorem realTime_of_pairwise (l : List Op) (h : l.Pairwise (fun a b => a.t0 < b.t0 ∧ b.t1 = b.t0 + 1)) :
    (l.zipIdx.all fun (a : Op × Nat) => l.zipIdx.all fun (b : Op × Nat) => !(decide (a.2 < b.2) && decide (b.1.t1 < a.1.t0))) = true := by
  simp only [List.all_eq_true]
  rintro ⟨a, ia⟩ ha ⟨b, ib⟩ hb
  rw [List.mem_zipIdx_iff_getElem?] at ha hb
  simp only [Bool.not_eq_true', Bool.and_eq_false_imp, decide_eq_true_eq, decide_eq_false_iff_not]
  intro hlt
  simp only at ha hb
  obtain ⟨hia, ea⟩ := List.getElem?_eq_some_iff.mp ha
  obtain ⟨hib, eb⟩ := List.getElem?_eq_some_iff.mp hb
  have := (List.pairwise_iff_getElem.mp h) ia ib hia hib hlt
  rw [ea, eb] at this
  omega

theorem checkHistory_complete_realTime (e0 : Etcd) (rs : List Req) (fs : Store) (fv : Nat) :
    (checkHistory apply e0 (obsSeq e0 0 rs) fs fv).realTime = true := by
  simp only [checkHistory, sortByVer_obsSeq]
  exact realTime_of_pairwise _ ((obsSeq_pairwise rs e0 0).sublist List.filter_sublist)

theorem foldl_max_le {P : Op × Nat → Prop} [DecidablePred P] (c : Nat) :
    ∀ (idx : List (Op × Nat)) (acc : Nat), acc ≤ c → (∀ p ∈ idx, P p → p.2 + 1 ≤ c) →
      idx.foldl (fun acc p => if P p then max acc (p.2 + 1) else acc) acc ≤ c
  | [], acc, h, _ => by simpa using h
  | p :: ps, acc, h, hp => by
    simp only [List.foldl_cons]
    apply foldl_max_le c ps
    · split
      · rename_i hP
        have := hp p (by simp) hP
        omega
      · exact h
    · intro q hq; exact hp q (by simp [hq])

theorem le_foldl_min {P : Op × Nat → Prop} [DecidablePred P] (c : Nat) :
    ∀ (idx : List (Op × Nat)) (acc : Nat), c ≤ acc → (∀ p ∈ idx, P p → c ≤ p.2) →
      c ≤ idx.foldl (fun acc p => if P p then min acc p.2 else acc) acc
  | [], acc, h, _ => by simpa using h
  | p :: ps, acc, h, hp => by
    simp only [List.foldl_cons]
    apply le_foldl_min c ps
    · split
      · rename_i hP
        have := hp p (by simp) hP
        omega
      · exact h
    · intro q hq; exact hp q (by simp [hq])

theorem existsIn_of (lo hi c : Nat) (states : List Etcd) (p : Etcd → Bool) (e : Etcd)
    (h1 : lo ≤ c) (h2 : c ≤ hi) (hs : states[c]? = some e) (hp : p e = true) : existsIn lo hi states p = true := by
  simp only [existsIn, List.any_eq_true]
  exact ⟨(e, c), List.mem_zipIdx_iff_getElem?.mpr hs, by simp [h1, h2, hp]⟩

/-- If no operation of `A` starts after `o` has ended and no operation of `B` ends before `o` starts, the position
between them lies in `o`'s real-time window. -/
theorem window_split (A B : List Op) (o : Op) (hA : ∀ x ∈ A, x.t0 ≤ o.t1) (hB : ∀ x ∈ B, o.t0 ≤ x.t1) :
    (window (A ++ B) o).1 ≤ A.length ∧ A.length ≤ (window (A ++ B) o).2 := by
  constructor
  · apply foldl_max_le _ _ _ (Nat.zero_le _)
    rintro ⟨x, k⟩ hx hlt
    rw [List.mem_zipIdx_iff_getElem?] at hx
    simp only at hx hlt ⊢
    by_cases hk : k < A.length
    · omega
    · rw [List.getElem?_append_right (by omega)] at hx
      have := hB x (List.mem_of_getElem? hx)
      omega
  · apply le_foldl_min _ _ _ (by simp)
    rintro ⟨x, k⟩ hx hlt
    rw [List.mem_zipIdx_iff_getElem?] at hx
    simp only at hx hlt ⊢
    by_cases hk : k < A.length
    · rw [List.getElem?_append_left hk] at hx
      have := hA x (List.mem_of_getElem? hx)
      omega
    · omega

theorem obsSeq_append : ∀ (rs1 : List Req) (e : Etcd) (i : Nat) (rs2 : List Req),
    obsSeq e i (rs1 ++ rs2) = obsSeq e i rs1 ++ obsSeq (runSeq e rs1).1 (i + rs1.length) rs2
  | [], e, i, rs2 => by simp [obsSeq, runSeq]
  | r :: rs1, e, i, rs2 => by
    have : i + 1 + rs1.length = i + (rs1.length + 1) := by omega
    simp only [List.cons_append, obsSeq, runSeq, List.length_cons, obsSeq_append rs1, this]

theorem replay_head : ∀ (l : List Op) (e : Etcd), (replay apply e l).1[0]? = some e
  | [], e => by simp [replay]
  | o :: os, e => by
    unfold replay
    split <;> rfl

/-- the replayed state at position "number of successes of the prefix" is the state after the prefix -/
theorem replay_at_prefix : ∀ (rs1 : List Req) (e : Etcd) (i : Nat) (l2 : List Op),
    (replay apply e ((obsSeq e i rs1).filter Op.success ++ l2)).1[((obsSeq e i rs1).filter Op.success).length]? =
      some (runSeq e rs1).1
  | rs1, e, i, l2 => by
    obtain ⟨pre, hl, hr⟩ := replay_obs rs1 e i l2
    rw [hr, ← hl, List.getElem?_append_right (Nat.le_refl _), Nat.sub_self]
    exact replay_head _ _

theorem checkHistory_complete_rejected (e0 : Etcd) (rs : List Req) (fs : Store) (fv : Nat) :
    (checkHistory apply e0 (obsSeq e0 0 rs) fs fv).rejectedJustified = true := by
  simp only [checkHistory, sortByVer_obsSeq, List.all_eq_true]
  intro o ho
  obtain ⟨rs1, r, rs2, hrs, ho'⟩ := mem_obsSeq rs e0 0 o ho
  subst hrs
  have hpw := obsSeq_pairwise (rs1 ++ r :: rs2) e0 0
  rw [obsSeq_append] at hpw ⊢
  rw [List.filter_append]
  rw [Nat.zero_add] at ho' hpw ⊢
  generalize he1 : (runSeq e0 rs1).1 = e1 at ho' hpw ⊢
  rcases apply_cases e1 r with ⟨hv, hst, hs⟩ | ⟨hv, _, _, _⟩
  · -- `o` is the observation of `r` in state `e1`, between the observations `pre` of `rs1` and `post` of `rs2`
    rw [succ_rejected hv]
    rw [obsSeq, List.pairwise_append, List.pairwise_cons] at hpw
    obtain ⟨_, ⟨hpost, _⟩, hpre⟩ := hpw
    have h49 : (o.status == 409 || o.status == 404 || o.status == 400) = true := by
      rw [ho']; rcases hs with h | h | h <;> simp [h]
    have hns : o.success = false := by rw [ho', obs_success, hv]; rfl
    have hk : o.kind = .mut r := by rw [ho']
    simp only [hk, hns, Bool.false_eq_true, if_false, h49, if_true]
    have hstate := replay_at_prefix rs1 e0 0 ((obsSeq (apply e1 r).1 (rs1.length + 1) rs2).filter Op.success)
    rw [he1] at hstate
    obtain ⟨hlo, hhi⟩ := window_split ((obsSeq e0 0 rs1).filter Op.success)
      ((obsSeq (apply e1 r).1 (rs1.length + 1) rs2).filter Op.success) o
      (fun x hx => by have := hpre x (List.mem_filter.mp hx).1 _ List.mem_cons_self; rw [ho']; simp only at this ⊢; omega)
      (fun x hx => by have := hpost x (List.mem_filter.mp hx).1; rw [ho']; simp only at this ⊢; omega)
    exact existsIn_of _ _ _ _ _ e1 hlo hhi hstate (by rw [ho']; simp)
  · have hsu : o.success = true := by rw [ho', obs_success, hv]; rfl
    have hk : o.kind = .mut r := by rw [ho']
    simp only [hk, hsu, if_true]

/-- `obsSeq` observes mutations only, so the unlocked-read clause has nothing to check on it (it stays an
executable check for histories with reads). -/
theorem checkHistory_reads_of_obsSeq (e0 : Etcd) (rs : List Req) (fs : Store) (fv : Nat) :
    (checkHistory apply e0 (obsSeq e0 0 rs) fs fv).readsJustified = true := by
  simp only [checkHistory, List.all_eq_true]
  intro o ho
  obtain ⟨r, hr⟩ := obsSeq_all_mut rs e0 0 o ho
  simp [hr]

/-- The judge accepts every sequential model history of mutations, in all eight fields (`readsJustified` for the
empty reason of `checkHistory_reads_of_obsSeq`). -/
theorem checkHistory_complete_all (e0 : Etcd) (rs : List Req) (fs : Store)
    (hfs : storeEq (runSeq e0 rs).1.store fs = true) :
    (checkHistory apply e0 (obsSeq e0 0 rs) fs (runSeq e0 rs).1.version).all = true := by
  obtain ⟨h1, h2, h3, h4, h5⟩ := checkHistory_complete e0 rs fs hfs
  simp only [HistCheck.all, h1, h2, h3, h4, h5, checkHistory_complete_realTime, checkHistory_complete_rejected,
    checkHistory_reads_of_obsSeq, Bool.and_self]

end EgVerif.AdminAPI
