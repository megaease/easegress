import EgVerif.Model.Delivery
import EgVerif.Gen.FactsC15IRb
import EgVerif.Proofs.Topic
/-!
# C15: `Broker.sendMsgToClient` and `topicNode.addClients` regenerated from source equal the model

`Gen/FactsC15IRb.lean` (its own generated module: a failed extraction of another function does not touch these
obligations) is produced by `harness/factextract/facts_c15_ir.go`.
-/
namespace EgVerif.Delivery
open EgVerif.Topic EgVerif.Gen.FactsC15IRb

theorem send_regenerated_from_source_loop (conn : Client → Bool) (s0 : List (Client × Nat)) (nl : Bool)
    (qos : Nat) (sb : List (Client × Nat)) : ∀ (l : List (Client × Nat)) (out : List (Client × Nat)),
    sendIR_loop1 conn s0 nl qos out sb l = .inr (out ++ (send conn qos l).map (fun c => (c, qos))) := by
  intro l
  induction l with
  | nil => intro out; simp [sendIR_loop1, send]
  | cons p r ih =>
    intro out
    obtain ⟨c, sq⟩ := p
    simp only [sendIR_loop1, send]
    by_cases h : sq < qos
    · simp only [h, decide_true, if_true]; exact ih out
    · simp only [h, decide_false, Bool.false_eq_true, if_false]
      by_cases hc : conn c = true
      · simp only [getClientE, hc, if_true, Option.isNone_some, Bool.false_eq_true, if_false, Option.getD_some]
        rw [ih]; simp
      · simp only [getClientE, hc, Bool.false_eq_true, if_false, Option.isNone_none, if_true]
        exact ih out

/-- `Broker.sendMsgToClient`: for every visiting order `subs` of the subscriber map the generated loop calls
`session.publish` exactly for `send conn qos subs` (`Model/Delivery.lean`), each with the message's QoS; a nil map
(`findSubscribers` failed) reaches nobody. -/
theorem send_regenerated_from_source (conn : Client → Bool) (subs : List (Client × Nat)) (qos : Nat) :
    sendIR conn subs false qos = (send conn qos subs).map (fun c => (c, qos)) ∧
    sendIR conn subs true qos = [] := by
  constructor
  · simp [sendIR, send_regenerated_from_source_loop]
  · simp [sendIR]

end EgVerif.Delivery


namespace EgVerif.Topic
open EgVerif.Gen.FactsC15IRb

theorem addClients_regenerated_from_source_loop (cls ans0 : List (Client × Nat)) :
    ∀ (l ans : List (Client × Nat)), addClientsIR_loop1 cls ans0 ans l = .inr (l.foldl addMaxStep ans) := by
  intro l
  induction l with
  | nil => intro ans; rfl
  | cons p r ih =>
    intro ans
    obtain ⟨c, q⟩ := p
    cases hg : alGet c ans with
    | none => simp [addClientsIR_loop1, lookupQ, List.foldl_cons, addMaxStep, hg, ih]
    | some old =>
      by_cases h : q > old <;> simp [addClientsIR_loop1, lookupQ, List.foldl_cons, addMaxStep, hg, h, ih]

/-- **`topicNode.addClients`** (the site of fix bcc037f): the loop keeps, per client, the larger of the QoS
already in the result map and the node's — `addMax` of `Model/Topic.lean`. -/
theorem addClients_regenerated_from_source (cls ans : List (Client × Nat)) :
    addClientsIR cls ans = addMax cls ans := by
  simp [addClientsIR, addMax, addClients_regenerated_from_source_loop]

/-- `max` on `Option Nat` (`none` is its unit) combines "already in the map" with the QoS of a new hit -/
theorem alGet_addMaxStep (c : Client) (ans : List (Client × Nat)) (p : Client × Nat) :
    alGet c (addMaxStep ans p) = if p.1 = c then max (alGet c ans) (some p.2) else alGet c ans := by
  obtain ⟨c', q⟩ := p
  show alGet c (addMaxStep ans (c', q)) = if c' = c then max (alGet c ans) (some q) else alGet c ans
  by_cases e : c = c'
  · subst e
    rw [if_pos rfl]
    cases hg : alGet c ans with
    | none => simp only [addMaxStep, hg, alGet_alSet, if_pos]; rfl
    | some old =>
      rw [Option.max_some_some]
      by_cases h : q > old
      · simp only [addMaxStep, hg, if_pos h, alGet_alSet, if_pos, Nat.max_eq_right (Nat.le_of_lt h)]
      · simp only [addMaxStep, hg, if_neg h, Nat.max_eq_left (Nat.le_of_not_lt h)]
  · -- another client's entry: `addMaxStep` leaves the map alone or sets `c'`
    rw [if_neg (Ne.symm e), addMaxStep]
    split
    · split
      · rw [alGet_alSet, if_neg e]
      · rfl
    · rw [alGet_alSet, if_neg e]

/-- the map built by successive `addClients` calls holds, per client, the maximum of what was there and of its
own hits — so starting from the empty map it is `collapseMax` of all hits, as a map -/
theorem alGet_addMax (c : Client) : ∀ (l ans : List (Client × Nat)),
    alGet c (addMax l ans) = max (alGet c ans) (ownMax c l) := by
  intro l
  induction l with
  | nil => intro ans; exact Option.max_none_right.symm
  | cons p r ih =>
    intro ans
    obtain ⟨c', q⟩ := p
    rw [show addMax ((c', q) :: r) ans = addMax r (addMaxStep ans (c', q)) from rfl, ih, alGet_addMaxStep]
    simp only [ownMax]
    by_cases e : c' = c
    · rw [if_pos e, if_pos e]
      cases alGet c ans <;> cases ownMax c r <;>
        simp only [Option.max_none_left, Option.max_none_right, Option.max_some_some, Nat.max_assoc]
    · rw [if_neg e, if_neg e]

theorem addMax_eq_collapseMax_map (hits : List (Client × Nat)) (c : Client) :
    alGet c (addMax hits []) = alGet c (collapseMax hits) := by
  rw [alGet_addMax, alGet_collapseMax]
  exact Option.max_none_left

theorem addMax_append (h1 h2 ans : List (Client × Nat)) : addMax h2 (addMax h1 ans) = addMax (h1 ++ h2) ans := by
  simp [addMax, List.foldl_append]

end EgVerif.Topic
