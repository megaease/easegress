import Mathlib.Tactic.Linarith
/-! Generic ring-buffer lemmas (used by the C08 window refinements): a ring is a list `b` with a
"first" index `i`; its rotation `rot b i` lists the slots oldest first. -/
namespace EgVerif.Ring

variable {α : Type}

def rot (b : List α) (i : Nat) : List α := b.drop i ++ b.take i

theorem rot_length (b : List α) (i : Nat) (hi : i ≤ b.length) : (rot b i).length = b.length := by
  simp [rot]; omega

theorem rot_eq_cons (b : List α) (i : Nat) (d : α) (hi : i < b.length) :
    rot b i = b.getD i d :: (b.drop (i + 1) ++ b.take i) := by
  unfold rot
  rw [List.drop_eq_getElem_cons hi, List.getD_eq_getElem?_getD, List.getElem?_eq_getElem hi]
  rfl

/-- A push: the right side is the tail in `rot_eq_cons` followed by `x`. The new index is written as Go's
`i++; if i >= len { i = 0 }`; `mod_succ_eq` gives the `(i + 1) % len` form. -/
theorem rot_set_advance (b : List α) (i : Nat) (x : α) (hi : i < b.length) :
    rot (b.set i x) (if i + 1 ≥ b.length then 0 else i + 1) = (b.drop (i + 1) ++ b.take i) ++ [x] := by
  unfold rot
  split
  · simp [List.set_eq_take_append_cons_drop, hi, List.drop_eq_nil_of_le ‹_›]
  · have h : (b.take i).set i x = b.take i := List.set_eq_of_length_le (by simp)
    simp [List.drop_set, List.take_set, List.take_add_one, hi, h]

theorem mod_succ_eq (i n : Nat) (hi : i < n) : (i + 1) % n = if i + 1 ≥ n then 0 else i + 1 := by
  by_cases h : i + 1 ≥ n
  · have : i + 1 = n := by omega
    simp [this]
  · simp only [h, if_false]; exact Nat.mod_eq_of_lt (by omega)

theorem add_mod_cases (f k n : Nat) (hf : f < n) (hk : k < n) :
    (f + k < n ∧ (f + k) % n = f + k) ∨ (n ≤ f + k ∧ (f + k) % n = f + k - n) := by
  by_cases h : f + k < n
  · exact Or.inl ⟨h, Nat.mod_eq_of_lt h⟩
  · refine Or.inr ⟨by omega, ?_⟩
    rw [Nat.mod_eq_sub_mod (by omega)]
    exact Nat.mod_eq_of_lt (by omega)

theorem rot_getD (b : List α) (f k : Nat) (d : α) (hf : f < b.length) (hk : k < b.length) :
    (rot b f).getD k d = b.getD ((f + k) % b.length) d := by
  unfold rot
  have hlen : (b.drop f).length = b.length - f := by simp
  rcases add_mod_cases f k b.length hf hk with ⟨h, e⟩ | ⟨h, e⟩
  · rw [e, List.getD_eq_getElem?_getD, List.getD_eq_getElem?_getD,
      List.getElem?_append_left (by omega), List.getElem?_drop]
  · rw [e, List.getD_eq_getElem?_getD, List.getD_eq_getElem?_getD,
      List.getElem?_append_right (by omega), hlen, List.getElem?_take]
    have h1 : k - (b.length - f) = f + k - b.length := by omega
    have h2 : f + k - b.length < f := by omega
    rw [h1]; simp [h2]

theorem rot_set (b : List α) (f k : Nat) (x : α) (hf : f < b.length) (hk : k < b.length) :
    rot (b.set ((f + k) % b.length) x) f = (rot b f).set k x := by
  unfold rot
  rcases add_mod_cases f k b.length hf hk with ⟨h, e⟩ | ⟨h, e⟩
  · simp [e, List.drop_set, List.take_set, List.set_append_left, show k < b.length - f by omega,
      List.set_eq_of_length_le]
  · simp [e, List.drop_set, List.take_set, List.set_append_right, show f + k - b.length < f by omega,
      show b.length - f ≤ k by omega, show k - (b.length - f) = f + k - b.length by omega]

end EgVerif.Ring
