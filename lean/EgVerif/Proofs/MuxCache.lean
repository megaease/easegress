import EgVerif.Model.MuxCache
import EgVerif.Proofs.Mux
/-!
Lemmas for C12 (route cache transparency). Two requests with the same cache key (`SameKey`: host, host
without port, method, path; headers and client address are free) drive the loops of `search` alike except
for header conditions and IP verdicts. One invariant of the miss path (`searchPathsC_spec` /
`searchRulesC_spec`, an induction over `Mux.searchPaths_cons` and its twin with the put site,
`searchPathsC_cons`) says: a miss ends as the cache-less search does, nothing is put after a header
mismatch, and what is put answers every request with the same key as the cache-less search would
(`put_sound`; this is where the repairs of `fixes/C12-cache-transparency.patch` are needed).
`CacheInv` carries that through a request history for every eviction answer, `InstInv` across reloads.
-/
namespace EgVerif.MuxCache
open EgVerif.Mux

/-- Requests as the Go code sees them: `hostNoPort` is a function (`strip`, i.e. `net.SplitHostPort`
with fallback) of the raw host. -/
def WF (strip : String → String) (q : Req) : Prop := q.hostNoPort = strip q.host

structure SameKey (q q' : Req) : Prop where
  host : q.host = q'.host
  hostNoPort : q.hostNoPort = q'.hostNoPort
  method : q.method = q'.method
  path : q.path = q'.path

theorem sameKey_of_key {strip : String → String} {q q' : Req} (h : WF strip q) (h' : WF strip q')
    (hk : keyOf q = keyOf q') : SameKey q q' := by
  simp only [keyOf, Key.mk.injEq] at hk
  obtain ⟨h1, h2, h3⟩ := hk
  exact ⟨h1, by rw [h, h', h1], h2, h3⟩

theorem SameKey.ruleMatch {q q' : Req} (s : SameKey q q') (o : Oracle) (r : Rule) :
    ruleMatch o r q' = ruleMatch o r q := by
  unfold Mux.ruleMatch; rw [s.hostNoPort]

theorem SameKey.matchPath {q q' : Req} (s : SameKey q q') (o : Oracle) (e : PathEntry) :
    matchPath o e q' = matchPath o e q := by
  unfold Mux.matchPath; rw [s.path]

theorem SameKey.matchMethod {q q' : Req} (s : SameKey q q') (e : PathEntry) :
    matchMethod e q' = matchMethod e q := by
  unfold Mux.matchMethod; rw [s.method]

/-- A hit on a route that recorded `consult cs f` checks `f` last: as if the route behind `cs` were the
outcome of that check. -/
theorem hit_consult (o : Oracle) (r : Route) (cs : List Nat) (f : Option Nat) (q : Req) :
    hit o ⟨r, consult cs f⟩ q = hit o ⟨if !allowIP o f q.ip then .code 403 else r, cs⟩ q := by
  have all : (consult cs f).all (fun i => o.allow i q.ip) = (cs.all (fun i => o.allow i q.ip) && allowIP o f q.ip) := by
    cases f <;> simp [consult, allowIP]
  simp only [hit, all]
  cases cs.all (fun i => o.allow i q.ip) <;> cases allowIP o f q.ip <;> rfl

theorem searchPathsC_cons (o : Oracle) (q : Req) (ri : Nat) (cs : List Nat) (pi : Nat) (e : PathEntry)
    (es : List PathEntry) (hm mm : Bool) :
    searchPathsC o q ri cs pi (e :: es) hm mm =
      if Spec.full o q (ri, pi, e) then
        .found (if !allowIP o e.ipFilter q.ip then .code 403 else .path ri pi e)
          (if e.headers.isEmpty && !hm then some ⟨.path ri pi e, consult cs e.ipFilter⟩ else none)
      else
        searchPathsC o q ri cs (pi + 1) es (hm || Spec.hdrFail o q (ri, pi, e)) (mm || Spec.methFail o q (ri, pi, e)) := by
  simp only [searchPathsC, Spec.full, Spec.hdrFail, Spec.methFail, pathOK_eq, methodOK_eq, headersOK_eq]
  cases matchPath o e q
  · simp
  cases matchMethod e q
  · simp
  cases e.headers.isEmpty
  · cases matchHeaders o e q
    · simp
    · cases allowIP o e.ipFilter q.ip <;> simp
  · cases allowIP o e.ipFilter q.ip <;> simp

theorem SameKey.refl (q : Req) : SameKey q q := ⟨rfl, rfl, rfl, rfl⟩

/-- What the inner loop on a miss for `q`, entered with flag `hm`, guarantees: it ends as the cache-less
inner loop on `q` does (`mine`), and about a twin request `q'` (`other`: result of the cache-less inner
loop on `q'` from the same state): a route is put only while no header mismatch was seen; hit by `q'` it
re-checks the filters `cs` consulted before the loop and then gives `q'`'s own result. The loop is left
without header mismatch only if it was entered without, and then the twin leaves it in the same state. -/
def PutOK (o : Oracle) (q' : Req) (cs : List Nat) (hm : Bool) (mine other : PathRes) : PathResC → Prop
  | .found y p => mine = .found y ∧
      ∀ r, p = some r → hm = false ∧ ∃ x, other = .found x ∧ hit o r q' = hit o ⟨x, cs⟩ q'
  | .cont hm' mm' => mine = .cont hm' mm' ∧ (hm' = false → hm = false ∧ other = .cont false mm')

/-- Entered with the flag set, the loop promises nothing about the twin: whatever it was and did. -/
theorem PutOK.of_true {o : Oracle} {q' : Req} {cs : List Nat} {hm : Bool} {mine other other' : PathRes}
    {x : PathResC} (h : PutOK o q' cs true mine other x) : PutOK o q' cs hm mine other' x := by
  cases x with
  | found y p => exact ⟨h.1, fun r hr => nomatch (h.2 r hr).1⟩
  | cont hm' mm' => exact ⟨h.1, fun hf => nomatch (h.2 hf).1⟩

theorem searchPathsC_spec (o : Oracle) {q q' : Req} (s : SameKey q q') (ri : Nat) (cs : List Nat)
    (es : List PathEntry) : ∀ (pi : Nat) (hm mm : Bool),
      PutOK o q' cs hm (searchPaths o q ri pi es hm mm) (searchPaths o q' ri pi es hm mm)
        (searchPathsC o q ri cs pi es hm mm) := by
  induction es with
  | nil => intro _ hm _; exact ⟨rfl, fun h => ⟨h, by rw [h]; rfl⟩⟩
  | cons e es ih =>
    intro pi hm mm
    replace ih := ih (pi + 1)
    rw [searchPathsC_cons, searchPaths_cons, searchPaths_cons]
    simp only [Spec.full, Spec.hdrFail, Spec.methFail, pathOK_eq, methodOK_eq, headersOK_eq, s.matchPath, s.matchMethod]
    cases matchPath o e q
    · simpa using ih hm mm
    cases matchMethod e q
    · simpa using ih hm true
    cases e.headers.isEmpty
    · -- entry with header conditions: never put; after a mismatch for `q` the flag is set for good
      cases matchHeaders o e q
      · exact PutOK.of_true (by simpa using ih true mm)
      · exact ⟨rfl, fun r hr => nomatch hr⟩
    · -- header-less entry: the twin passes the header test as well; put iff the flag is still clear
      cases hm
      · exact ⟨rfl, fun r hr => ⟨rfl, _, rfl, by cases hr; exact hit_consult o _ cs e.ipFilter q'⟩⟩
      · exact ⟨rfl, fun r hr => nomatch hr⟩

theorem searchRulesC_spec (o : Oracle) {q q' : Req} (s : SameKey q q') (rs : List Rule) :
    ∀ (ri : Nat) (cs : List Nat) (hm mm : Bool),
      (searchRulesC o q ri rs cs hm mm).1 = searchRules o q ri rs hm mm ∧
      ∀ r, (searchRulesC o q ri rs cs hm mm).2 = some r →
        hm = false ∧ hit o r q' = hit o ⟨searchRules o q' ri rs false mm, cs⟩ q' := by
  induction rs with
  | nil =>
    intro _ cs hm mm
    cases hm
    · cases mm <;> exact ⟨rfl, fun r hr => by cases hr; exact ⟨rfl, rfl⟩⟩
    · exact ⟨rfl, fun r hr => by cases hr⟩
  | cons ru rs ih =>
    intro ri cs hm mm
    simp only [searchRulesC, searchRules, s.ruleMatch]
    cases ruleMatch o ru q
    · exact ih _ cs hm mm
    cases allowIP o ru.ipFilter q.ip
    · exact ⟨rfl, fun r hr => nomatch hr⟩
    simp only [Bool.not_true, Bool.false_eq_true, if_false]
    -- the rule's own filter joins `cs`; for the twin it is the rule-level check of `searchRules` (`hit_consult`)
    have hp := searchPathsC_spec o s ri (consult cs ru.ipFilter) ru.paths 0 hm mm
    cases hc : searchPathsC o q ri (consult cs ru.ipFilter) 0 ru.paths hm mm with
    | found x p =>
      rw [hc] at hp
      rw [hp.1]
      refine ⟨rfl, fun r hr => ?_⟩
      obtain ⟨rfl, y, hy, hs⟩ := hp.2 r hr
      rw [hs, hy, hit_consult]
      exact ⟨rfl, rfl⟩
    | cont hm' mm' =>
      rw [hc] at hp
      rw [hp.1]
      refine ⟨(ih (ri + 1) _ hm' mm').1, fun r hr => ?_⟩
      obtain ⟨rfl, hr'⟩ := (ih (ri + 1) _ hm' mm').2 r hr
      obtain ⟨rfl, hy⟩ := hp.2 rfl
      rw [hy, hr', hit_consult]
      exact ⟨rfl, rfl⟩

theorem searchMiss_fst (o : Oracle) (c : Cfg) (q : Req) : (searchMiss o c q).1 = search o c q := by
  simp only [searchMiss, search]
  split
  · rfl
  · exact (searchRulesC_spec o (SameKey.refl q) c.rules 0 _ false false).1

theorem put_sound (o : Oracle) (c : Cfg) {q q' : Req} (s : SameKey q q') (r : CRoute)
    (h : (searchMiss o c q).2 = some r) : hit o r q' = search o c q' := by
  simp only [searchMiss] at h
  split at h
  · cases h
  · rw [((searchRulesC_spec o s c.rules 0 _ false false).2 r h).2, hit_consult]; rfl

def CacheInv (o : Oracle) (c : Cfg) (strip : String → String) (cache : Cache) : Prop :=
  ∀ k r, (k, r) ∈ cache → ∀ q, WF strip q → keyOf q = k → hit o r q = search o c q

theorem cacheInv_nil (o : Oracle) (c : Cfg) (strip : String → String) : CacheInv o c strip [] := by
  intro k r h; cases h

theorem searchCached_step (o : Oracle) (c : Cfg) (strip : String → String) (ev : Key → Bool)
    (cache : Cache) (q : Req) (hq : WF strip q) (inv : CacheInv o c strip cache) :
    (searchCached o c ev cache q).1 = search o c q ∧ CacheInv o c strip (searchCached o c ev cache q).2 := by
  simp only [searchCached]
  split
  · rename_i r hr
    refine ⟨?_, inv⟩
    split at hr
    · cases hr
    · obtain ⟨l₁, l₂, rfl, _⟩ := List.lookup_eq_some_iff.mp hr
      exact inv _ r (List.mem_append_right _ List.mem_cons_self) q hq rfl
  · have h1 := searchMiss_fst o c q
    cases hm : searchMiss o c q with
    | mk x p =>
      rw [hm] at h1
      cases p with
      | none => exact ⟨h1, inv⟩
      | some r =>
        refine ⟨h1, ?_⟩
        intro k r' hmem q' hq' hk
        simp only [List.mem_cons, Prod.mk.injEq] at hmem
        rcases hmem with ⟨rfl, rfl⟩ | hmem
        · exact put_sound o c (sameKey_of_key hq hq' hk.symm) r' (by rw [hm])
        · exact inv k r' hmem q' hq' hk

theorem runFrom_eq (o : Oracle) (c : Cfg) (strip : String → String) (ev : Nat → Key → Bool)
    (reqs : List Req) : ∀ (n : Nat) (cache : Cache), (∀ q ∈ reqs, WF strip q) → CacheInv o c strip cache →
      runFrom o c ev n cache reqs = reqs.map (search o c) := by
  induction reqs with
  | nil => intro _ _ _ _; rfl
  | cons q qs ih =>
    intro n cache hw inv
    obtain ⟨h1, h2⟩ := searchCached_step o c strip (ev n) cache q (hw q List.mem_cons_self) inv
    simp only [runFrom, List.map_cons, h1]
    rw [ih (n + 1) _ (fun q' h => hw q' (List.mem_cons_of_mem _ h)) h2]

def InstInv (o : Oracle) (strip : String → String) (i : Inst) : Prop :=
  ∀ cache, i.cache = some cache → CacheInv o i.cfg strip cache

theorem instInv_newMux (o : Oracle) (strip : String → String) : InstInv o strip newMux := by
  intro cache h; cases h

/-- `reload` re-establishes the invariant whatever the previous instance was: the cache is fresh. -/
theorem instInv_reload (o : Oracle) (strip : String → String) (g : GenSpec) : InstInv o strip (reload g) := by
  intro cache h
  simp only [reload] at h
  split at h
  · simp only [Option.some.injEq] at h; subst h; exact cacheInv_nil o g.cfg strip
  · cases h

theorem instSearch_step (o : Oracle) (strip : String → String) (ev : Key → Bool) (i : Inst) (q : Req)
    (hq : WF strip q) (inv : InstInv o strip i) :
    (i.search o ev q).1 = search o i.cfg q ∧ (i.search o ev q).2.cfg = i.cfg ∧
      InstInv o strip (i.search o ev q).2 := by
  obtain ⟨cfg, cache⟩ := i
  cases cache with
  | none => exact ⟨searchMiss_fst o cfg q, rfl, inv⟩
  | some cache =>
    obtain ⟨h1, h2⟩ := searchCached_step o cfg strip ev cache q hq (inv cache rfl)
    refine ⟨h1, rfl, ?_⟩
    intro cache' hc
    simp only [Inst.search, Option.some.injEq] at hc
    subst hc; exact h2

def OpsWF (strip : String → String) (ops : List Op) : Prop := ∀ q, Op.request q ∈ ops → WF strip q

theorem runOps_eq (o : Oracle) (strip : String → String) (ev : Nat → Key → Bool) :
    ∀ (ops : List Op) (n : Nat) (i : Inst), OpsWF strip ops → InstInv o strip i →
      runOps o ev n i ops = refOps o i.cfg ops
  | [], _, _, _, _ => rfl
  | .reload g :: ops, n, i, hw, _ => by
    simp only [runOps, refOps, reqCfgs]
    exact runOps_eq o strip ev ops n (reload g) (fun q h => hw q (List.mem_cons_of_mem _ h))
      (instInv_reload o strip g)
  | .request q :: ops, n, i, hw, inv => by
    obtain ⟨h1, h2, h3⟩ := instSearch_step o strip (ev n) i q (hw q List.mem_cons_self) inv
    simp only [runOps, refOps, reqCfgs, List.map_cons, h1]
    rw [runOps_eq o strip ev ops (n + 1) _ (fun q' h => hw q' (List.mem_cons_of_mem _ h)) h3, h2]
    rfl

def cfgAfter : Cfg → List Op → Cfg
  | c, [] => c
  | _, .reload g :: ops => cfgAfter g.cfg ops
  | c, .request _ :: ops => cfgAfter c ops

theorem reqCfgs_append (c : Cfg) (pre post : List Op) :
    reqCfgs c (pre ++ post) = reqCfgs c pre ++ reqCfgs (cfgAfter c pre) post := by
  induction pre generalizing c with
  | nil => rfl
  | cons op pre ih =>
    cases op with
    | request q => simp [reqCfgs, cfgAfter, ih]
    | reload g => simp [reqCfgs, cfgAfter, ih]

theorem length_runOps (o : Oracle) (ev : Nat → Key → Bool) :
    ∀ (ops : List Op) (n : Nat) (i : Inst), (runOps o ev n i ops).length = (reqCfgs i.cfg ops).length
  | [], _, _ => rfl
  | .reload g :: ops, n, i => by simp only [runOps, reqCfgs]; exact length_runOps o ev ops n (reload g)
  | .request q :: ops, n, i => by
    simp only [runOps, reqCfgs, List.length_cons]
    rw [length_runOps o ev ops (n + 1) _]
    obtain ⟨cfg, cache⟩ := i
    cases cache <;> rfl

end EgVerif.MuxCache

/-! ### shared witness history (used by `Props/C12.lean` and `Props/C05.lean`)

Filter 0 blocks `10.0.0.1`. Generation 1: one rule, no filter; generation 2: the same rules and cache
size plus the server-level filter 0. Both keys (`/x` → p1, `/nothing` → 404) are cached by generation 1. -/
namespace EgVerif.C12w
open EgVerif.Mux EgVerif.MuxCache

def oR : Oracle := ⟨fun _ _ => false, fun i ip => !(i == 0 && ip == "10.0.0.1")⟩
def cfgR1 : Cfg := { rules := [{ paths := [{ path := "/x", backend := "p1" }] }] }
def cfgR2 : Cfg := { cfgR1 with ipFilter := some 0 }
def qR (ip : String) : Req := ⟨"a", "a", "GET", "/x", [], ip⟩
def qN (ip : String) : Req := ⟨"a", "a", "GET", "/nothing", [], ip⟩
def histR : List Op := [.reload ⟨cfgR1, true⟩, .request (qR "10.0.0.2"), .request (qN "10.0.0.2"),
  .reload ⟨cfgR2, true⟩, .request (qR "10.0.0.1"), .request (qN "10.0.0.1")]

end EgVerif.C12w
