import EgVerif.Spec.Pipeline
import EgVerif.Proofs.Lists
/-!
# Lemmas for C02 (pipeline)

Core Lean only. The equations of `loop` say what one iteration does; `LoopRel` is the loop as a relation,
and what holds of every run — the refinement to the reference machine (`run_of_rel`), the shape of the
trace (`trace_of_rel`), the result of an open flow (`open_of_rel`), where a jump lands
(`Proofs/PipelineLands.lean`), the translated loop (`Proofs/PipelineIR.lean`) — is an induction on it.
The property theorems are in `Props/C02.lean`.
-/
namespace EgVerif.Pipeline
open Spec

theorem name_of_end {n : Node} (h : n.filter = END) : n.name = END := by
  simp [Node.name, h]

theorem isTarget_iff {t : String} {m : Node} : isTarget t m = true ↔ m.filter ≠ END ∧ m.name = t := by
  simp [isTarget]

def Continues (n : Node) (r : String) : Prop :=
  r = "" ∨ ∃ t, n.jumpIf.lookup r = some t ∧ t ≠ "" ∧ t ≠ END

/-- `Continues`, with the jump that is then pending: after node `n` returned `r` the loop goes on with
`nx` (`""`: the very next node). -/
def Pending (n : Node) (r nx : String) : Prop :=
  (r = "" ∧ nx = "") ∨ (r ≠ "" ∧ n.jumpIf.lookup r = some nx ∧ nx ≠ "" ∧ nx ≠ END)

theorem continues_iff {n : Node} {r : String} : Continues n r ↔ ∃ nx, Pending n r nx := by
  constructor
  · intro h
    by_cases hr : r = ""
    · exact ⟨"", Or.inl ⟨hr, rfl⟩⟩
    · obtain ⟨t, ht⟩ := h.resolve_left hr
      exact ⟨t, Or.inr ⟨hr, ht⟩⟩
  · rintro ⟨nx, ⟨hr, _⟩ | ⟨_, ht⟩⟩
    · exact Or.inl hr
    · exact Or.inr ⟨nx, ht⟩

/-- what the loop tests after a non-empty result: no mapping, or a mapping to `""` or `END` -/
theorem not_continues_iff {n : Node} {r : String} :
    ¬ Continues n r ↔
      r ≠ "" ∧ ((n.jumpIf.lookup r).getD "" = "" ∨ (n.jumpIf.lookup r).getD "" = END) := by
  unfold Continues
  cases n.jumpIf.lookup r with
  | none => simp
  | some t =>
    simp only [Option.some.injEq, exists_eq_left', Option.getD_some, not_or, not_and, ne_eq]
    exact ⟨fun ⟨h1, h2⟩ => ⟨h1, Classical.or_iff_not_imp_left.mpr fun h => Classical.not_not.mp (h2 h)⟩,
      fun ⟨h1, h2⟩ => ⟨h1, fun h3 h4 => h2.elim h3 h4⟩⟩

theorem pending_ne_end {n : Node} {r nx : String} (h : Pending n r nx) : nx ≠ END := by
  rcases h with ⟨_, rfl⟩ | ⟨_, _, _, h⟩
  · decide
  · exact h

abbrev statAt (kind : String → String) (res : Nat → String) (i : Nat) (n : Node) (stats : List Stat) : Stat :=
  ⟨i, n.name, n.filter, kind n.filter, useNs n.ns, res stats.length⟩

section
variable {kind : String → String} {res : Nat → String} {n : Node} {rest : List Node} {i : Nat}
  {result next : String} {stats : List Stat}

theorem loop_nil : loop kind res [] i result next stats = (result, stats, false) := rfl

theorem loop_cons_skip (h1 : next ≠ "") (h2 : next ≠ n.name) :
    loop kind res (n :: rest) i result next stats = loop kind res rest (i + 1) result next stats := by
  rw [loop, if_pos ⟨h1, h2⟩]

/-- control arrives (`next = "" ∨ next = n.name`) at an `END` node -/
theorem loop_cons_end (ha : next = "" ∨ next = n.name) (he : n.filter = END) :
    loop kind res (n :: rest) i result next stats = (result, stats, true) := by
  rw [loop, if_neg (fun h => ha.elim h.1 h.2), if_pos he]

theorem loop_cons_stop (ha : next = "" ∨ next = n.name) (he : n.filter ≠ END)
    (hc : ¬ Continues n (res stats.length)) :
    loop kind res (n :: rest) i result next stats =
      (res stats.length, stats ++ [statAt kind res i n stats], true) := by
  rw [loop, if_neg (fun h => ha.elim h.1 h.2), if_neg he]
  obtain ⟨hr, hx⟩ := not_continues_iff.mp hc
  simp only [if_neg hr, if_pos hx]

theorem loop_cons_run {nx : String} (ha : next = "" ∨ next = n.name) (he : n.filter ≠ END)
    (hp : Pending n (res stats.length) nx) :
    loop kind res (n :: rest) i result next stats =
      loop kind res rest (i + 1) (res stats.length) nx (stats ++ [statAt kind res i n stats]) := by
  rw [loop, if_neg (fun h => ha.elim h.1 h.2), if_neg he]
  rcases hp with ⟨hr, rfl⟩ | ⟨hr, hl, h1, h2⟩
  · simp only [if_pos hr]
  · simp only [if_neg hr, hl, Option.getD_some, if_neg (not_or.mpr ⟨h1, h2⟩)]

end

/-- The loop as a relation between its inputs and its output, one rule per way through an iteration.
Facts about all runs are proved by induction on it (`loop_rel`: the loop satisfies it). -/
inductive LoopRel (kind : String → String) (res : Nat → String) :
    List Node → Nat → String → String → List Stat → String × List Stat × Bool → Prop
  | nil {i result next stats} : LoopRel kind res [] i result next stats (result, stats, false)
  | skip {n rest i result next stats out} : next ≠ "" → next ≠ n.name →
      LoopRel kind res rest (i + 1) result next stats out →
      LoopRel kind res (n :: rest) i result next stats out
  | atEnd {n rest i result next stats} : next = "" ∨ next = n.name → n.filter = END →
      LoopRel kind res (n :: rest) i result next stats (result, stats, true)
  | stop {n rest i result next stats} : next = "" ∨ next = n.name → n.filter ≠ END →
      ¬ Continues n (res stats.length) →
      LoopRel kind res (n :: rest) i result next stats
        (res stats.length, stats ++ [statAt kind res i n stats], true)
  | run {n rest i result next stats nx out} : next = "" ∨ next = n.name → n.filter ≠ END →
      Pending n (res stats.length) nx →
      LoopRel kind res rest (i + 1) (res stats.length) nx (stats ++ [statAt kind res i n stats]) out →
      LoopRel kind res (n :: rest) i result next stats out

theorem loop_rel (kind : String → String) (res : Nat → String) :
    ∀ (rest : List Node) (i : Nat) (result next : String) (stats : List Stat),
      LoopRel kind res rest i result next stats (loop kind res rest i result next stats)
  | [], _, _, _, _ => .nil
  | n :: rest, i, result, next, stats => by
    by_cases h : next ≠ "" ∧ next ≠ n.name
    · rw [loop_cons_skip h.1 h.2]
      exact .skip h.1 h.2 (loop_rel kind res rest _ _ _ _)
    · have ha : next = "" ∨ next = n.name := by
        rcases Classical.not_and_iff_not_or_not.mp h with h | h
        · exact Or.inl (Classical.not_not.mp h)
        · exact Or.inr (Classical.not_not.mp h)
      by_cases he : n.filter = END
      · rw [loop_cons_end ha he]
        exact .atEnd ha he
      · by_cases hc : Continues n (res stats.length)
        · obtain ⟨nx, hp⟩ := continues_iff.mp hc
          rw [loop_cons_run ha he hp]
          exact .run ha he hp (loop_rel kind res rest _ _ _ _)
        · rw [loop_cons_stop ha he hc]
          exact .stop ha he hc

/-! ## refinement: the reference machine and the loop agree on flows with unique targets -/

def JumpsOK (flow : List Node) : Prop :=
  ∀ pre n suf, flow = pre ++ n :: suf → n.filter ≠ END → ∀ r t, (r, t) ∈ n.jumpIf → targets t suf = 1

theorem exists_of_filter_length_one {l : List Node} {p : Node → Bool} (h : (l.filter p).length = 1) :
    ∃ m ∈ l, p m = true := by
  obtain ⟨m, hm⟩ := List.exists_mem_of_length_pos (h ▸ Nat.one_pos)
  exact ⟨m, (List.mem_filter.mp hm).1, (List.mem_filter.mp hm).2⟩

theorem getElem?_of_drop {flow rest : List Node} {n : Node} {i : Nat} (hd : flow.drop i = n :: rest) :
    flow[i]? = some n := by
  rw [← List.head?_drop, hd]; rfl

theorem drop_succ_of_drop {flow rest : List Node} {n : Node} {i : Nat} (hd : flow.drop i = n :: rest) :
    flow.drop (i + 1) = rest := by
  rw [← List.drop_drop, hd]; rfl

theorem jump_target_unique {flow rest : List Node} {n : Node} {i : Nat} {r t : String} (hJ : JumpsOK flow)
    (hd : flow.drop i = n :: rest) (he : n.filter ≠ END) (hl : n.jumpIf.lookup r = some t) (hE : t ≠ END) :
    (rest.filter (isTarget t)).length = 1 := by
  have hsplit : flow = flow.take i ++ n :: rest := by rw [← hd, List.take_append_drop]
  simpa [targets, hE] using hJ _ n _ hsplit he r t (mem_of_lookup hl)

/-- when control arrives at a real node, it is the first target of the pending jump (if any) -/
theorem arrive_findIdx {n : Node} {rest : List Node} {next : String} (ha : next = "" ∨ next = n.name)
    (he : n.filter ≠ END) (i : Nat) :
    (if next = "" then i else i + (n :: rest).findIdx (isTarget next)) = i := by
  by_cases h0 : next = ""
  · rw [if_pos h0]
  · rw [if_neg h0, List.findIdx_cons, isTarget_iff.mpr ⟨he, (ha.resolve_left h0).symm⟩]
    rfl

/-- The loop, at node `i` with `next` pending, does what the reference machine does at the node where
control arrives: `i` itself, or the first later target named `next`, to which the machine jumps at once
and the loop by skipping. -/
theorem run_of_rel {kind : String → String} {res : Nat → String} {flow rest : List Node} {i : Nat}
    {result next : String} {stats : List Stat} {out : String × List Stat × Bool}
    (h : LoopRel kind res rest i result next stats out) (hJ : JumpsOK flow) :
    flow.drop i = rest → next ≠ END → (next = "" ∨ ∃ m ∈ rest, isTarget next m = true) →
    ∀ fuel, rest.length ≤ fuel →
      Spec.run kind res flow (fuel + 1) (if next = "" then i else i + rest.findIdx (isTarget next)) result
        stats = some out := by
  induction h with
  | nil =>
    rintro hd _ (h0 | ⟨m, hm, _⟩) fuel _
    · rw [if_pos h0, Spec.run, List.getElem?_eq_none (List.drop_eq_nil_iff.mp hd)]
    · cases hm
  | @skip n rest i result next stats out h1 h2 _ ih =>
    rintro hd hE hex fuel hf
    have hn : isTarget next n = false := by
      rw [Bool.eq_false_iff]
      exact fun h => h2 (isTarget_iff.mp h).2.symm
    have hex' : ∃ m ∈ rest, isTarget next m = true := by simpa [hn] using hex.resolve_left h1
    have := ih (drop_succ_of_drop hd) hE (Or.inr hex') fuel (Nat.le_of_succ_le hf)
    rw [if_neg h1] at this ⊢
    rw [List.findIdx_cons, hn, cond_false, ← Nat.add_assoc, Nat.add_right_comm]
    exact this
  | @atEnd n rest i result next stats ha he =>
    rintro hd hE _ fuel _
    have h0 : next = "" := ha.resolve_right fun h => hE (h.trans (name_of_end he))
    rw [if_pos h0, Spec.run, getElem?_of_drop hd]
    exact if_pos he
  | @stop n rest i result next stats ha he hc =>
    rintro hd _ _ fuel _
    obtain ⟨hr, hx⟩ := not_continues_iff.mp hc
    rw [arrive_findIdx ha he, Spec.run, getElem?_of_drop hd]
    simp only [if_neg he, if_neg hr]
    cases hl : n.jumpIf.lookup (res stats.length) with
    | none => rfl
    | some t =>
      rw [hl] at hx
      exact if_pos hx
  | @run n rest i result next stats nx out ha he hp _ ih =>
    rintro hd _ _ fuel hf
    cases fuel with
    | zero => cases hf
    | succ fuel =>
      have hd' := drop_succ_of_drop hd
      have hf' : rest.length ≤ fuel := Nat.le_of_succ_le_succ hf
      rw [arrive_findIdx ha he, Spec.run, getElem?_of_drop hd]
      simp only [if_neg he]
      rcases hp with ⟨hr, rfl⟩ | ⟨hr, hl, ht, hE⟩
      · rw [if_pos hr]
        exact ih hd' (by decide) (Or.inl rfl) fuel hf'
      · -- exactly one later target: the machine's jump is defined
        have hlen := jump_target_unique hJ hd he hl hE
        have := ih hd' hE (Or.inr (exists_of_filter_length_one hlen)) fuel hf'
        rw [if_neg ht] at this
        simp only [if_neg hr, hl, if_neg (not_or.mpr ⟨ht, hE⟩), Spec.target, hd', if_pos hlen]
        exact this

/-! ## validation: `scan` and `validateFilters` against the executable and the declarative specification -/

/-- The `validTargets` counter after the backward scan visited `flow`: the names of its real nodes,
plus the built-in `END`. -/
def vtOf : List Node → List String
  | [] => [END]
  | n :: suf => if n.filter = END then vtOf suf else n.name :: vtOf suf

theorem count_vtOf (t : String) : ∀ suf : List Node, (vtOf suf).count t = targets t suf
  | [] => by
    by_cases h : t = END
    · simp [vtOf, targets, h]
    · have : ¬ END = t := fun e => h e.symm
      simp [vtOf, targets, h, this]
  | n :: suf => by
    have ih := count_vtOf t suf
    by_cases he : n.filter = END
    · have h2 : targets t (n :: suf) = targets t suf := by simp [targets, isTarget, he]
      rw [vtOf, if_pos he, h2, ih]
    · rw [vtOf, if_neg he, List.count_cons, ih]
      by_cases hn : n.name = t
      · have : isTarget t n = true := by simp [isTarget, he, hn]
        simp [targets, this, hn]; omega
      · have : isTarget t n = false := by simp [isTarget, he, hn]
        simp [targets, this, hn]

/-- The backward scan with the counter (`ValidateJumpIf`) computes the forward, counter-free check. -/
theorem scan_eq (fs : List (String × String)) (kinds : List (String × List String)) :
    ∀ flow : List Node,
      scan fs kinds flow = if Spec.flowOk fs kinds flow = true then some (vtOf flow) else none
  | [] => rfl
  | n :: rest => by
    unfold scan Spec.flowOk
    rw [scan_eq fs kinds rest]
    by_cases hrest : Spec.flowOk fs kinds rest = true
    · simp only [hrest, if_true, Bool.and_true]
      by_cases he : n.filter = END
      · simp [Spec.nodeOk, he, vtOf]
      · simp only [he, if_false, Spec.nodeOk, decide_false, Bool.false_or]
        cases hl : fs.lookup n.filter with
        | none => simp
        | some k =>
          simp only [count_vtOf, vtOf, if_neg he]
    · simp [hrest]

theorem validate_eq_valid_flow (fs : List (String × String)) (kinds : List (String × List String))
    (flow : List Node) : (scan fs kinds flow).isSome = Spec.flowOk fs kinds flow := by
  rw [scan_eq]; by_cases h : Spec.flowOk fs kinds flow = true <;> simp [h]

theorem nodeOk_iff (fs : List (String × String)) (kinds : List (String × List String)) (n : Node)
    (suf : List Node) : Spec.nodeOk fs kinds n suf = true ↔ NodeOK fs kinds n suf := by
  unfold Spec.nodeOk NodeOK
  by_cases he : n.filter = END
  · simp [he]
  · simp only [he, decide_false, Bool.false_or, ne_eq, not_false_eq_true, forall_const]
    cases hl : fs.lookup n.filter with
    | none => simp
    | some k =>
      simp only [Option.some.injEq, exists_eq_left', List.all_eq_true, Bool.and_eq_true,
        List.contains_iff_mem, beq_iff_eq, Prod.forall]

theorem flowOk_iff (fs : List (String × String)) (kinds : List (String × List String)) :
    ∀ flow : List Node, Spec.flowOk fs kinds flow = true ↔
      ∀ pre n suf, flow = pre ++ n :: suf → NodeOK fs kinds n suf
  | [] => by
    refine ⟨fun _ pre _ _ h => ?_, fun _ => rfl⟩
    cases pre <;> cases h
  | m :: rest => by
    rw [Spec.flowOk, Bool.and_eq_true, nodeOk_iff, flowOk_iff fs kinds rest]
    -- a split of `m :: rest` is at the head, or it is a split of `rest`
    constructor
    · rintro ⟨h1, h2⟩ pre n suf e
      cases pre with
      | nil =>
        obtain ⟨rfl, rfl⟩ := List.cons.inj e
        exact h1
      | cons a pre => exact h2 pre n suf (List.cons.inj e).2
    · intro h
      exact ⟨h [] m rest rfl, fun pre n suf e => h (m :: pre) n suf (congrArg _ e)⟩

theorem validateFilters_iff (kinds : List (String × List String)) :
    ∀ (fs : List (String × String)) (seen : List String),
      validateFilters kinds fs seen = true ↔
        (∀ f ∈ fs, urlName f.1 = true ∧ (kinds.lookup f.2).isSome = true ∧ f.1 ≠ END ∧ f.1 ∉ seen) ∧
          (fs.map (·.1)).Nodup
  | [], seen => by simp [validateFilters]
  | f :: rest, seen => by
    simp only [validateFilters, Bool.and_eq_true, validateFilters_iff kinds rest (f.1 :: seen),
      List.mem_cons, forall_eq_or_imp, List.map_cons, List.nodup_cons, List.mem_map, not_exists,
      not_and, decide_eq_true_eq, Bool.not_eq_true', List.contains_eq_mem, decide_eq_false_iff_not, not_or]
    simp only [forall_and, and_assoc]
    -- both sides list the same ten facts; "no later name is `f`'s" and "no later name was seen" swap places
    constructor
    · rintro ⟨a, b, c, d, h1, h2, h3, h4, h5, h6⟩
      exact ⟨a, b, c, d, h1, h2, h3, h5, h4, h6⟩
    · rintro ⟨a, b, c, d, h1, h2, h3, h5, h4, h6⟩
      exact ⟨a, b, c, d, h1, h2, h3, h4, h5, h6⟩

theorem nodupB_iff : ∀ l : List String, Spec.nodupB l = true ↔ l.Nodup
  | [] => by simp [Spec.nodupB]
  | a :: r => by simp [Spec.nodupB, nodupB_iff r]

/-! ## shape of the trace produced by the loop (all flows, valid or not) -/

/-- `s` records an execution of the real node at index `s.idx` of a flow whose tail from index `i`
is `rest`: alias, bound filter, kind and namespace are the node's. -/
def StatOf (kind : String → String) (rest : List Node) (i : Nat) (s : Stat) : Prop :=
  i ≤ s.idx ∧ ∃ n, rest[s.idx - i]? = some n ∧ n.filter ≠ END ∧ s.name = n.name ∧ s.filter = n.filter ∧
    s.kind = kind n.filter ∧ s.ns = useNs n.ns

structure TraceOK (kind : String → String) (res : Nat → String) (rest : List Node) (i : Nat)
    (resultIn : String) (stats : List Stat) (out : String × List Stat × Bool) (new : List Stat) : Prop where
  eq : out.2.1 = stats ++ new
  statOf : ∀ s ∈ new, StatOf kind rest i s
  mono : new.Pairwise (fun a b => a.idx < b.idx)
  results : ∀ k (h : k < new.length), new[k].result = res (stats.length + k)
  last : out.1 = (new.getLast?.map (·.result)).getD resultIn
  cont : ∀ k (h : k + 1 < new.length), ∃ n, rest[new[k].idx - i]? = some n ∧ Continues n new[k].result

theorem getElem?_cons_sub {n m : Node} {rest : List Node} {i j : Nat}
    (hm : rest[j - (i + 1)]? = some m) (hle : i + 1 ≤ j) : (n :: rest)[j - i]? = some m := by
  have : j - i = (j - (i + 1)) + 1 := by omega
  rw [this, List.getElem?_cons_succ]; exact hm

theorem statOf_cons {kind : String → String} {n : Node} {rest : List Node} {i : Nat} {s : Stat}
    (h : StatOf kind rest (i + 1) s) : StatOf kind (n :: rest) i s :=
  let ⟨hle, m, hm, hrest⟩ := h
  ⟨Nat.le_of_succ_le hle, m, getElem?_cons_sub hm hle, hrest⟩

section
variable {kind : String → String} {res : Nat → String} {n : Node} {rest : List Node} {i : Nat}
  {resultIn : String} {stats : List Stat} {out : String × List Stat × Bool} {new : List Stat}

theorem traceOK_nil {b : Bool} : TraceOK kind res rest i resultIn stats (resultIn, stats, b) [] where
  eq := (List.append_nil _).symm
  statOf := fun _ h => nomatch h
  mono := .nil
  results := fun _ h => (Nat.not_lt_zero _ h).elim
  last := rfl
  cont := fun _ h => (Nat.not_lt_zero _ h).elim

theorem traceOK_skip (h : TraceOK kind res rest (i + 1) resultIn stats out new) :
    TraceOK kind res (n :: rest) i resultIn stats out new where
  eq := h.eq
  statOf := fun s hs => statOf_cons (h.statOf s hs)
  mono := h.mono
  results := h.results
  last := h.last
  cont := fun k hk =>
    let ⟨m, hm, hc⟩ := h.cont k hk
    ⟨m, getElem?_cons_sub hm (h.statOf _ (List.getElem_mem _)).1, hc⟩

/-- the node at the head ran and the loop went on over `rest` (or stopped: `new = []`) -/
theorem traceOK_run (hend : n.filter ≠ END) (hc : new ≠ [] → Continues n (res stats.length))
    (h : TraceOK kind res rest (i + 1) (res stats.length) (stats ++ [statAt kind res i n stats]) out new) :
    TraceOK kind res (n :: rest) i resultIn stats out (statAt kind res i n stats :: new) where
  eq := h.eq.trans (List.append_assoc _ _ _)
  statOf := fun s hs => by
    rcases List.mem_cons.mp hs with rfl | hs'
    · exact ⟨Nat.le_refl _, n, by rw [Nat.sub_self]; rfl, hend, rfl, rfl, rfl, rfl⟩
    · exact statOf_cons (h.statOf s hs')
  mono := List.pairwise_cons.mpr ⟨fun s hs => Nat.lt_of_succ_le (h.statOf s hs).1, h.mono⟩
  results := fun k hk =>
    match k with
    | 0 => rfl
    | k + 1 => (h.results k (Nat.lt_of_succ_lt_succ hk)).trans
        (by rw [List.length_append, List.length_singleton, Nat.add_assoc, Nat.add_comm 1 k])
  last := by
    rw [h.last]
    cases new with
    | nil => rfl
    | cons a l => rw [List.getLast?_cons_cons, List.getLast?_cons]; rfl
  cont := fun k hk =>
    match k with
    | 0 => ⟨n, by show (n :: rest)[i - i]? = some n; rw [Nat.sub_self]; rfl,
        hc (fun e => by subst e; exact Nat.lt_irrefl _ hk)⟩
    | k + 1 =>
      let ⟨m, hm, hcm⟩ := h.cont k (Nat.lt_of_succ_lt_succ hk)
      ⟨m, getElem?_cons_sub hm (h.statOf _ (List.getElem_mem _)).1, hcm⟩

end

theorem trace_of_rel {kind : String → String} {res : Nat → String} {rest : List Node} {i : Nat}
    {result next : String} {stats : List Stat} {out : String × List Stat × Bool}
    (h : LoopRel kind res rest i result next stats out) :
    ∃ new, TraceOK kind res rest i result stats out new := by
  induction h with
  | nil => exact ⟨[], traceOK_nil⟩
  | skip _ _ _ ih =>
    obtain ⟨new, h⟩ := ih
    exact ⟨new, traceOK_skip h⟩
  | atEnd _ _ => exact ⟨[], traceOK_nil⟩
  | stop _ he _ => exact ⟨[_], traceOK_run he (fun h => absurd rfl h) traceOK_nil⟩
  | run _ he hp _ ih =>
    obtain ⟨new, h⟩ := ih
    exact ⟨_ :: new, traceOK_run he (fun _ => continues_iff.mpr ⟨_, hp⟩) h⟩

/-! ## a whole flow (`doHandle`), and `thenFlow` against `Spec.thenRef` -/

theorem runFlow_eq (kind : String → String) (res : Nat → String) (flow : List Node) (hJ : JumpsOK flow)
    (tr : List Stat) : Spec.runFlow kind res flow tr = some (doHandle kind res flow tr) :=
  run_of_rel (loop_rel kind res flow 0 "" "" tr) hJ rfl (by decide) (Or.inl rfl) _ (Nat.le_refl _)

theorem doHandle_trace (kind : String → String) (res : Nat → String) (flow : List Node) (stats : List Stat) :
    ∃ new, TraceOK kind res flow 0 "" stats (doHandle kind res flow stats) new :=
  trace_of_rel (loop_rel kind res flow 0 "" "" stats)

/-- On a flow with unique targets a pending jump always finds its node, so the loop falls off the end of
the flow (`sawEnd = false`) only after a result `""`. -/
theorem open_of_rel {kind : String → String} {res : Nat → String} {flow rest : List Node} {i : Nat}
    {result next : String} {stats : List Stat} {out : String × List Stat × Bool}
    (h : LoopRel kind res rest i result next stats out) (hJ : JumpsOK flow) :
    flow.drop i = rest → (result = "" ∧ next = "" ∨ ∃ m ∈ rest, isTarget next m = true) → out.2.2 = false →
      out.1 = "" := by
  induction h with
  | nil =>
    rintro _ (⟨h0, _⟩ | ⟨m, hm, _⟩) _
    · exact h0
    · cases hm
  | skip h1 h2 _ ih =>
    rintro hd (⟨_, h0⟩ | ⟨m, hm, ht⟩) he
    · exact absurd h0 h1
    · rcases List.mem_cons.mp hm with rfl | hm'
      · exact absurd (isTarget_iff.mp ht).2.symm h2
      · exact ih (drop_succ_of_drop hd) (Or.inr ⟨m, hm', ht⟩) he
  | atEnd _ _ =>
    intro _ _ he
    cases he
  | stop _ _ _ =>
    intro _ _ he
    cases he
  | run _ hend hp _ ih =>
    intro hd _ he
    refine ih (drop_succ_of_drop hd) ?_ he
    rcases hp with ⟨hr, rfl⟩ | ⟨_, hl, _, hE⟩
    · exact Or.inl ⟨hr, rfl⟩
    · exact Or.inr (exists_of_filter_length_one (jump_target_unique hJ hd hend hl hE))

theorem doHandle_open_result (kind : String → String) (res : Nat → String) (flow : List Node)
    (hJ : JumpsOK flow) (stats : List Stat) (he : (doHandle kind res flow stats).2.2 = false) :
    (doHandle kind res flow stats).1 = "" :=
  open_of_rel (loop_rel kind res flow 0 "" "" stats) hJ rfl (Or.inl ⟨rfl, rfl⟩) he

/-- `doHandle` starts from result `""`: if that is what the stats so far end with (`h0`), the returned
result is again what the stats end with. -/
theorem doHandle_lastResult (kind : String → String) (res : Nat → String) (flow : List Node)
    (stats : List Stat) (h0 : lastResult stats = "") :
    lastResult (doHandle kind res flow stats).2.1 = (doHandle kind res flow stats).1 := by
  obtain ⟨new, h⟩ := doHandle_trace kind res flow stats
  rw [h.eq, h.last]
  unfold lastResult at h0 ⊢
  rw [List.getLast?_append]
  cases new.getLast? with
  | none => exact h0
  | some x => rfl

/-- the carried result is the last recorded one, and an open (not ended) state carries `""` -/
def GoodState (s : String × List Stat × Bool) : Prop :=
  lastResult s.2.1 = s.1 ∧ (s.2.2 = false → s.1 = "")

theorem thenFlow_good (res : Nat → String) (s : String × List Stat × Bool) (q : Option Pipe)
    (hs : GoodState s) (hq : ∀ p, q = some p → JumpsOK p.flow) :
    Spec.thenRef res (some (s.2.1, s.2.2)) q = some ((thenFlow res s q).2.1, (thenFlow res s q).2.2) ∧
      GoodState (thenFlow res s q) := by
  obtain ⟨r, t, e⟩ := s
  cases q with
  | none => exact ⟨by simp [Spec.thenRef, thenFlow], hs⟩
  | some p =>
    cases e with
    | true => exact ⟨by simp [Spec.thenRef, thenFlow], by simpa [thenFlow] using hs⟩
    | false =>
      have h0 : lastResult t = "" := by rw [hs.1]; exact hs.2 rfl
      refine ⟨by simp [Spec.thenRef, thenFlow, runFlow_eq p.kind res p.flow (hq p rfl) t], ?_⟩
      simp only [thenFlow, if_true]
      exact ⟨doHandle_lastResult p.kind res p.flow t h0, doHandle_open_result p.kind res p.flow (hq p rfl) t⟩

/-! ## stats order (used by `stats_order_is_execution_order`) -/

def StatsInOrder (res : Nat → String) (s : String × List Stat × Bool) : Prop :=
  ∀ k (hk : k < s.2.1.length), s.2.1[k].result = res k

theorem thenFlow_statsInOrder (res : Nat → String) (s : String × List Stat × Bool) (q : Option Pipe)
    (hs : StatsInOrder res s) : StatsInOrder res (thenFlow res s q) := by
  cases q with
  | none => exact hs
  | some q =>
    unfold thenFlow
    by_cases he : s.2.2 = false
    · simp only [he, if_true]
      obtain ⟨new, h⟩ := doHandle_trace q.kind res q.flow s.2.1
      intro k hk
      simp only [h.eq] at hk ⊢
      rw [List.getElem_append]
      split
      · exact hs k _
      · rw [h.results]
        congr 1
        omega
    · simp only [he]
      exact hs

/-! ## the synthesised flow (`flow` empty ⇒ one node per filter, in declaration order) -/

/-- the node `Pipeline.reload` appends for a filter spec: `FlowNode{FilterName: spec.Name()}` -/
def synthNode (f : String × String) : Node := ⟨f.1, "", "", []⟩

def synthStats (kind : String → String) : List (String × String) → Nat → List Stat
  | [], _ => []
  | f :: rest, i => ⟨i, f.1, f.1, kind f.1, DEFAULT, ""⟩ :: synthStats kind rest (i + 1)

theorem lookup_self_of_mem {fs : List (String × String)} {f : String × String} (h : f ∈ fs) :
    (fs.lookup f.1).isSome := by
  rw [Option.isSome_iff_ne_none, Ne, List.lookup_eq_none_iff]
  exact fun hn => by simpa using hn f h

theorem loop_synth (kind : String → String) (res : Nat → String) (hres : ∀ k, res k = "") :
    ∀ (l : List (String × String)) (i : Nat) (stats : List Stat), (∀ f ∈ l, f.1 ≠ END) →
      loop kind res (l.map synthNode) i "" "" stats = ("", stats ++ synthStats kind l i, false)
  | [], _, stats, _ => by rw [synthStats, List.append_nil]; rfl
  | f :: rest, i, stats, hE => by
    rw [List.map_cons, loop_cons_run (Or.inl rfl) (hE f List.mem_cons_self) (Or.inl ⟨hres _, rfl⟩), hres,
      loop_synth kind res hres rest (i + 1) _ (fun g hg => hE g (List.mem_cons_of_mem _ hg)),
      List.append_assoc]
    simp only [statAt, hres, synthStats]
    rfl

theorem synthStats_filters (kind : String → String) : ∀ (l : List (String × String)) (i : Nat),
    (synthStats kind l i).map (·.filter) = l.map (·.1)
  | [], _ => rfl
  | _ :: rest, i => by simp [synthStats, synthStats_filters kind rest (i + 1)]

theorem synthStats_idx (kind : String → String) : ∀ (l : List (String × String)) (i : Nat),
    (synthStats kind l i).map (·.idx) = List.range' i l.length
  | [], _ => rfl
  | _ :: rest, i => by simp [synthStats, synthStats_idx kind rest (i + 1), List.range'_succ]

end EgVerif.Pipeline
