import EgVerif.Proofs.TopicIR
/-!
# C14: `TopicManager.remove` regenerated from source (path cursors) equals the model's `remove`

`removeIR` (Gen/FactsC14IR.lean) has three phases like the Go code: walk down collecting `prevNodes` (early
`return nil` when a level is missing), `delete(node.clients, clientID)`, then the pruning loop over
`prevNodes[i].nodes[levels[i]]`, `i` counting DOWN (deepest node first), with its early return at the first
non-empty node. The model (`removeAux`) is recursive from the root. The bridge is `pr` (the pruning loop as a
function): below a node the loop works inside the child the path goes through and its last iteration looks at that
child (`pr_cons`), which is the recursion of `removeAux`.

Also here: the entry loops `subscribe` / `unsubscribe`, and that the cursors `remove` reads and writes through are
valid paths.
-/
namespace EgVerif.Topic
open EgVerif.Gen.FactsC14IR

/-- `prevNodes` after walking `ls` from the cursor `p` -/
def prefixes : List Level → List Level → List Ptr
  | _, [] => []
  | p, l :: ls => ⟨p, false⟩ :: prefixes (p ++ [l]) ls

theorem prefixes_length : ∀ (ls p : List Level), (prefixes p ls).length = ls.length := by
  intro ls
  induction ls with
  | nil => intro p; rfl
  | cons l r ih => intro p; simp [prefixes, ih]

theorem prefixes_getD : ∀ (ls p : List Level) (i : Nat), i < ls.length →
    (prefixes p ls).getD i (⟨[], false⟩ : Ptr) = ⟨p ++ ls.take i, false⟩ := by
  intro ls
  induction ls with
  | nil => intro p i h; simp at h
  | cons l r ih =>
    intro p i h
    cases i with
    | zero => simp [prefixes]
    | succ j =>
      have hj : j < r.length := by simpa using h
      simp only [prefixes, List.getD_cons_succ, List.take_succ_cons]
      rw [ih (p ++ [l]) j hj]
      simp

theorem remove_regenerated_from_source_loop1 (t0 : Trie) (topic : List Char) (c : Client) (root : Trie)
    (lv : List Level) (err : Bool) :
    ∀ (ls p : List Level) (nn : Ptr) (ok : Bool) (prev : List Ptr) (nd : Trie), ptrSub p root = some nd →
    (ptrSub (p ++ ls) root = none ∧
      removeIR_loop1 t0 topic c root lv err ⟨p, false⟩ nn ok prev ls = .inl (some root)) ∨
    ((ptrSub (p ++ ls) root).isSome = true ∧ ∃ nn' ok',
      removeIR_loop1 t0 topic c root lv err ⟨p, false⟩ nn ok prev ls =
        .inr (⟨p ++ ls, false⟩, nn', ok', prev ++ prefixes p ls)) := by
  intro ls
  induction ls with
  | nil =>
    intro p nn ok prev nd h
    rw [List.append_nil, h]
    exact Or.inr ⟨rfl, nn, ok, by rw [prefixes, List.append_nil]; rfl⟩
  | cons l ls ih =>
    intro p nn ok prev nd h
    have hsn := ptrSub_snoc l h
    rw [removeIR_loop1, show p ++ l :: ls = (p ++ [l]) ++ ls by simp]
    simp only [childPtr, h]
    cases hg : alGet l nd.children with
    | none => exact Or.inl ⟨by rw [ptrSub_append, hsn, hg]; rfl, rfl⟩
    | some ch =>
      rw [hg] at hsn
      rcases ih (p ++ [l]) ⟨p ++ [l], false⟩ true (prev ++ [⟨p, false⟩]) ch hsn with ⟨h1, h2⟩ | ⟨h1, nn', ok', h2⟩
      · exact Or.inl ⟨h1, h2⟩
      · refine Or.inr ⟨h1, nn', ok', h2.trans ?_⟩
        simp only [prefixes, List.append_assoc, List.singleton_append]

/-- `len(node.clients) == 0 && len(node.nodes) == 0` for the node at a path -/
def emptyAt (root : Trie) (p : List Level) : Bool :=
  (((nodeAt root ⟨p, false⟩).clients.length : Int) == 0) && (((nodeAt root ⟨p, false⟩).children.length : Int) == 0)

/-- the iterations `i = d - 1, …, 0` of the pruning loop over the path `full`; the flag tells whether the
loop is still running (no early `return`) -/
def pr (full : List Level) : Nat → Trie → Trie × Bool
  | 0, root => (root, true)
  | d + 1, root =>
    if emptyAt root (full.take (d + 1)) then
      pr full d (unlinkPtr root ⟨full.take d, false⟩ (full.getD d []))
    else (root, false)

def outOf : Sum (Option Trie) (Trie × Ptr) → Option Trie
  | .inl r => r
  | .inr (r, _) => some r

theorem take_succ_getD (ls : List Level) (d : Nat) (h : d < ls.length) :
    ls.take (d + 1) = ls.take d ++ [ls.getD d []] := by
  rw [List.take_add_one, List.getD_eq_getElem?_getD, List.getElem?_eq_getElem h]
  rfl

theorem remove_regenerated_from_source_loop2 (t0 : Trie) (topic : List Char) (c : Client) (ls : List Level)
    (err : Bool) (nn : Ptr) (ok : Bool) :
    ∀ (d : Nat) (root : Trie) (node : Ptr), d ≤ ls.length →
    outOf (removeIR_loop2 t0 topic c root ls err node nn ok (prefixes [] ls) (((d : Nat) : Int) - 1) d) =
      some (pr ls d root).1 := by
  intro d
  induction d with
  | zero => intro root node _; rfl
  | succ d ih =>
    intro root node hd
    have hlt : d < ls.length := hd
    have hpre : (prefixes [] ls).getD d (⟨[], false⟩ : Ptr) = ⟨ls.take d, false⟩ := prefixes_getD ls [] d hlt
    have hnode : childOf ⟨ls.take d, false⟩ (ls.getD d []) = ⟨ls.take (d + 1), false⟩ := by
      rw [take_succ_getD ls d hlt]; rfl
    rw [removeIR_loop2, pr, Int.natCast_succ, Int.add_sub_cancel, Int.toNat_natCast, hpre, hnode]
    show outOf (if emptyAt root (ls.take (d + 1)) = true then _ else _) = _
    split
    · exact ih _ _ (Nat.le_of_lt hlt)
    · rfl

theorem int_len_beq_zero {α : Type} (l : List α) : (((l.length : Nat) : Int) == 0) = l.isEmpty := by
  cases l <;> simp
  omega

theorem emptyAt_nil (n : Trie) : emptyAt n [] = n.isEmpty := by
  simp only [emptyAt, nodeAt, ptrSub, Option.getD_some, int_len_beq_zero, Trie.isEmpty]

section
variable (cl : List (Client × QoS)) (ch : List (Level × Trie))

theorem emptyAt_cons (l : Level) (n : Trie) (x : List Level) :
    emptyAt (.node cl (alSet l n ch)) (l :: x) = emptyAt n x := by
  simp only [emptyAt, nodeAt, ptrSub, alGet_alSet_self]

theorem unlinkPtr_cons (l k : Level) (n : Trie) (x : List Level) :
    unlinkPtr (.node cl (alSet l n ch)) ⟨l :: x, false⟩ k = .node cl (alSet l (unlinkPtr n ⟨x, false⟩ k) ch) := by
  simp only [unlinkPtr, ptrUpd, alGet_alSet_self, alSet_alSet_same]

/-- the pruning loop below a node works inside the child the path goes through; its last iteration then looks at
that child: this is the recursion of `removeAux` -/
theorem pr_cons (l : Level) (ls : List Level) :
    ∀ (d : Nat) (x : Trie), pr (l :: ls) (d + 1) (.node cl (alSet l x ch)) =
      match pr ls d x with
      | (x', true) => if x'.isEmpty then (.node cl (alErase l ch), true) else (.node cl (alSet l x' ch), false)
      | (x', false) => (.node cl (alSet l x' ch), false) := by
  intro d
  induction d with
  | zero =>
    intro x
    simp only [pr, List.take_succ_cons, List.take_zero, emptyAt_cons, emptyAt_nil, unlinkPtr, ptrUpd,
      Trie.clients, Trie.children, alErase_alSet_same, List.getD_cons_zero]
  | succ d ih =>
    intro x
    rw [pr, List.take_succ_cons, emptyAt_cons, List.take_succ_cons, List.getD_cons_succ, unlinkPtr_cons,
      pr.eq_2 ls]
    split
    · exact ih _
    · rfl

theorem isEmpty_node_alSet (l : Level) (x : Trie) :
    (Trie.node cl (alSet l x ch)).isEmpty = false := by
  simp [Trie.isEmpty, Trie.children, alSet_ne_nil]

end

theorem removeAux_eq_none (c : Client) : ∀ {ls : List Level} {t : Trie}, ptrSub ls t = none →
    removeAux ls c t = none := by
  intro ls
  induction ls with
  | nil => intro t h; cases h
  | cons l r ih =>
    intro t h
    cases t with
    | node cl ch =>
      rw [ptrSub] at h
      rw [removeAux]
      cases hg : alGet l ch with
      | none => rfl
      | some child =>
        rw [hg] at h
        simp only [ih h]

/-- **the pruning loop against the recursive model**: when the walk down succeeds, the model removes, and after
`delete(node.clients, c)` at the end of the path the loop leaves the model's result; if it returned early the
result is not empty (so the caller keeps it) -/
theorem prune_eq_removeAux (c : Client) : ∀ (ls : List Level) (t : Trie), (ptrSub ls t).isSome = true →
    ∃ t' go, removeAux ls c t = some t' ∧ pr ls ls.length (delClientPtr t ⟨ls, false⟩ c) = (t', go) ∧
      (go = false → t'.isEmpty = false) := by
  intro ls
  induction ls with
  | nil =>
    intro t _
    cases t with
    | node cl ch => exact ⟨_, true, rfl, rfl, fun h => by cases h⟩
  | cons l ls ih =>
    intro t h
    cases t with
    | node cl ch =>
      rw [ptrSub] at h
      cases hg : alGet l ch with
      | none => rw [hg] at h; cases h
      | some child =>
        rw [hg] at h
        obtain ⟨child', go, hrc, e, hne⟩ := ih child h
        have hdel : delClientPtr (.node cl ch) ⟨l :: ls, false⟩ c =
            .node cl (alSet l (delClientPtr child ⟨ls, false⟩ c) ch) := by
          simp only [delClientPtr, ptrUpd, hg]
        rw [List.length_cons, hdel, pr_cons, e]
        simp only [removeAux, hg, hrc]
        cases go with
        | true =>
          by_cases hem : child'.isEmpty = true
          · exact ⟨_, true, if_pos hem, if_pos hem, fun h => by cases h⟩
          · exact ⟨_, false, if_neg hem, if_neg hem, fun _ => isEmpty_node_alSet ..⟩
        | false =>
          rw [hne rfl]
          exact ⟨_, false, rfl, rfl, fun _ => isEmpty_node_alSet ..⟩

/-- **`TopicManager.remove`** (walk down with the `prevNodes` stack and the early `return nil`, delete the
client, prune empty nodes bottom-up until the first non-empty one): with pointers read as path cursors, the
generated definition equals the model's `remove` on every trie, topic and client. -/
theorem remove_regenerated_from_source (t : Trie) (topic : List Char) (c : Client) :
    removeIR t topic c = (split topic).map (fun ls => remove ls c t) := by
  unfold removeIR getLevelsE
  cases hs : split topic with
  | none => simp
  | some ls =>
    simp only [Bool.false_eq_true, if_false, Option.map_some, remove]
    rcases remove_regenerated_from_source_loop1 t topic c t ls false ls [] ⟨[], false⟩ false [] t rfl with
      ⟨h1, h2⟩ | ⟨h1, nn', ok', h2⟩
    · rw [h2, removeAux_eq_none c (ls := ls) h1]
      rfl
    · obtain ⟨nd', go, hr, hp, _⟩ := prune_eq_removeAux c ls t h1
      have h3 := remove_regenerated_from_source_loop2 t topic c ls false nn' ok' ls.length
        (delClientPtr t ⟨ls, false⟩ c) ⟨ls, false⟩ (Nat.le_refl _)
      rw [hp] at h3
      rw [h2, hr]
      simp only [List.nil_append]
      rw [prefixes_length, Int.sub_zero, Int.sub_add_cancel, Int.toNat_natCast, Option.getD_some]
      exact h3

/-! ### `TopicManager.subscribe` / `unsubscribe` (entry loops; `mgr.insert` / `mgr.remove` = the model functions) -/

theorem subscribe_regenerated_from_source_loop1 (t0 : Trie) (tp : List (List Char)) (qs : List QoS) (c : Client)
    (root : Trie) : ∀ (l : List (List Char)),
    subscribeIR_loop1 t0 tp qs c root l = if l.all (fun f => (split f).isSome) then .inr () else .inl none := by
  intro l
  induction l with
  | nil => rfl
  | cons f r ih =>
    cases hs : split f with
    | none => simp [subscribeIR_loop1, getLevelsE, List.all_cons, hs]
    | some ls => simp [subscribeIR_loop1, getLevelsE, List.all_cons, hs, ih]

theorem getD_map_snd (pre : List (List Char × QoS)) (f : List Char) (q : QoS) (r : List (List Char × QoS)) :
    ((pre ++ (f, q) :: r).map Prod.snd).getD pre.length 0 = q := by
  induction pre with
  | nil => rfl
  | cons a t ih => exact ih

theorem subscribe_regenerated_from_source_loop2 (t0 : Trie) (c : Client) :
    ∀ (suffix pre : List (List Char × QoS)) (root : Trie), (∀ p ∈ suffix, (split p.1).isSome = true) →
    subscribeIR_loop2 t0 ((pre ++ suffix).map Prod.fst) ((pre ++ suffix).map Prod.snd) c root pre.length
        (suffix.map Prod.fst) = .inr (insertAll c suffix root) := by
  intro suffix
  induction suffix with
  | nil => intro pre root _; rfl
  | cons p r ih =>
    intro pre root hv
    obtain ⟨f, q⟩ := p
    have hf : (split f).isSome = true := hv (f, q) (List.mem_cons_self)
    obtain ⟨ls, hls⟩ := Option.isSome_iff_exists.mp hf
    simp only [List.map_cons, subscribeIR_loop2, getD_map_snd, hls, Option.isNone_some, Bool.false_eq_true,
      if_false, insertAll, insertTM, Option.map_some, Option.getD_some]
    have := ih (pre ++ [(f, q)]) (insert ls c q root) (fun p hp => hv p (List.mem_cons_of_mem _ hp))
    simpa using this

/-- **`TopicManager.subscribe`** (repaired by fix 7d6df9f: every filter is validated BEFORE the first insert):
the generated definition equals the model's `subscribeTM` — a packet with a malformed filter changes nothing. -/
theorem subscribe_regenerated_from_source (t : Trie) (fs : List (List Char × QoS)) (c : Client) :
    subscribeIR t (fs.map Prod.fst) (fs.map Prod.snd) c = subscribeTM c fs t := by
  have hall : (fs.map Prod.fst).all (fun f => (split f).isSome) = fs.all (fun p => (split p.1).isSome) :=
    List.all_map
  rw [subscribeIR, subscribeTM, subscribe_regenerated_from_source_loop1, hall]
  cases hv : fs.all (fun p => (split p.1).isSome) with
  | false => rfl
  | true =>
    have h2 := subscribe_regenerated_from_source_loop2 t c fs [] t (fun p hp => List.all_eq_true.mp hv p hp)
    rw [List.nil_append, List.length_nil] at h2
    simp only [if_true]
    rw [h2]

theorem unsubscribe_regenerated_from_source_loop (t0 : Trie) (tp : List (List Char)) (c : Client) :
    ∀ (l : List (List Char)) (root : Trie) (fe : Bool),
    unsubscribeIR_loop1 t0 tp c root fe l =
      .inr (unsubscribeTM c l root, fe || !l.all (fun f => (split f).isSome)) := by
  intro l
  induction l with
  | nil => intro root fe; simp [unsubscribeIR_loop1, unsubscribeTM]
  | cons f r ih =>
    intro root fe
    cases hs : split f with
    | none => cases fe <;> simp [unsubscribeIR_loop1, removeTM, unsubscribeTM, List.all_cons, hs, ih]
    | some ls => cases fe <;> simp [unsubscribeIR_loop1, removeTM, unsubscribeTM, List.all_cons, hs, ih]

/-- **`TopicManager.unsubscribe`** (repaired: a malformed filter is reported but does not stop the loop) -/
theorem unsubscribe_regenerated_from_source (t : Trie) (fs : List (List Char)) (c : Client) :
    unsubscribeIR t fs c = (unsubscribeTM c fs t, !fs.all (fun f => (split f).isSome)) := by
  simp [unsubscribeIR, unsubscribe_regenerated_from_source_loop]

/-! ### cursor validity is an INVARIANT of the translated loops

The path-cursor operations are total (`ptrUpd` leaves the trie alone and `nodeAt` reads `Trie.empty` when the path
leaves the trie). Those branches are never taken by `insertIR` / `removeIR`: every pointer that is read or written
through is a valid path of the current trie. For `insert` this is part of `insert_regenerated_from_source_loop`; the theorems
here are about `remove`. (What stays an assumption is the reading of Go pointers as paths at all, i.e. that the
Go heap below `mgr.root` is a tree; see notes/C14.md.) -/

/-- all paths the pruning loop reads (`nodeAt`) and writes through (`unlinkPtr`) are valid -/
def prValid (full : List Level) (lo : Nat) : Nat → Trie → Prop
  | 0, _ => True
  | d + 1, root =>
    (ptrSub (full.take (lo + d + 1)) root).isSome = true ∧ (ptrSub (full.take (lo + d)) root).isSome = true ∧
    (emptyAt root (full.take (lo + d + 1)) = true →
      prValid full lo d (unlinkPtr root ⟨full.take (lo + d), false⟩ (full.getD (lo + d) [])))

theorem pr_valid (full : List Level) (lo : Nat) : ∀ (d : Nat) (root : Trie), lo + d ≤ full.length →
    (ptrSub (full.take (lo + d)) root).isSome = true → prValid full lo d root := by
  intro d
  induction d with
  | zero => intro root _ _; trivial
  | succ d ih =>
    intro root hlen hv
    have hlt : lo + d < full.length := hlen
    have hv' : (ptrSub (full.take (lo + d + 1)) root).isSome = true := hv
    have hpre : (ptrSub (full.take (lo + d)) root).isSome = true := by
      rw [take_succ_getD full (lo + d) hlt, ptrSub_append] at hv'
      cases hs : ptrSub (full.take (lo + d)) root with
      | none => rw [hs] at hv'; cases hv'
      | some _ => rfl
    refine ⟨hv', hpre, fun _ => ih _ (Nat.le_of_lt hlt) ?_⟩
    obtain ⟨nd, hnd⟩ := Option.isSome_iff_exists.mp hpre
    simp only [unlinkPtr]
    rw [ptrSub_ptrUpd _ hnd]
    rfl

/-- `remove`: after the walk down succeeded (`ptrSub ls t` is some node) every pointer the deletion and the
pruning loop use is valid: the full path for `delete(node.clients, c)`, and `prValid` for the loop -/
theorem remove_cursors_valid (ls : List Level) (t : Trie) (c : Client) (h : (ptrSub ls t).isSome = true) :
    prValid ls 0 ls.length (delClientPtr t ⟨ls, false⟩ c) := by
  apply pr_valid ls 0 ls.length _ (Nat.le_of_eq (Nat.zero_add _))
  obtain ⟨nd, hnd⟩ := Option.isSome_iff_exists.mp h
  simp only [Nat.zero_add, List.take_length, delClientPtr]
  rw [ptrSub_ptrUpd _ hnd]
  rfl

end EgVerif.Topic
