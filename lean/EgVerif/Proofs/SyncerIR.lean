import EgVerif.Proofs.Syncer
import EgVerif.Gen.FactsC19IR
/-!
Regenerated tie by translation for C19 (`notes/IR.md`): `Gen.FactsC19IR.*IR` are produced on every run by
the go/ast micro-translator from the current bodies of `isKeyValueEqual`, `isDataEqual`, `syncer.pull`, of
the closure `pullCompareSend` inside `syncer.run` and of the four `fn` closures of the `Sync*` adapters
(pkg/cluster/syncer.go), and of the four getters below `pull` (pkg/cluster/op.go); they are the hand-written
functions of `Model/Syncer.lean`. A changed comparison,
operand, branch order, a `send` before `data = newData`, a dropped error return … changes the generated
definition and breaks these proofs (the broken theorem is named by `bin/check`).
-/
namespace EgVerif.Syncer
open EgVerif.Gen.FactsC19IR

/-- `isKeyValueEqual`: the source computes the model's function and never reads through a nil pointer
(`none` would be the nil dereference). -/
theorem isKeyValueEqual_regenerated_from_source (a b : Option KV) :
    isKeyValueEqualIR a b = some (isKeyValueEqual a b) := by
  cases a <;> cases b <;> simp [isKeyValueEqualIR, isKeyValueEqual, kvKey, kvValue]

/-- The range loop of `isDataEqual`: per entry of `data1` a lookup of *its key* in `data2`, missing ⇒ false,
values compared by `isKeyValueEqual` (entry of `data1` first). -/
theorem isDataEqual_regenerated_from_source_loop (d1 d2 l : Data) :
    isDataEqualIR_loop1 d1 d2 l =
      if l.all (fun e => match d2.lookup e.1 with
        | none => false
        | some kv2 => isKeyValueEqual e.2 kv2) then .inr () else .inl false := by
  induction l with
  | nil => rfl
  | cons e r ih =>
    obtain ⟨k, v⟩ := e
    cases h : d2.lookup k with
    | none => simp only [isDataEqualIR_loop1, lookup2, h, List.all_cons]; rfl
    | some kv2 =>
      simp only [isDataEqualIR_loop1, lookup2, h, ih, List.all_cons]
      cases isKeyValueEqual v kv2 <;> rfl

theorem isDataEqual_regenerated_from_source (d1 d2 : Data) : isDataEqualIR d1 d2 = isDataEqual d1 d2 := by
  rw [isDataEqualIR, isDataEqual, isDataEqual_regenerated_from_source_loop]
  split
  · rfl
  · cases List.all d1 _ <;> rfl

/-- `syncer.pull(key, prefix)`: a prefix read of `key` when `prefix`, else a plain read of `key`; an
error is handed on (`none`), a missing key is the empty map, a found one the singleton keyed by `kv.Key`. -/
theorem pull_regenerated_from_source (cl : Bool → String → EtcdResp) (key : String) (pfx : Bool) :
    pullIR cl key pfx = pull pfx (cl pfx key) := by
  cases pfx
  · simp only [pullIR, pull, Bool.false_eq_true, ↓reduceIte]
    cases cl false key with
    | error => simp [getRaw]
    | kvs l => cases l <;> simp [getRaw, mapSet, kvKey]
  · simp only [pullIR, pull, ↓reduceIte]
    cases cl true key <;> simp [getRawPrefix]

/-- The closure `pullCompareSend` of `run`: pulls *this* key / prefix; on error returns with `data` and the
deliveries untouched; compares the *old* `data` with the pulled map; on a difference assigns first and then
sends the *new* map exactly once. `S i` is the content the pull returned. -/
theorem pullCompareSend_regenerated_from_source (S : Nat → Data) (st : St) (r : Option Nat)
    (pl : String → Bool → Option Data) (key : String) (pfx : Bool) (h : pl key pfx = r.map S) :
    pullCompareSendIR pl key pfx st.last (st.sentRev.map Prod.snd) =
      ((pullCompareSend S st r).last, (pullCompareSend S st r).sentRev.map Prod.snd) := by
  rw [pullCompareSendIR, h]
  cases r with
  | none => rfl
  | some i =>
    cases hd : isDataEqual st.last (S i) with
    | true => rw [pullCompareSend_same hd]; simp [pullE, hd]
    | false => rw [pullCompareSend_new hd]; simp [pullE, hd]

theorem syncSend_regenerated_from_source (key : String) (data : Data) (out : List (Option String)) :
    syncSendIR key data out = sendSync key data :: out := by
  unfold syncSendIR sendSync lookup1 lookup2
  rcases data.lookup key with _ | _ | kv <;> rfl

theorem syncRawSend_regenerated_from_source (key : String) (data : Data) (out : List (Option KV)) :
    syncRawSendIR key data out = sendSyncRaw key data :: out := by
  unfold syncRawSendIR sendSyncRaw lookup1 lookup2
  cases data.lookup key <;> rfl

theorem lookup_isSome_false {α : Type} (m : List (String × α)) (k : String) (h : k ∉ m.map Prod.fst) :
    (m.lookup k).isSome = false := by
  induction m with
  | nil => rfl
  | cons e r ih =>
    obtain ⟨k', v'⟩ := e
    obtain ⟨hne, hr⟩ := not_or.mp (List.mem_cons.not.mp h)
    rw [List.lookup_cons, beq_false_of_ne hne]
    exact ih hr

theorem mapSet_fresh {m : Data} {k : String} (h : k ∉ keys m) (v : Option KV) : mapSet m k v = m ++ [(k, v)] := by
  rw [mapSet, lookup_isSome_false m k h]; rfl

theorem smapSet_fresh {m : List (String × String)} {k : String} (h : k ∉ m.map Prod.fst) (v : String) :
    smapSet m k v = m ++ [(k, v)] := by
  rw [smapSet, lookup_isSome_false m k h]; rfl

/-- The copy loops below run over entries whose keys `k :: ks` are distinct and not yet in the map `m` built so
far; after one iteration the same holds of `ks` and `m ++ [(k, v)]`. -/
theorem fresh_step {α : Type} {m : List (String × α)} {k : String} {ks : List String}
    (h : (m.map Prod.fst ++ k :: ks).Nodup) (v : α) :
    k ∉ m.map Prod.fst ∧ ((m ++ [(k, v)]).map Prod.fst ++ ks).Nodup := by
  refine ⟨fun hk => (List.nodup_append.mp h).2.2 k hk k List.mem_cons_self rfl, ?_⟩
  rw [List.map_append, List.append_assoc]
  exact h

/-- The copy loop of `SyncPrefix`: over distinct keys not yet in `m` it appends `key → string(v.Value)` in
order, and stops with the nil dereference at the first nil entry. -/
theorem syncPrefixSend_regenerated_from_source_loop (key : String) (data : Data) (o0 o : List (List (String × String)))
    (l : Data) : ∀ m : List (String × String), (m.map Prod.fst ++ keys l).Nodup →
      syncPrefixSendIR_loop1 key data o0 o m l =
        match sendSyncPrefix l with
        | none => .inl none
        | some r => .inr (m ++ r) := by
  induction l with
  | nil => intro m _; simp only [syncPrefixSendIR_loop1, sendSyncPrefix, List.append_nil]
  | cons e rest ih =>
    intro m h
    obtain ⟨k, _ | kv⟩ := e
    · simp only [syncPrefixSendIR_loop1, sendSyncPrefix, Option.isSome_none, Bool.false_eq_true, ↓reduceIte]
    · obtain ⟨hk, h'⟩ := fresh_step h kv.value
      simp only [syncPrefixSendIR_loop1, kvValue, smapSet_fresh hk, Option.isSome_some, ↓reduceIte, ih _ h',
        sendSyncPrefix]
      cases sendSyncPrefix rest with
      | none => rfl
      | some r => simp only [Option.map_some, List.append_assoc, List.singleton_append]

theorem syncPrefixSend_regenerated_from_source (key : String) (data : Data) (out : List (List (String × String)))
    (hm : IsMap data) : syncPrefixSendIR key data out = (sendSyncPrefix data).map (· :: out) := by
  simp only [syncPrefixSendIR, syncPrefixSend_regenerated_from_source_loop key data out out data [] hm]
  cases sendSyncPrefix data <;> rfl

theorem syncRawPrefixSend_regenerated_from_source_loop (key : String) (data : Data) (o0 o : List Data) (l : Data) :
    ∀ m : Data, (keys m ++ keys l).Nodup → syncRawPrefixSendIR_loop1 key data o0 o m l = .inr (m ++ l) := by
  induction l with
  | nil => intro m _; rw [syncRawPrefixSendIR_loop1, List.append_nil]
  | cons e rest ih =>
    intro m h
    obtain ⟨hk, h'⟩ := fresh_step h e.2
    simp only [syncRawPrefixSendIR_loop1, mapSet_fresh hk, ih _ h', List.append_assoc, List.singleton_append]

theorem syncRawPrefixSend_regenerated_from_source (key : String) (data : Data) (out : List Data)
    (hm : IsMap data) : syncRawPrefixSendIR key data out = sendSyncRawPrefix data :: out := by
  simp only [syncRawPrefixSendIR, syncRawPrefixSend_regenerated_from_source_loop key data out out data [] hm,
    sendSyncRawPrefix, List.nil_append, List.map_id']

/-! ### The getters of `pkg/cluster/op.go` below `syncer.pull`: each is ONE `client.Get` -/

/-- An etcd range response lists every key once. -/
def RespWF : EtcdResp → Prop
  | .error => True
  | .kvs l => (l.map KV.key).Nodup

variable (cl : Bool → String → EtcdResp) (gc : Bool) (key : String)

theorem getRaw_regenerated_from_source : getRawIR cl gc key = getRaw (respOf cl gc false key) := by
  cases gc with
  | true => rfl
  | false =>
    simp only [getRawIR, respOf, Bool.false_eq_true, ↓reduceIte]
    cases cl false key with
    | error => rfl
    | kvs l => cases l <;> rfl

theorem getRawPrefix_regenerated_from_source_loop (client : Bool → String → EtcdResp) (e : Bool) (resp l : List KV) :
    ∀ m : Data, (keys m ++ l.map KV.key).Nodup →
      getRawPrefixIR_loop1 cl gc key m client e resp (l.map some) = .inr (m ++ l.map (fun kv => (kv.key, some kv))) := by
  induction l with
  | nil => intro m _; rw [List.map_nil, getRawPrefixIR_loop1, List.map_nil, List.append_nil]
  | cons kv rest ih =>
    intro m h
    obtain ⟨hk, h'⟩ := fresh_step h (some kv)
    simp only [List.map_cons, getRawPrefixIR_loop1, kvKey, mapSet_fresh hk, ih _ h', List.append_assoc,
      List.singleton_append]

/-- `GetRawPrefix`: exactly one `client.Get(ctx, prefix, clientv3.WithPrefix())`; the result is that one
response's key-values (so a pull of a prefix is ONE linearizable range read). -/
theorem getRawPrefix_regenerated_from_source (hwf : RespWF (cl true key)) :
    getRawPrefixIR cl gc key = getRawPrefix (respOf cl gc true key) := by
  cases gc with
  | true => rfl
  | false =>
    simp only [getRawPrefixIR, respOf, Bool.false_eq_true, ↓reduceIte]
    cases hc : cl true key with
    | error => rfl
    | kvs l =>
      rw [hc] at hwf
      simp only [getE, Bool.false_eq_true, ↓reduceIte, getRawPrefix,
        getRawPrefix_regenerated_from_source_loop cl false key cl false l l [] hwf, List.nil_append]

theorem get_regenerated_from_source : getIR cl gc key = get (respOf cl gc false key) := by
  simp only [getIR, get]
  rcases getRaw (respOf cl gc false key) with ⟨_ | kv, _ | _⟩ <;> rfl

theorem getPrefix_regenerated_from_source_loop (raw : Data) (e : Bool) (l : List KV) :
    ∀ m : List (String × String), (m.map Prod.fst ++ l.map KV.key).Nodup →
      getPrefixIR_loop1 cl gc key m raw e (l.map (fun kv => (kv.key, some kv))) =
        .inr (m ++ l.map (fun kv => (kv.key, kv.value))) := by
  induction l with
  | nil => intro m _; rw [List.map_nil, getPrefixIR_loop1, List.map_nil, List.append_nil]
  | cons kv rest ih =>
    intro m h
    obtain ⟨hk, h'⟩ := fresh_step h kv.value
    simp only [List.map_cons, getPrefixIR_loop1, kvKey, kvValue, smapSet_fresh hk, ih _ h', List.append_assoc,
      List.singleton_append]

theorem getPrefix_regenerated_from_source (hwf : RespWF (cl true key)) :
    getPrefixIR cl gc key = getPrefix (respOf cl gc true key) := by
  cases gc with
  | true => rfl
  | false =>
    simp only [getPrefixIR, respOf, Bool.false_eq_true, ↓reduceIte]
    cases hc : cl true key with
    | error => rfl
    | kvs l =>
      rw [hc] at hwf
      simp only [getRawPrefix, Bool.false_eq_true, ↓reduceIte, getPrefix,
        getPrefix_regenerated_from_source_loop cl false key _ false l [] hwf, List.nil_append]

end EgVerif.Syncer
