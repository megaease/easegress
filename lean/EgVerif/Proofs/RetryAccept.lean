import EgVerif.Proofs.Retry
import EgVerif.Model.CircuitBreaker
/-!
# The C10 judge's spec breaker against C08's model

`CBRel`: the judge's spec breaker `Retry.CB` (two counters and a flag) describes C08's model of
`circuitbreaker.CircuitBreaker` under the harness' policy (`harnessPolicy`: count based window of `N`,
one hour open / slow thresholds). It is established by `New` (`cbrel_new`) and preserved by one acquire +
record while fewer than `N` calls were recorded and less than the open time has passed (`cbrel_step`).
-/
namespace EgVerif.Retry

open EgVerif.CircuitBreaker in
/-- the policy the C10 harness injects: count based window of `N` calls, `PermittedNumberOfCallsInHalfOpen` 1,
`SlowCallRateThreshold` 100, slow-call and open durations `W` (one hour) -/
def harnessPolicy (mc th N : Nat) (W : Int) : CircuitBreaker.Policy :=
  { failTh := th, slowTh := 100, timeBased := false, size := N, permitted := 1, minCalls := mc,
    slowDur := W, maxWaitHalf := 0, waitOpen := W }

/-- the spec breaker `s` describes C08's breaker `c` (window of `N`, created at or after `t0`) -/
structure CBRel (N : Nat) (t0 : Int) (s : CB) (c : CircuitBreaker.CB) : Prop where
  isOpen : s.isOpen = true → c.st = .open ∧ t0 ≤ c.transit
  closed : s.isOpen = false → c.st = .closed ∧ ∃ w, c.win = .count w ∧ w.total = s.total ∧
    w.failure = s.failures ∧ w.slow = 0 ∧ w.idx = s.total ∧ w.bucket.length = N ∧
    ∀ j, s.total ≤ j → w.bucket.getD j .unknown = .unknown

theorem cbrel_state {N : Nat} {t0 : Int} {s : CB} {c : CircuitBreaker.CB} (h : CBRel N t0 s c) :
    c.st.toNat = s.state := by
  unfold CB.state
  cases ho : s.isOpen with
  | true => rw [(h.isOpen ho).1]; rfl
  | false => rw [(h.closed ho).1]; rfl

/-- `circuitbreaker.New(policy)` at `t0` is the fresh spec breaker -/
theorem cbrel_new (mc th N : Nat) (W t0 : Int) :
    CBRel N t0 { minCalls := mc, threshold := th } (CircuitBreaker.new (harnessPolicy mc th N W) t0) := by
  refine ⟨fun h => by simp at h, fun _ => ?_⟩
  refine ⟨by simp [CircuitBreaker.new, CircuitBreaker.transitTo, CircuitBreaker.zero], ?_⟩
  refine ⟨CircuitBreaker.newCountWin N, ?_, rfl, rfl, rfl, rfl, by simp [CircuitBreaker.newCountWin], ?_⟩
  · simp [CircuitBreaker.new, CircuitBreaker.transitTo, CircuitBreaker.zero, harnessPolicy]
  · intro j _
    simp only [CircuitBreaker.newCountWin, List.getD_eq_getElem?_getD]
    by_cases hj : j < N
    · simp [hj]
    · simp [hj]

/-- `AcquirePermission` answers `!isOpen` and changes nothing (closed, or open for less than the open time) -/
theorem cbrel_acquire {mc th N : Nat} {W t0 now : Int} {s : CB} {c : CircuitBreaker.CB}
    (h : CBRel N t0 s c) (hnow : now < t0 + W) :
    CircuitBreaker.acquire (harnessPolicy mc th N W) c now = (c, ⟨!s.isOpen, c.stateID⟩) := by
  cases ho : s.isOpen with
  | true =>
    obtain ⟨hst, ht⟩ := h.isOpen ho
    have : now - c.transit < W := by omega
    simp [CircuitBreaker.acquire, hst, harnessPolicy, this]
  | false =>
    obtain ⟨hst, _⟩ := h.closed ho
    simp [CircuitBreaker.acquire, hst]

section
open CircuitBreaker

/-- `Push` into a count window whose current slot is unused and not the last one -/
theorem push_unused (w : CountWin) (r : Res) (hold : w.bucket.getD w.idx .unknown = .unknown)
    (hidx : w.idx + 1 < w.bucket.length) :
    w.push r = ⟨w.total + 1, if r = .slow then w.slow + 1 else w.slow,
      if r = .failure then w.failure + 1 else w.failure, w.idx + 1, w.bucket.set w.idx r⟩ := by
  simp only [CountWin.push, hold, if_true, reduceCtorEq, if_false, if_neg (Nat.not_le.mpr hidx)]

/-- `RecordResult` with the current state id on a closed breaker -/
theorem record_closed {P : Policy} {c : CircuitBreaker.CB} (hst : c.st = .closed) (f : Bool) (d now : Int) :
    record P c c.stateID f d now =
      (let c1 : CircuitBreaker.CB := { c with win := c.win.push now (classify P f d) }
       if c1.win.total < P.minCalls then c1
       else if c1.win.failureRate ≥ P.failTh then transitTo P c1 now .open
       else if c1.win.slowRate ≥ P.slowTh then transitTo P c1 now .open
       else c1) := by
  simp only [record, ne_eq, not_true_eq_false, if_false, hst, reduceCtorEq, false_and]

/-- one admitted call's `RecordResult` is the spec breaker's `record` (fewer than `N − 1` calls so far,
the call was not slow) -/
theorem cbrel_record {mc th N : Nat} {W t0 now d : Int} {s : CB} {c : CircuitBreaker.CB}
    (h : CBRel N t0 s c) (hmc : s.minCalls = mc) (hth : s.threshold = th)
    (ho : s.isOpen = false) (hN : s.total + 1 < N) (hd : d < W) (hnow : t0 ≤ now) (f : Bool) :
    CBRel N t0 (s.record f) (CircuitBreaker.record (harnessPolicy mc th N W) c c.stateID f d now) := by
  obtain ⟨hst, w, hw, htot, hfail, hslow, hidx, hlen, hunk⟩ := h.closed ho
  subst hmc hth
  have hcl : classify (harnessPolicy s.minCalls s.threshold N W) f d = if f then .failure else .success := by
    simp only [classify, harnessPolicy, ge_iff_le, if_neg (Int.not_le.mpr hd)]
  have hpush : c.win.push now (if f then .failure else .success) =
      .count ⟨s.total + 1, 0, s.failures + (if f then 1 else 0), s.total + 1,
        w.bucket.set s.total (if f then .failure else .success)⟩ := by
    rw [hw, Win.push, push_unused w _ (hunk _ (Nat.le_of_eq hidx.symm)) (by omega), htot, hfail, hslow, hidx]
    cases f <;> rfl
  rw [record_closed hst, hcl, CB.record, if_neg (ne_true_of_eq_false ho)]
  simp only [hpush, Win.total, Win.failureRate, Win.slowRate, Win.failure, Win.slow, harnessPolicy]
  generalize s.failures + (if f = true then 1 else 0) = fl
  generalize (if f = true then Res.failure else Res.success) = r
  -- after the push the breaker is either still closed, with the window the spec breaker's counters describe …
  have hclosed : ∀ b, b = false → CBRel N t0 ⟨s.minCalls, s.threshold, s.total + 1, fl, b⟩
      { c with win := .count ⟨s.total + 1, 0, fl, s.total + 1, w.bucket.set s.total r⟩ } := by
    rintro _ rfl
    refine ⟨nofun, fun _ => ⟨hst, _, rfl, rfl, rfl, rfl, rfl, (List.length_set ..).trans hlen, fun j hj => ?_⟩⟩
    rw [List.getD_eq_getElem?_getD, List.getElem?_set_ne (Nat.ne_of_lt hj), ← List.getD_eq_getElem?_getD]
    exact hunk j (Nat.le_of_succ_le hj)
  by_cases h1 : s.total + 1 < s.minCalls
  · rw [if_pos h1]
    exact hclosed _ (by rw [decide_eq_false (Nat.not_le.mpr h1)]; rfl)
  · rw [if_neg h1]
    by_cases h2 : fl * 100 / (s.total + 1) ≥ s.threshold
    · -- … or has just opened
      rw [if_pos h2, decide_eq_true (Nat.le_of_not_lt h1), decide_eq_true h2]
      refine ⟨fun _ => ?_, nofun⟩
      simp only [transitTo, hst, reduceCtorEq, if_false]
      exact ⟨trivial, hnow⟩
    · rw [if_neg h2, if_neg (by rw [Nat.zero_mul, Nat.zero_div]; decide)]
      exact hclosed _ (by rw [decide_eq_false h2, Bool.and_false])
end

/-- one client request at the breaker: acquire at `r.2.1`, and, if admitted, record flag `r.1` with
duration `r.2.2.1` at `r.2.2.2` -/
def c08Step (P : CircuitBreaker.Policy) (c : CircuitBreaker.CB) (r : Bool × Int × Int × Int) :
    CircuitBreaker.CB :=
  let a := CircuitBreaker.acquire P c r.2.1
  if a.2.permitted then CircuitBreaker.record P a.1 a.2.id r.1 r.2.2.1 r.2.2.2 else a.1

theorem cbrel_step {mc th N : Nat} {W t0 : Int} {s : CB} {c : CircuitBreaker.CB}
    (h : CBRel N t0 s c) (hmc : s.minCalls = mc) (hth : s.threshold = th)
    (hN : s.total + 1 < N) (r : Bool × Int × Int × Int)
    (hacq : r.2.1 < t0 + W) (hd : r.2.2.1 < W) (hrec : t0 ≤ r.2.2.2) :
    CBRel N t0 (s.record r.1) (c08Step (harnessPolicy mc th N W) c r) := by
  unfold c08Step
  rw [cbrel_acquire h hacq]
  cases ho : s.isOpen with
  | true =>
    have : s.record r.1 = s := by unfold CB.record; simp [ho]
    simpa [this] using h
  | false =>
    simp only [Bool.not_false, if_true]
    exact cbrel_record h hmc hth ho hN hd hrec r.1

theorem record_fields (s : CB) (f : Bool) :
    (s.record f).minCalls = s.minCalls ∧ (s.record f).threshold = s.threshold ∧
      (s.record f).total ≤ s.total + 1 := by
  unfold CB.record
  split
  · exact ⟨rfl, rfl, Nat.le_succ _⟩
  · exact ⟨rfl, rfl, Nat.le_refl _⟩

/-- any sequence of client requests shorter than the window, all within the open time of `t0` -/
theorem cbrel_run {mc th N : Nat} {W t0 : Int} : ∀ (rs : List (Bool × Int × Int × Int)) (s : CB)
    (c : CircuitBreaker.CB), CBRel N t0 s c → s.minCalls = mc → s.threshold = th →
    s.total + rs.length < N →
    (∀ r ∈ rs, r.2.1 < t0 + W ∧ r.2.2.1 < W ∧ t0 ≤ r.2.2.2) →
    CBRel N t0 (rs.foldl (fun s r => s.record r.1) s) (rs.foldl (c08Step (harnessPolicy mc th N W)) c) := by
  intro rs s c h hmc hth hN hr
  induction rs generalizing s c with
  | nil => exact h
  | cons r rs ih =>
    rw [List.length_cons] at hN
    obtain ⟨h1, h2, h3⟩ := hr r List.mem_cons_self
    obtain ⟨hmc', hth', hle⟩ := record_fields s r.1
    exact ih (s.record r.1) _ (cbrel_step h hmc hth (by omega) r h1 h2 h3) (hmc'.trans hmc) (hth'.trans hth)
      (by omega) fun r' hr' => hr r' (List.mem_cons_of_mem _ hr')

end EgVerif.Retry
