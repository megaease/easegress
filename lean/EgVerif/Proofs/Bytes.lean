import EgVerif.Model.Signer
/-!
Lemmas about the byte-string functions of `Model/Signer.lean` (`stripPrefix`, `splitFirst`, `splitOn`, `joinB`,
`trimLeft`, `trimSpace`): when a strip or split succeeds, and that splitting undoes joining on separator-free pieces.
Shared by the Validator proofs (Basic credentials, Bearer prefix) and the Signer proofs (Authorization header, scope).
-/
namespace EgVerif.Signer
open EgVerif.Sha256 (Bytes)

theorem stripPrefix_eq_some {p s t : Bytes} : stripPrefix p s = some t ↔ s = p ++ t := by
  induction p generalizing s with
  | nil => simp [stripPrefix, eq_comm]
  | cons x p ih =>
    cases s with
    | nil => simp [stripPrefix]
    | cons y s =>
      simp only [stripPrefix]
      by_cases h : x = y
      · subst h; simp [ih]
      · simp [h]; intro h'; exact absurd h'.symm h

theorem stripPrefix_append (p s : Bytes) : stripPrefix p (p ++ s) = some s :=
  stripPrefix_eq_some.mpr rfl

theorem stripPrefix_drop {p s t : Bytes} (h : stripPrefix p s = some t) : s.drop p.length = t := by
  have := stripPrefix_eq_some.mp h
  subst this
  simp

theorem hasPrefix_append (p s : Bytes) : hasPrefix (p ++ s) p = true := by
  simp [hasPrefix, stripPrefix_append]

theorem splitFirst_cons (c x : UInt8) (r : Bytes) :
    splitFirst c (x :: r) = if x = c then some ([], r) else (splitFirst c r).map fun p => (x :: p.1, p.2) := by
  simp only [splitFirst]
  split
  · rfl
  · cases splitFirst c r <;> rfl

theorem splitFirst_eq_some {c : UInt8} {s a t : Bytes} : splitFirst c s = some (a, t) ↔ s = a ++ c :: t ∧ c ∉ a := by
  induction s generalizing a with
  | nil => simp [splitFirst]
  | cons x r ih =>
    rw [splitFirst_cons]
    by_cases h : x = c
    · subst h
      cases a with
      | nil => simp [eq_comm]
      | cons y a' =>
        simp only [if_true, Option.some.injEq, Prod.mk.injEq, reduceCtorEq, false_and, List.cons_append, List.cons.injEq,
          List.mem_cons, not_or, false_iff, not_and]
        intro h1 h2
        exact absurd h1.1 h2
    · cases a with
      | nil => simp [h]
      | cons y a' =>
        simp only [h, if_false, Option.map_eq_some_iff, Prod.mk.injEq, List.cons.injEq, Prod.exists, List.cons_append,
          List.mem_cons, not_or]
        constructor
        · rintro ⟨a0, t0, hr, ⟨rfl, rfl⟩, rfl⟩
          obtain ⟨e, hn⟩ := ih.mp hr
          exact ⟨⟨rfl, e⟩, Ne.symm h, hn⟩
        · rintro ⟨⟨rfl, e⟩, _, hn⟩
          exact ⟨a', t, ih.mpr ⟨e, hn⟩, ⟨rfl, rfl⟩, rfl⟩

theorem splitFirst_append {c : UInt8} {a : Bytes} (t : Bytes) (h : c ∉ a) :
    splitFirst c (a ++ c :: t) = some (a, t) := splitFirst_eq_some.mpr ⟨rfl, h⟩

theorem splitFirst_none {c : UInt8} {s : Bytes} : splitFirst c s = none ↔ c ∉ s := by
  induction s with
  | nil => simp [splitFirst]
  | cons x r ih =>
    by_cases h : x = c
    · simp [splitFirst_cons, h]
    · simp [splitFirst_cons, h, ih, Ne.symm h]

theorem splitOn_ne_nil (c : UInt8) (s : Bytes) : splitOn c s ≠ [] := by
  induction s with
  | nil => simp [splitOn]
  | cons x r ih =>
    simp only [splitOn]
    split
    · simp
    · split <;> simp

theorem splitOn_of_not_mem {c : UInt8} {s : Bytes} (h : c ∉ s) : splitOn c s = [s] := by
  induction s with
  | nil => simp [splitOn]
  | cons x r ih =>
    simp at h
    simp [splitOn, Ne.symm h.1, ih h.2]

theorem splitOn_append {c : UInt8} {a : Bytes} (t : Bytes) (h : c ∉ a) :
    splitOn c (a ++ c :: t) = a :: splitOn c t := by
  induction a with
  | nil => simp [splitOn]
  | cons x r ih =>
    simp at h
    simp [splitOn, Ne.symm h.1, ih h.2]

theorem splitOn_joinB {c : UInt8} : ∀ {l : List Bytes}, l ≠ [] → (∀ s ∈ l, c ∉ s) → splitOn c (joinB c l) = l
  | [a], _, h => by simp [joinB, splitOn_of_not_mem (h a (by simp))]
  | a :: a' :: r, _, h => by
    have ha := h a (by simp)
    have := splitOn_joinB (c := c) (l := a' :: r) (by simp) (fun s hs => h s (by simp [hs]))
    simp only [joinB]
    rw [splitOn_append _ ha, this]

theorem joinB_cons_flatten (c : UInt8) (a : Bytes) (l : List Bytes) :
    joinB c (a :: l) = a ++ (l.map (c :: ·)).flatten := by
  induction l generalizing a with
  | nil => simp [joinB]
  | cons x r ih => simp [joinB, ih]

theorem joinB_injective {c : UInt8} {l l' : List Bytes} (hl : l ≠ []) (hl' : l' ≠ [])
    (h : ∀ s ∈ l, c ∉ s) (h' : ∀ s ∈ l', c ∉ s) (e : joinB c l = joinB c l') : l = l' := by
  rw [← splitOn_joinB hl h, ← splitOn_joinB hl' h', e]

theorem trimLeft_of_head {p : UInt8 → Bool} {x : UInt8} {r : Bytes} (h : p x = false) :
    trimLeft p (x :: r) = x :: r := by simp [trimLeft, h]

theorem trimLeft_nil_or_head (p : UInt8 → Bool) (s : Bytes) :
    trimLeft p s = [] ∨ ∃ x r, trimLeft p s = x :: r ∧ p x = false := by
  induction s with
  | nil => simp [trimLeft]
  | cons x r ih =>
    simp only [trimLeft]
    by_cases h : p x
    · simpa [h] using ih
    · right; exact ⟨x, r, by simp [h], by simpa using h⟩

theorem trimSpace_clean {s : Bytes} (h : ∀ c ∈ s, isWs c = false) : trimSpace s = s := by
  have hl : ∀ {s : Bytes}, (∀ c ∈ s, isWs c = false) → trimLeft isWs s = s := by
    intro s h
    cases s with
    | nil => rfl
    | cons x r => exact trimLeft_of_head (h x (by simp))
  unfold trimSpace trimRight
  rw [hl h, hl (by intro c hc; exact h c (by simpa using hc))]
  simp

theorem trimLeft_cons_true {p : UInt8 → Bool} {x : UInt8} {r : Bytes} (h : p x = true) :
    trimLeft p (x :: r) = trimLeft p r := by simp [trimLeft, h]

theorem trimSpace_space_clean {s : Bytes} (h : ∀ c ∈ s, isWs c = false) : trimSpace (32 :: s) = s := by
  have : trimLeft isWs (32 :: s) = trimLeft isWs s := trimLeft_cons_true (by decide)
  unfold trimSpace
  rw [this]
  exact trimSpace_clean h

end EgVerif.Signer
