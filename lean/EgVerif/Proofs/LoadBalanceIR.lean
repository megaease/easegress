import EgVerif.Model.LoadBalance
import EgVerif.Gen.FactsC04IR
import EgVerif.Gen.FactsC04IRb
import EgVerif.Gen.FactsC04IRp
/-!
Regenerated tie by translation for C04 (`notes/IR.md`): the `…IR` definitions of `Gen.FactsC04IR`,
`Gen.FactsC04IRb`, `Gen.FactsC04IRp` are produced on every run by the go/ast micro-translator
(`harness/factextract/irlib.go`) from the current bodies of the functions `Model/LoadBalance.lean` mirrors.
Here: what each generated loop computes, and the ties for `Validate`, `useService` and `LoadBalancer()`; the
other ties are proved where they are stated, in `Props/C04.lean`. `rand.Intn(n)` carries the guard `n > 0`
(it panics otherwise), so the argument of `rand.Intn` is part of the obligation.
-/
namespace EgVerif.LoadBalance
open EgVerif.Gen.FactsC04IR

/-- what the generated call site does with the loop's result -/
private def fin (s : Sum Res Int) : Res :=
  match s with
  | .inl v => v
  | .inr _ => Res.panic

theorem chooseWeighted_regenerated_from_source_loop (ss0 : List Server) (x : Sel) (l : List Server) (r : Int) :
    fin (chooseWeightedIR_loop1 ss0 x r l) = weightedLoop l r := by
  induction l generalizing r with
  | nil => rfl
  | cons s t ih =>
    simp only [chooseWeightedIR_loop1, weightedLoop, decide_eq_true_eq]
    split
    · exact ih r
    · split
      · rfl
      · exact ih _

theorem validate_regenerated_from_source_loop (sps : PoolSpec) (l : List Server) (n : Int) :
    validateIR_loop1 sps n l = .inr (n + ((l.filter (fun s => decide (s.weight > 0))).length : Int)) := by
  induction l generalizing n with
  | nil => simp [validateIR_loop1]
  | cons s t ih =>
    simp only [validateIR_loop1, ih, List.filter_cons, decide_eq_true_eq]
    split <;> simp <;> omega

theorem validate_regenerated_from_source (sps : PoolSpec) : validateIR sps = validate sps := by
  simp only [validateIR, validate, validate_regenerated_from_source_loop]
  generalize (sps.servers.filter _).length = g
  generalize sps.servers.length = n
  -- the generated conditions are the model's, on `Int` and in `Bool`
  simp only [Int.zero_add, Bool.and_eq_true, beq_iff_eq, decide_eq_true_eq, Int.natCast_eq_zero,
    Int.natCast_pos, Int.ofNat_lt, Bool.not_true, gt_iff_lt]

open EgVerif.Gen.FactsC04IRb EgVerif.Gen.FactsC04IRp

theorem newWeighted_regenerated_from_source_loop (ss lb l : List Server) (tw : Int) :
    newWeightedIR_loop1 ss tw lb l = .inr (tw + totalWeight l) := by
  induction l generalizing tw with
  | nil => simp [newWeightedIR_loop1, totalWeight]
  | cons s t ih =>
    simp only [newWeightedIR_loop1, totalWeight, ih, decide_eq_true_eq]
    split <;> simp <;> omega

theorem createLoadBalancer_regenerated_from_source_loop (lbspec : Option String) (ss l : List Server)
    (pub : Option LB) : createLoadBalancerIR_loop1 lbspec ss pub l = .inr () := by
  induction l with
  | nil => rfl
  | cons s t ih => simpa [createLoadBalancerIR_loop1] using ih

/-- `LoadBalancer()` returns the value of its single atomic load -/
theorem loadBalancer_regenerated_from_source (current : LB) : loadBalancerIR current = current := rfl

/-- the inner loop of `useService` (over the pool's tags, with `break`) -/
theorem useService_regenerated_from_source_loop2 (srt : List Server → List Server) (sps : PoolSpec)
    (insts : List Instance) (pub servers : List Server) (i : Instance) (tags : List String) :
    useServiceIR_loop2 srt sps insts pub servers i tags =
      .inr (if tags.any (fun t => i.tags.contains t) then servers ++ [(⟨i.url, i.weight, i.tags⟩ : Server)]
            else servers) := by
  induction tags with
  | nil => rfl
  | cons t r ih =>
    rw [useServiceIR_loop2, ih, List.any_cons]
    cases i.tags.contains t <;> rfl

theorem useService_regenerated_from_source_loop1 (srt : List Server → List Server) (sps : PoolSpec)
    (insts : List Instance) (pub : List Server) (l : List Instance) (servers : List Server) :
    useServiceIR_loop1 srt sps insts pub servers l =
      .inr (servers ++ l.filterMap (fun i =>
        if qualifies sps.serverTags i then some (⟨i.url, i.weight, i.tags⟩ : Server) else none)) := by
  induction l generalizing servers with
  | nil => simp [useServiceIR_loop1]
  | cons i r ih =>
    simp only [useServiceIR_loop1, useService_regenerated_from_source_loop2, ih, List.filterMap_cons]
    have hq : (sps.serverTags.any fun t => i.tags.contains t) = qualifies sps.serverTags i := rfl
    rw [hq]
    cases qualifies sps.serverTags i <;> simp

/-- **`useService`, regenerated from the source, is the model's `useService`** — up to the order of the
list (`srt` stands for a re-ordering such as a `sort.Slice`, should the code contain one; today it does
not and the two sides are equal): the tagged instances (each at most once: `break`), the static list
when none qualifies; that list is what `createLoadBalancer` receives, unconditionally. -/
theorem useService_regenerated_from_source (srt : List Server → List Server) (hsrt : ∀ l, (srt l).Perm l)
    (sps : PoolSpec) (insts : List Instance) :
    (useServiceIR srt sps insts).Perm (useService sps insts) := by
  simp only [useServiceIR, useService, useService_regenerated_from_source_loop1, List.nil_append]
  generalize (insts.filterMap _) = l
  cases l with
  | nil => simp
  | cons a t =>
    have h : ¬ ((t.length : Int) + 1 = 0) := by omega
    -- `hsrt` comes into play only when the generated code re-orders the list
    simp [h, hsrt]

end EgVerif.LoadBalance
