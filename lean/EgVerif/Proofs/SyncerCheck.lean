import EgVerif.Proofs.Syncer
import EgVerif.Spec.Syncer
/-!
# C19 — the judge's executable `check`

Lemmas that connect `Spec.check` (`mapEqB`, `findFrom`, `assign`, `differ`, `finalView`) to the
notions the theorems use (`MapEq`, indices of store states): `mapEqB` decides `MapEq` on maps, the
greedy `assign` succeeds whenever *some* non-decreasing assignment `≥ lo` exists.
-/
namespace EgVerif.Syncer

theorem all_lookup_iff {a b : Data} (ha : IsMap a) :
    a.all (fun e => b.lookup e.1 == some e.2) = true ↔ ∀ k v, a.lookup k = some v → b.lookup k = some v := by
  rw [List.all_eq_true]
  constructor
  · intro h k v hk
    simpa using h (k, v) (mem_of_lookup hk)
  · intro h e he
    simpa using h e.1 e.2 (lookup_of_mem ha he)

theorem mapEqB_iff {a b : Data} (ha : IsMap a) (hb : IsMap b) : mapEqB a b = true ↔ MapEq a b := by
  unfold mapEqB
  rw [Bool.and_eq_true, all_lookup_iff ha, all_lookup_iff hb]
  constructor
  · rintro ⟨h1, h2⟩ k
    cases hk : a.lookup k with
    | some v => exact (h1 k v hk).symm
    | none =>
      cases hk' : b.lookup k with
      | none => rfl
      | some v => rw [h2 k v hk'] at hk; cases hk
  · intro h
    exact ⟨fun k v hk => h k ▸ hk, fun k v hk => h k ▸ hk⟩

theorem mapEqB_refl {a : Data} (ha : IsMap a) : mapEqB a a = true := (mapEqB_iff ha ha).mpr fun _ => rfl

/-- `findFrom` finds an index between `lo` and any witness (`k` places further on, at index `pos + k`). -/
theorem findFrom_le (d : Data) (lo : Nat) (states : List Data) : ∀ (pos k : Nat), lo ≤ pos + k →
    (∃ s, states[k]? = some s ∧ mapEqB s d = true) →
    ∃ j, findFrom states pos lo d = some j ∧ lo ≤ j ∧ j ≤ pos + k := by
  induction states with
  | nil => exact fun _ _ _ ⟨_, hs, _⟩ => nomatch hs
  | cons s0 rest ih =>
    intro pos k hl ⟨s, hs, hm⟩
    rw [findFrom]
    by_cases hc : (decide (pos ≥ lo) && mapEqB s0 d) = true
    · rw [if_pos hc]
      exact ⟨pos, rfl, of_decide_eq_true (Bool.and_eq_true_iff.mp hc).1, Nat.le_add_right _ _⟩
    · rw [if_neg hc]
      cases k with
      | zero =>
        -- the witness is `s0` itself and `pos ≥ lo`, so the test cannot have failed
        obtain rfl : s0 = s := Option.some.inj hs
        rw [hm, Bool.and_true] at hc
        exact absurd (decide_eq_true hl) hc
      | succ k =>
        have hk : pos + (k + 1) = pos + 1 + k := by rw [Nat.add_assoc, Nat.add_comm 1 k]
        rw [hk]
        exact ih (pos + 1) k (hk ▸ hl) ⟨s, hs, hm⟩

/-- `ps` pairs each observation with the index of a state that equals it (as a map). -/
theorem assign_complete (states : List Data) : ∀ (ps : List (Nat × Data)) (lo : Nat),
    (∀ p ∈ ps, ∃ s, states[p.1]? = some s ∧ mapEqB s p.2 = true) →
    (lo :: ps.map Prod.fst).Pairwise (· ≤ ·) → (assign states lo (ps.map Prod.snd)).isSome = true
  | [], _, _, _ => rfl
  | p :: ps, lo, hall, hs => by
    rw [List.map_cons, List.pairwise_cons] at hs
    obtain ⟨j, hj, _, hji⟩ := findFrom_le p.2 lo states 0 p.1
      (by rw [Nat.zero_add]; exact hs.1 p.1 List.mem_cons_self) (hall p List.mem_cons_self)
    rw [Nat.zero_add] at hji
    -- the greedy choice `j` is at most the witness `p.1`, so the remaining witnesses still lie above it
    have hrest := assign_complete states ps j (fun q hq => hall q (List.mem_cons_of_mem _ hq))
      (List.pairwise_cons.mpr ⟨fun a ha => le_trans hji ((List.pairwise_cons.mp hs.2).1 a ha),
        (List.pairwise_cons.mp hs.2).2⟩)
    simp only [List.map_cons, assign, hj, Option.isSome_map]
    exact hrest

end EgVerif.Syncer
