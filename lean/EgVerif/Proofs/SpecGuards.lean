import EgVerif.Model.SpecGuards
/-!
# Tables for C13 (hand-maintained mirror of what the model assumes about the source)

`modelledTags` / `modelledValidate` are the struct tags and `Validate()` methods the model was
written against; `Props/C13.lean` proves that the regenerated facts equal them, so any change of a
tag or of a `Validate` method in the source breaks a proof obligation until the model is reviewed.
`guardTable` maps every function containing `panic(` / `regexp.MustCompile(` / `template.Must(` in the
anchored packages to a modelled guard, to an allow-list entry with its justification, or to an
explicit `not-covered` entry (honest gap).
-/
namespace EgVerif.SpecGuards

def modelledTags : List (String × String × String) := [
   ("pkg/supervisor/spec.go:MetaSpec", "name", "required,format=urlname")
  ,("pkg/supervisor/spec.go:MetaSpec", "kind", "required")
  ,("pkg/supervisor/spec.go:MetaSpec", "version", "required")
  ,("pkg/filters/proxy/proxy.go:Spec", "<inline>", "<none>")
  ,("pkg/filters/proxy/proxy.go:Spec", "pools", "required")
  ,("pkg/filters/proxy/proxy.go:Spec", "mirrorPool", "omitempty")
  ,("pkg/filters/proxy/proxy.go:Spec", "compression", "omitempty")
  ,("pkg/filters/proxy/proxy.go:Spec", "mtls", "omitempty")
  ,("pkg/filters/proxy/proxy.go:Spec", "maxIdleConns", "omitempty")
  ,("pkg/filters/proxy/proxy.go:Spec", "maxIdleConnsPerHost", "omitempty")
  ,("pkg/filters/proxy/proxy.go:Spec", "serverMaxBodySize", "omitempty")
  ,("pkg/filters/proxy/pool.go:ServerPoolSpec", "spanName", "omitempty")
  ,("pkg/filters/proxy/pool.go:ServerPoolSpec", "filter", "omitempty")
  ,("pkg/filters/proxy/pool.go:ServerPoolSpec", "serverMaxBodySize", "omitempty")
  ,("pkg/filters/proxy/pool.go:ServerPoolSpec", "serverTags", "omitempty,uniqueItems=true")
  ,("pkg/filters/proxy/pool.go:ServerPoolSpec", "servers", "omitempty")
  ,("pkg/filters/proxy/pool.go:ServerPoolSpec", "serviceRegistry", "omitempty")
  ,("pkg/filters/proxy/pool.go:ServerPoolSpec", "serviceName", "omitempty")
  ,("pkg/filters/proxy/pool.go:ServerPoolSpec", "loadBalance", "omitempty")
  ,("pkg/filters/proxy/pool.go:ServerPoolSpec", "timeout", "omitempty,format=duration")
  ,("pkg/filters/proxy/pool.go:ServerPoolSpec", "retryPolicy", "omitempty")
  ,("pkg/filters/proxy/pool.go:ServerPoolSpec", "circuitBreakerPolicy", "omitempty")
  ,("pkg/filters/proxy/pool.go:ServerPoolSpec", "failureCodes", "omitempty")
  ,("pkg/filters/proxy/pool.go:ServerPoolSpec", "memoryCache", "omitempty")
  ,("pkg/filters/proxy/server.go:Server", "url", "required,format=url")
  ,("pkg/filters/proxy/server.go:Server", "tags", "omitempty,uniqueItems=true")
  ,("pkg/filters/proxy/server.go:Server", "weight", "omitempty,minimum=0,maximum=100")
  ,("pkg/filters/proxy/server.go:Server", "keepHost", "omitempty,default=false")
  ,("pkg/filters/proxy/loadbalance.go:LoadBalanceSpec", "policy", "omitempty,enum=,enum=roundRobin,enum=random,enum=weightedRandom,enum=ipHash,enum=headerHash")
  ,("pkg/filters/proxy/loadbalance.go:LoadBalanceSpec", "headerHashKey", "omitempty")
  ,("pkg/filters/proxy/requestmatch.go:RequestMatcherSpec", "policy", "omitempty,enum=,enum=general,enum=ipHash,enum=headerHash,enum=random")
  ,("pkg/filters/proxy/requestmatch.go:RequestMatcherSpec", "matchAllHeaders", "omitempty")
  ,("pkg/filters/proxy/requestmatch.go:RequestMatcherSpec", "headers", "omitempty")
  ,("pkg/filters/proxy/requestmatch.go:RequestMatcherSpec", "urls", "omitempty")
  ,("pkg/filters/proxy/requestmatch.go:RequestMatcherSpec", "permil", "omitempty,minimum=0,maximum=1000")
  ,("pkg/filters/proxy/requestmatch.go:RequestMatcherSpec", "headerHashKey", "omitempty")
  ,("pkg/filters/proxy/requestmatch.go:MethodAndURLMatcher", "methods", "omitempty,uniqueItems=true,format=httpmethod-array")
  ,("pkg/filters/proxy/requestmatch.go:MethodAndURLMatcher", "url", "required")
  ,("pkg/filters/proxy/requestmatch.go:StringMatcher", "exact", "omitempty")
  ,("pkg/filters/proxy/requestmatch.go:StringMatcher", "prefix", "omitempty")
  ,("pkg/filters/proxy/requestmatch.go:StringMatcher", "regex", "omitempty,format=regexp")
  ,("pkg/filters/proxy/requestmatch.go:StringMatcher", "empty", "omitempty")
  ,("pkg/filters/proxy/memorycache.go:MemoryCacheSpec", "expiration", "required,format=duration")
  ,("pkg/filters/proxy/memorycache.go:MemoryCacheSpec", "maxEntryBytes", "required,minimum=1")
  ,("pkg/filters/proxy/memorycache.go:MemoryCacheSpec", "codes", "required,minItems=1,uniqueItems=true,format=httpcode-array")
  ,("pkg/filters/proxy/memorycache.go:MemoryCacheSpec", "methods", "required,minItems=1,uniqueItems=true,format=httpmethod-array")
  ,("pkg/filters/requestadaptor/requestadaptor.go:Spec", "<inline>", "<none>")
  ,("pkg/filters/requestadaptor/requestadaptor.go:Spec", "host", "omitempty")
  ,("pkg/filters/requestadaptor/requestadaptor.go:Spec", "method", "omitempty,format=httpmethod")
  ,("pkg/filters/requestadaptor/requestadaptor.go:Spec", "path", "omitempty")
  ,("pkg/filters/requestadaptor/requestadaptor.go:Spec", "header", "omitempty")
  ,("pkg/filters/requestadaptor/requestadaptor.go:Spec", "body", "omitempty")
  ,("pkg/filters/requestadaptor/requestadaptor.go:Spec", "compress", "omitempty")
  ,("pkg/filters/requestadaptor/requestadaptor.go:Spec", "decompress", "omitempty")
  ,("pkg/filters/responseadaptor/responseadaptor.go:Spec", "<inline>", "<none>")
  ,("pkg/filters/responseadaptor/responseadaptor.go:Spec", "header", "omitempty")
  ,("pkg/filters/responseadaptor/responseadaptor.go:Spec", "body", "omitempty")
  ,("pkg/filters/responseadaptor/responseadaptor.go:Spec", "compress", "omitempty")
  ,("pkg/filters/responseadaptor/responseadaptor.go:Spec", "decompress", "omitempty")
  ,("pkg/util/pathadaptor/pathadaptor.go:Spec", "replace", "omitempty")
  ,("pkg/util/pathadaptor/pathadaptor.go:Spec", "addPrefix", "omitempty,pattern=^/")
  ,("pkg/util/pathadaptor/pathadaptor.go:Spec", "trimPrefix", "omitempty,pattern=^/")
  ,("pkg/util/pathadaptor/pathadaptor.go:Spec", "regexpReplace", "omitempty")
  ,("pkg/util/pathadaptor/pathadaptor.go:RegexpReplace", "regexp", "required,format=regexp")
  ,("pkg/util/pathadaptor/pathadaptor.go:RegexpReplace", "replace", "<none>")
  ,("pkg/protocols/httpprot/httpheader/httpheader.go:AdaptSpec", "del", "omitempty,uniqueItems=true")
  ,("pkg/protocols/httpprot/httpheader/httpheader.go:AdaptSpec", "set", "omitempty")
  ,("pkg/protocols/httpprot/httpheader/httpheader.go:AdaptSpec", "add", "omitempty")
  ,("pkg/protocols/httpprot/httpheader/validator.go:ValueValidator", "values", "omitempty,uniqueItems=true")
  ,("pkg/protocols/httpprot/httpheader/validator.go:ValueValidator", "regexp", "omitempty,format=regexp")
  ,("pkg/filters/ratelimiter/ratelimiter.go:Policy", "name", "required")
  ,("pkg/filters/ratelimiter/ratelimiter.go:Policy", "timeoutDuration", "omitempty,format=duration")
  ,("pkg/filters/ratelimiter/ratelimiter.go:Policy", "limitRefreshPeriod", "omitempty,format=duration")
  ,("pkg/filters/ratelimiter/ratelimiter.go:Policy", "limitForPeriod", "omitempty,minimum=1")
  ,("pkg/filters/ratelimiter/ratelimiter.go:Spec", "<inline>", "<none>")
  ,("pkg/filters/ratelimiter/ratelimiter.go:Spec", "policies", "required")
  ,("pkg/filters/ratelimiter/ratelimiter.go:Spec", "defaultPolicyRef", "omitempty")
  ,("pkg/filters/ratelimiter/ratelimiter.go:Spec", "urls", "required")
  ,("pkg/util/urlrule/urlrule.go:StringMatch", "exact", "omitempty")
  ,("pkg/util/urlrule/urlrule.go:StringMatch", "prefix", "omitempty")
  ,("pkg/util/urlrule/urlrule.go:StringMatch", "regex", "omitempty,format=regexp")
  ,("pkg/util/urlrule/urlrule.go:StringMatch", "empty", "omitempty")
  ,("pkg/util/urlrule/urlrule.go:URLRule", "methods", "omitempty,uniqueItems=true,format=httpmethod-array")
  ,("pkg/util/urlrule/urlrule.go:URLRule", "url", "required")
  ,("pkg/util/urlrule/urlrule.go:URLRule", "policyRef", "omitempty")
  ,("pkg/filters/validator/validator.go:Spec", "<inline>", "<none>")
  ,("pkg/filters/validator/validator.go:Spec", "headers", "omitempty")
  ,("pkg/filters/validator/validator.go:Spec", "jwt", "omitempty")
  ,("pkg/filters/validator/validator.go:Spec", "signature", "omitempty")
  ,("pkg/filters/validator/validator.go:Spec", "oauth2", "omitempty")
  ,("pkg/filters/validator/validator.go:Spec", "basicAuth", "omitempty")
  ,("pkg/filters/validator/jwt.go:JWTValidatorSpec", "algorithm", "enum=HS256,enum=HS384,enum=HS512")
  ,("pkg/filters/validator/jwt.go:JWTValidatorSpec", "secret", "required,pattern=^[A-Fa-f0-9]+$")
  ,("pkg/filters/validator/jwt.go:JWTValidatorSpec", "cookieName", "omitempty")
  ,("pkg/util/signer/spec.go:Spec", "literal", "omitempty")
  ,("pkg/util/signer/spec.go:Spec", "headerHoisting", "omitempty")
  ,("pkg/util/signer/spec.go:Spec", "ignoredHeaders", "omitempty,uniqueItems=true")
  ,("pkg/util/signer/spec.go:Spec", "excludeBody", "omitempty")
  ,("pkg/util/signer/spec.go:Spec", "ttl", "omitempty,format=duration")
  ,("pkg/util/signer/spec.go:Spec", "accessKeyId", "omitempty")
  ,("pkg/util/signer/spec.go:Spec", "accessKeySecret", "omitempty")
  ,("pkg/util/signer/spec.go:Spec", "accessKeys", "omitempty")
  ,("pkg/filters/mock/mock.go:Spec", "<inline>", "<none>")
  ,("pkg/filters/mock/mock.go:Spec", "rules", "<none>")
  ,("pkg/filters/mock/mock.go:Rule", "match", "required")
  ,("pkg/filters/mock/mock.go:Rule", "code", "required,format=httpcode")
  ,("pkg/filters/mock/mock.go:Rule", "headers", "omitempty")
  ,("pkg/filters/mock/mock.go:Rule", "body", "omitempty")
  ,("pkg/filters/mock/mock.go:Rule", "delay", "omitempty,format=duration")
  ,("pkg/filters/mock/mock.go:MatchRule", "path", "omitempty,pattern=^/")
  ,("pkg/filters/mock/mock.go:MatchRule", "pathPrefix", "omitempty,pattern=^/")
  ,("pkg/filters/mock/mock.go:MatchRule", "headers", "omitempty")
  ,("pkg/filters/mock/mock.go:MatchRule", "matchAllHeaders", "omitempty")
  ,("pkg/filters/fallback/fallback.go:Spec", "<inline>", "<none>")
  ,("pkg/filters/fallback/fallback.go:Spec", "mockCode", "required,format=httpcode")
  ,("pkg/filters/fallback/fallback.go:Spec", "mockHeaders", "omitempty")
  ,("pkg/filters/fallback/fallback.go:Spec", "mockBody", "omitempty")
  ,("pkg/filters/corsadaptor/corsadaptor.go:Spec", "<inline>", "<none>")
  ,("pkg/filters/corsadaptor/corsadaptor.go:Spec", "allowedOrigins", "omitempty")
  ,("pkg/filters/corsadaptor/corsadaptor.go:Spec", "allowedMethods", "omitempty,uniqueItems=true,format=httpmethod-array")
  ,("pkg/filters/corsadaptor/corsadaptor.go:Spec", "allowedHeaders", "omitempty")
  ,("pkg/filters/corsadaptor/corsadaptor.go:Spec", "allowCredentials", "omitempty")
  ,("pkg/filters/corsadaptor/corsadaptor.go:Spec", "exposedHeaders", "omitempty")
  ,("pkg/filters/corsadaptor/corsadaptor.go:Spec", "maxAge", "omitempty")
  ,("pkg/filters/corsadaptor/corsadaptor.go:Spec", "supportCORSRequest", "omitempty")
  ,("pkg/filters/builder/builder.go:Spec", "leftDelim", "omitempty")
  ,("pkg/filters/builder/builder.go:Spec", "rightDelim", "omitempty")
  ,("pkg/filters/builder/builder.go:Spec", "sourceNamespace", "omitempty")
  ,("pkg/filters/builder/builder.go:Spec", "template", "omitempty")
  ,("pkg/filters/builder/requestbuilder.go:RequestBuilderSpec", "<inline>", "<none>")
  ,("pkg/filters/builder/requestbuilder.go:RequestBuilderSpec", "<inline>", "<none>")
  ,("pkg/filters/builder/requestbuilder.go:RequestBuilderSpec", "protocol", "omitempty")
  ,("pkg/filters/builder/responsebuilder.go:ResponseBuilderSpec", "<inline>", "<none>")
  ,("pkg/filters/builder/responsebuilder.go:ResponseBuilderSpec", "<inline>", "<none>")
  ,("pkg/filters/builder/responsebuilder.go:ResponseBuilderSpec", "protocol", "omitempty")
  ,("pkg/resilience/retry.go:RetryPolicy", "<inline>", "<none>")
  ,("pkg/resilience/retry.go:RetryPolicy", "maxAttempts", "omitempty,minimum=1")
  ,("pkg/resilience/retry.go:RetryPolicy", "waitDuration", "omitempty,format=duration")
  ,("pkg/resilience/retry.go:RetryPolicy", "backOffPolicy", "omitempty,enum=random,enum=exponential")
  ,("pkg/resilience/retry.go:RetryPolicy", "randomizationFactor", "omitempty,minimum=0,maximum=1")
  ,("pkg/resilience/circuitbreaker.go:CircuitBreakerPolicy", "<inline>", "<none>")
  ,("pkg/resilience/circuitbreaker.go:CircuitBreakerPolicy", "slidingWindowType", "omitempty,enum=COUNT_BASED,enum=TIME_BASED")
  ,("pkg/resilience/circuitbreaker.go:CircuitBreakerPolicy", "failureRateThreshold", "omitempty,minimum=1,maximum=100")
  ,("pkg/resilience/circuitbreaker.go:CircuitBreakerPolicy", "slowCallRateThreshold", "omitempty,minimum=1,maximum=100")
  ,("pkg/resilience/circuitbreaker.go:CircuitBreakerPolicy", "countingNetworkError", "omitempty")
  ,("pkg/resilience/circuitbreaker.go:CircuitBreakerPolicy", "slidingWindowSize", "omitempty,minimum=1")
  ,("pkg/resilience/circuitbreaker.go:CircuitBreakerPolicy", "permittedNumberOfCallsInHalfOpenState", "omitempty")
  ,("pkg/resilience/circuitbreaker.go:CircuitBreakerPolicy", "minimumNumberOfCalls", "omitempty")
  ,("pkg/resilience/circuitbreaker.go:CircuitBreakerPolicy", "slowCallDurationThreshold", "omitempty,format=duration")
  ,("pkg/resilience/circuitbreaker.go:CircuitBreakerPolicy", "maxWaitDurationInHalfOpenState", "omitempty,format=duration")
  ,("pkg/resilience/circuitbreaker.go:CircuitBreakerPolicy", "waitDurationInOpenState", "omitempty,format=duration")
  ,("pkg/object/pipeline/pipeline.go:Spec", "flow", "omitempty")
  ,("pkg/object/pipeline/pipeline.go:Spec", "filters", "required")
  ,("pkg/object/pipeline/pipeline.go:Spec", "resilience", "omitempty")
  ,("pkg/object/pipeline/pipeline.go:FlowNode", "filter", "required,format=urlname")
  ,("pkg/object/pipeline/pipeline.go:FlowNode", "alias", "omitempty")
  ,("pkg/object/pipeline/pipeline.go:FlowNode", "namespace", "<none>")
  ,("pkg/object/pipeline/pipeline.go:FlowNode", "jumpIf", "omitempty")
  ,("pkg/object/globalfilter/globalfilter.go:Spec", "beforePipeline", "omitempty")
  ,("pkg/object/globalfilter/globalfilter.go:Spec", "afterPipeline", "omitempty")
  ,("pkg/object/httpserver/spec.go:Spec", "http3", "omitempty")
  ,("pkg/object/httpserver/spec.go:Spec", "keepAlive", "required")
  ,("pkg/object/httpserver/spec.go:Spec", "https", "required")
  ,("pkg/object/httpserver/spec.go:Spec", "autoCert", "omitempty")
  ,("pkg/object/httpserver/spec.go:Spec", "xForwardedFor", "omitempty")
  ,("pkg/object/httpserver/spec.go:Spec", "port", "required,minimum=1")
  ,("pkg/object/httpserver/spec.go:Spec", "clientMaxBodySize", "omitempty")
  ,("pkg/object/httpserver/spec.go:Spec", "keepAliveTimeout", "omitempty,format=duration")
  ,("pkg/object/httpserver/spec.go:Spec", "maxConnections", "omitempty,minimum=1")
  ,("pkg/object/httpserver/spec.go:Spec", "cacheSize", "omitempty")
  ,("pkg/object/httpserver/spec.go:Spec", "tracing", "omitempty")
  ,("pkg/object/httpserver/spec.go:Spec", "caCertBase64", "omitempty,format=base64")
  ,("pkg/object/httpserver/spec.go:Spec", "certBase64", "omitempty,format=base64")
  ,("pkg/object/httpserver/spec.go:Spec", "keyBase64", "omitempty,format=base64")
  ,("pkg/object/httpserver/spec.go:Spec", "certs", "omitempty")
  ,("pkg/object/httpserver/spec.go:Spec", "keys", "omitempty")
  ,("pkg/object/httpserver/spec.go:Spec", "ipFilter", "omitempty")
  ,("pkg/object/httpserver/spec.go:Spec", "rules", "omitempty")
  ,("pkg/object/httpserver/spec.go:Spec", "globalFilter", "omitempty")
  ,("pkg/object/httpserver/spec.go:Rule", "ipFilter", "omitempty")
  ,("pkg/object/httpserver/spec.go:Rule", "host", "omitempty")
  ,("pkg/object/httpserver/spec.go:Rule", "hostRegexp", "omitempty,format=regexp")
  ,("pkg/object/httpserver/spec.go:Rule", "paths", "omitempty")
  ,("pkg/object/httpserver/spec.go:Path", "ipFilter", "omitempty")
  ,("pkg/object/httpserver/spec.go:Path", "path", "omitempty,pattern=^/")
  ,("pkg/object/httpserver/spec.go:Path", "pathPrefix", "omitempty,pattern=^/")
  ,("pkg/object/httpserver/spec.go:Path", "pathRegexp", "omitempty,format=regexp")
  ,("pkg/object/httpserver/spec.go:Path", "rewriteTarget", "omitempty")
  ,("pkg/object/httpserver/spec.go:Path", "methods", "omitempty,uniqueItems=true,format=httpmethod-array")
  ,("pkg/object/httpserver/spec.go:Path", "backend", "required")
  ,("pkg/object/httpserver/spec.go:Path", "headers", "omitempty")
  ,("pkg/object/httpserver/spec.go:Path", "clientMaxBodySize", "omitempty")
  ,("pkg/object/httpserver/spec.go:Path", "matchAllHeader", "omitempty")
  ,("pkg/object/httpserver/spec.go:Header", "key", "required")
  ,("pkg/object/httpserver/spec.go:Header", "values", "omitempty,uniqueItems=true")
  ,("pkg/object/httpserver/spec.go:Header", "regexp", "omitempty,format=regexp")
  ,("pkg/util/ipfilter/ipfilter.go:Spec", "blockByDefault", "required")
  ,("pkg/util/ipfilter/ipfilter.go:Spec", "allowIPs", "omitempty,uniqueItems=true,format=ipcidr-array")
  ,("pkg/util/ipfilter/ipfilter.go:Spec", "blockIPs", "omitempty,uniqueItems=true,format=ipcidr-array")
  ,("pkg/object/mqttproxy/spec.go:Spec", "-", "<none>")
  ,("pkg/object/mqttproxy/spec.go:Spec", "-", "<none>")
  ,("pkg/object/mqttproxy/spec.go:Spec", "port", "required")
  ,("pkg/object/mqttproxy/spec.go:Spec", "useTLS", "omitempty")
  ,("pkg/object/mqttproxy/spec.go:Spec", "certificate", "omitempty")
  ,("pkg/object/mqttproxy/spec.go:Spec", "topicCacheSize", "omitempty")
  ,("pkg/object/mqttproxy/spec.go:Spec", "maxAllowedConnection", "omitempty")
  ,("pkg/object/mqttproxy/spec.go:Spec", "connectionLimit", "omitempty")
  ,("pkg/object/mqttproxy/spec.go:Spec", "clientPublishLimit", "omitempty")
  ,("pkg/object/mqttproxy/spec.go:Spec", "rules", "omitempty")
  ,("pkg/object/mqttproxy/spec.go:Rule", "when", "omitempty")
  ,("pkg/object/mqttproxy/spec.go:Rule", "pipeline", "omitempty")
  ,("pkg/object/mqttproxy/spec.go:When", "packetType", "omitempty")
  ,("pkg/object/mqttproxy/spec.go:RateLimit", "requestRate", "omitempty")
  ,("pkg/object/mqttproxy/spec.go:RateLimit", "bytesRate", "omitempty")
  ,("pkg/object/mqttproxy/spec.go:RateLimit", "timePeriod", "omitempty")
  ]

def modelledValidate : List String := ["pkg/filters/proxy/proxy.go:Spec:pointer", "pkg/filters/proxy/pool.go:ServerPoolSpec:pointer", "pkg/filters/proxy/requestmatch.go:RequestMatcherSpec:pointer", "pkg/filters/proxy/requestmatch.go:MethodAndURLMatcher:pointer", "pkg/filters/proxy/requestmatch.go:StringMatcher:pointer", "pkg/filters/responseadaptor/responseadaptor.go:Spec:pointer", "pkg/protocols/httpprot/httpheader/validator.go:ValueValidator:value", "pkg/filters/ratelimiter/ratelimiter.go:Policy:value", "pkg/filters/ratelimiter/ratelimiter.go:Spec:value", "pkg/util/urlrule/urlrule.go:StringMatch:value", "pkg/filters/validator/validator.go:Spec:value", "pkg/filters/builder/builder.go:Spec:pointer", "pkg/filters/builder/requestbuilder.go:RequestBuilderSpec:pointer", "pkg/filters/builder/responsebuilder.go:ResponseBuilderSpec:pointer", "pkg/resilience/retry.go:RetryPolicy:pointer", "pkg/resilience/circuitbreaker.go:CircuitBreakerPolicy:pointer", "pkg/object/pipeline/pipeline.go:Spec:pointer", "pkg/object/globalfilter/globalfilter.go:Spec:pointer", "pkg/object/httpserver/spec.go:Spec:pointer", "pkg/object/httpserver/spec.go:Path:pointer", "pkg/object/httpserver/spec.go:Header:pointer", "pkg/object/mqttproxy/spec.go:Spec:pointer"]

/-- what is known about a panic site: its condition is a modelled guard; it is argued away in prose
(unreachable / converted to an error by a recover); nobody instantiates the code -/
inductive GuardClass where
  | guard | allow | notCovered
deriving DecidableEq, Repr

def guardTable : List ((String × String × Nat) × GuardClass × String) := [
  (("pkg/filters/builder/builder.go", "Builder.reload", 1), .guard, "builderInitOK (template.Must; repaired Validate parses the template)"),
  (("pkg/filters/builder/extrafuncs.go", "toFloat64", 3), .allow, "template functions run inside RequestBuilder/ResponseBuilder.Handle, whose deferred recover() returns buildErr (facts: recovers)"),
  (("pkg/filters/builder/extrafuncs.go", "var extraFuncs", 1), .allow, "template functions run inside RequestBuilder/ResponseBuilder.Handle, whose deferred recover() returns buildErr (facts: recovers)"),
  (("pkg/filters/headerlookup/headerlookup.go", "HeaderLookup.Init", 1), .notCovered, "kind outside the first wave (external system or MQTT-only); no harness case instantiates it"),
  (("pkg/filters/kafka/kafka.go", "Kafka.setProducer", 1), .notCovered, "kind outside the first wave (external system or MQTT-only); no harness case instantiates it"),
  (("pkg/filters/kafkabackend/kafka.go", "Kafka.setHeader", 1), .notCovered, "kind outside the first wave (external system or MQTT-only); no harness case instantiates it"),
  (("pkg/filters/kafkabackend/kafka.go", "Kafka.Init", 1), .notCovered, "kind outside the first wave (external system or MQTT-only); no harness case instantiates it"),
  (("pkg/filters/proxy/loadbalance.go", "WeightedRandomLoadBalancer.ChooseServer", 1), .allow, "BUG site, unreachable: past the early return totalWeight is the positive sum of the positive weights the loop subtracts (repair 7c1d2bb, proved under C04); rand.Intn is only called with a positive argument"),
  (("pkg/filters/proxy/pool.go", "ServerPool.InjectResiliencePolicy", 4), .guard, "poolInjectOK (known finding Proxy.retryPolicy / Proxy.circuitBreakerPolicy)"),
  (("pkg/filters/proxy/pool.go", "ServerPool.handle", 1), .guard, "retryWrapOnlyPassesHandlerError: panic(\"should not reach here\") is reached only if a wrapper returns an error that is neither ErrShortCircuited nor the handler's serverPoolError; regenerated fact: every return of the closure of RetryPolicy.Wrap returns nil or `err`, and `err` is only ever bound to handler(ctx) (retry_wrap_only_passes_handler_error); the circuit-breaker wrapper returns ErrShortCircuited or the handler's error; walked by the resilience-walk stream with contexts that end during a back-off"),
  (("pkg/filters/proxy/requestmatch.go", "StringMatcher.init", 1), .guard, "smInitOK (regexp.MustCompile guarded by format=regexp)"),
  (("pkg/filters/registry.go", "Register", 3), .allow, "process start (filters.Register from package init), not reachable from a spec"),
  (("pkg/filters/remotefilter/remotefilter.go", "RemoteFilter.limitRead", 2), .notCovered, "kind outside the first wave (external system or MQTT-only); no harness case instantiates it"),
  (("pkg/filters/remotefilter/remotefilter.go", "RemoteFilter.Handle", 2), .notCovered, "kind outside the first wave (external system or MQTT-only); no harness case instantiates it"),
  (("pkg/filters/remotefilter/remotefilter.go", "RemoteFilter.marshalHTTPContext", 1), .notCovered, "kind outside the first wave (external system or MQTT-only); no harness case instantiates it"),
  (("pkg/filters/remotefilter/remotefilter.go", "RemoteFilter.unmarshalHTTPContext", 2), .notCovered, "kind outside the first wave (external system or MQTT-only); no harness case instantiates it"),
  (("pkg/filters/requestadaptor/requestadaptor.go", "RequestAdaptor.Init", 4), .guard, "adaptorGuardsOK (known finding: RequestAdaptor has no Validate)"),
  (("pkg/filters/responseadaptor/responseadaptor.go", "ResponseAdaptor.Init", 4), .guard, "adaptorGuardsOK (repaired Validate repeats the four guards)"),
  (("pkg/filters/topicmapper/topicmapper.go", "TopicMapper.Init", 1), .notCovered, "kind outside the first wave (external system or MQTT-only); no harness case instantiates it"),
  (("pkg/filters/wasmhost/hostfunc.go", "WasmVM.writeDataToWasm", 1), .notCovered, "kind outside the first wave (external system or MQTT-only); no harness case instantiates it"),
  (("pkg/filters/wasmhost/hostfunc.go", "WasmVM.writeStringToWasm", 1), .notCovered, "kind outside the first wave (external system or MQTT-only); no harness case instantiates it"),
  (("pkg/filters/wasmhost/hostfunc.go", "WasmVM.writeStringArrayToWasm", 1), .notCovered, "kind outside the first wave (external system or MQTT-only); no harness case instantiates it"),
  (("pkg/filters/wasmhost/hostfunc.go", "WasmVM.readHeaderFromWasm", 1), .notCovered, "kind outside the first wave (external system or MQTT-only); no harness case instantiates it"),
  (("pkg/filters/wasmhost/hostfunc.go", "WasmVM.hostRequestGetCookie", 1), .notCovered, "kind outside the first wave (external system or MQTT-only); no harness case instantiates it"),
  (("pkg/filters/wasmhost/hostfunc.go", "WasmVM.hostClusterPutBinary", 1), .notCovered, "kind outside the first wave (external system or MQTT-only); no harness case instantiates it"),
  (("pkg/filters/wasmhost/hostfunc.go", "WasmVM.hostClusterPutString", 1), .notCovered, "kind outside the first wave (external system or MQTT-only); no harness case instantiates it"),
  (("pkg/filters/wasmhost/hostfunc.go", "WasmVM.hostClusterPutInteger", 1), .notCovered, "kind outside the first wave (external system or MQTT-only); no harness case instantiates it"),
  (("pkg/filters/wasmhost/hostfunc.go", "WasmVM.hostClusterAddInteger", 1), .notCovered, "kind outside the first wave (external system or MQTT-only); no harness case instantiates it"),
  (("pkg/filters/wasmhost/hostfunc.go", "WasmVM.hostClusterPutFloat", 1), .notCovered, "kind outside the first wave (external system or MQTT-only); no harness case instantiates it"),
  (("pkg/filters/wasmhost/hostfunc.go", "WasmVM.hostClusterAddFloat", 1), .notCovered, "kind outside the first wave (external system or MQTT-only); no harness case instantiates it"),
  (("pkg/filters/wasmhost/hostfunc.go", "WasmVM.importHostFuncs", 1), .notCovered, "kind outside the first wave (external system or MQTT-only); no harness case instantiates it"),
  (("pkg/filters/wasmhost/vm.go", "WasmVM.Run", 1), .notCovered, "kind outside the first wave (external system or MQTT-only); no harness case instantiates it"),
  (("pkg/filters/wasmhost/wasmhost.go", "WasmHost.Handle", 1), .notCovered, "kind outside the first wave (external system or MQTT-only); no harness case instantiates it"),
  (("pkg/object/pipeline/pipeline.go", "Spec.ValidateJumpIf", 4), .allow, "validation time; converted to an error by the deferred recover() of pipeline.Spec.Validate (facts: recovers)"),
  (("pkg/object/pipeline/pipeline.go", "Spec.Validate", 4), .allow, "validation time; converted to an error by the deferred recover() of pipeline.Spec.Validate (facts: recovers)"),
  (("pkg/object/pipeline/pipeline.go", "Pipeline.reload", 3), .allow, "re-runs filters.NewSpec / resilience.NewPolicy / kind lookup that pipeline.Spec.Validate already ran on the same document"),
  (("pkg/object/globalfilter/globalfilter.go", "GlobalFilter.Handle", 1), .allow, "the handler is always a *pipeline.Pipeline (the only context.Handler implementation the mux mapper hands to httpserver.mux); GlobalFilter is instantiated and served by harness gf"),
  (("pkg/object/globalfilter/globalfilter.go", "GlobalFilter.reload", 2), .guard, "globalFilterInitOK (CreateAndUpdate*PipelineForSpec fails only when supervisor.NewSpec rejects the re-marshalled part that globalfilter.Spec.Validate accepted; panics of Pipeline.Init/Inherit of an instantiated part are pipelineInitOK of that part; harness gf)"),
  (("pkg/object/httpserver/mux.go", "muxInstance.serveHTTP", 1), .allow, "deliberate, recovered abort of ONE response, not a crash: panic(http.ErrAbortHandler) in the deferred write-out, only when io.Copy of the response body returned an error other than http.ErrBodyNotAllowed (payload source or client connection failed); net/http recovers it and closes the connection (as httputil.ReverseProxy does). Harness http: never raised with a non-failing payload reader (that would be reported as a crash), raised and accepted as an aborted response when the handler's payload reader fails (X-Fail-Body)"),
  (("pkg/object/httpserver/spec.go", "Header.initHeaderRoute", 1), .guard, "httpServerInitOK (regexp.MustCompile(h.Regexp) guarded by format=regexp on Header.regexp: valid_implies_init_ok_HTTPServer; mux built and served by harness http)"),
  (("pkg/object/mqttproxy/broker.go", "newBroker", 1), .guard, "mqttProxyInitOK (getPipelineMap error -> panic; the repaired mqttproxy.Spec.Validate runs the same getPipelineMap: valid_implies_init_ok_MQTTProxy; broker started and driven by harness mqtt)"),
  (("pkg/object/mqttproxy/mqttproxy.go", "MQTTProxy.Init", 1), .allow, "environment, not configuration: newBroker returns nil only when the TCP/TLS listener cannot be opened (port in use, bad certificate material); harness mqtt uses port 0 without TLS"),
  (("pkg/util/signer/signer.go", "Signer.Verify", 1), .guard, "validatorHandleOK (repaired Validator.Spec.Validate requires accessKeys)"),
  (("pkg/util/urlrule/urlrule.go", "StringMatch.Init", 1), .guard, "smInitOK (regexp.MustCompile guarded by format=regexp)"),
  (("pkg/util/urlrule/urlrule.go", "URLRule.Init", 1), .guard, "smInitOK (regexp.MustCompile guarded by format=regexp)"),
  (("pkg/protocols/httpprot/request.go", "Request.SetPayload", 1), .allow, "BUG site, every caller passes []byte, string or io.Reader"),
  (("pkg/protocols/httpprot/request.go", "Request.RawPayload", 1), .allow, "stream payloads: memorycache.Store checks IsStream first; the other caller is HeaderToJSON (outside the first wave, predicted finding with clientMaxBodySize: -1, not covered)"),
  (("pkg/protocols/httpprot/response.go", "Response.SetPayload", 1), .allow, "BUG site, every caller passes []byte, string or io.Reader"),
  (("pkg/protocols/httpprot/response.go", "Response.RawPayload", 1), .allow, "stream payloads: memorycache.Store checks IsStream first; the other caller is HeaderToJSON (outside the first wave, predicted finding with clientMaxBodySize: -1, not covered)"),
  (("pkg/v/format.go", "var urlCharsRegexp", 1), .allow, "process start (package-level regexp of a constant)"),
  (("pkg/supervisor/spec.go", "Supervisor.newSpecInternal", 1), .allow, "validation time; Supervisor.NewSpec recovers (facts: recovers); newSpecInternal is not reachable from the admin API validation"),
  (("pkg/supervisor/spec.go", "Supervisor.NewSpec", 3), .allow, "validation time; Supervisor.NewSpec recovers (facts: recovers); newSpecInternal is not reachable from the admin API validation")
  ]

/-- What takes `retryFits` to `retryNoOverflow`: `A` is the base wait of the last attempt (`w`, or `w·3^k` over
`B = 2^k·10^e` when the back-off is exponential), `m / T` the randomisation factor `m·10^-e` and `B` the common
denominator. Since `A·m ≤ A·T`, the `rand.Intn` argument `2·A·m` is at most the longest wait `A·(T+m)`. -/
theorem fits_core (A T m B : Int) (hA : 0 ≤ A) (hm : m ≤ T)
    (h : A * (T + m) + B < 9223372036854775808 * B) : A * m * 2 < 9223372036854775807 * B := by
  have h1 : A * m ≤ A * T := Int.mul_le_mul_of_nonneg_left hm hA
  rw [Int.mul_add] at h
  generalize A * m = X at *
  generalize A * T = Y at *
  omega

end EgVerif.SpecGuards
