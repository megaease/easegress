import EgVerif.Proofs.BrokerSessionsFine
/-!
# The origin of delete events (C16): frame of every coarse step, invariant `OInv`

`OSt` / `ostep` (end of `Model/BrokerSessions.lean`) wrap the coarse model with the ghost queue of
event origins and the repaired broker's counter of own deletes. This file proves, for every history:

* what every step does to the connection records, the registration and the event counter (`step_frame`):
  records only move forward, hence "not alive any more" is stable;
* `OInv`: the ghost queue has the length of `watch`; the counter never exceeds the number of queued
  teardown-origin events; the connection of a queued teardown-origin event has ended; the victim of
  a queued admin-origin event that has a teardown-origin event queued BEHIND it is no longer alive.
-/
namespace EgVerif.BrokerSessions

/-- connection `v` is the registered one, not disconnected, and between registration and the end
of its read loop -/
def alive (s : St) (v : Nat) : Prop :=
  s.client = some v ∧ (s.conn v).disc = false ∧ (s.conn v).pc.active = true

/-- connection `v` has ended: it got past its read loop (or was never let in), or is disconnected -/
def ended (s : St) (v : Nat) : Prop :=
  (s.conn v).pc ≠ Pc.new ∧ ((s.conn v).disc = true ∨ (s.conn v).pc.active = false)

theorem not_alive_of_ended {s : St} {v : Nat} (h : ended s v) : ¬ alive s v := by
  rintro ⟨_, hd, ha⟩
  rcases h.2 with h | h
  · simp [hd] at h
  · simp [ha] at h

/-- a connection record only moves forward -/
structure ConnMono (c c' : Conn) : Prop where
  started : c.pc ≠ Pc.new → c'.pc ≠ Pc.new
  disc : c.disc = true → c'.disc = true
  inactive : c.pc ≠ Pc.new → c.pc.active = false → c'.pc.active = false

theorem ConnMono.refl (c : Conn) : ConnMono c c := ⟨id, id, fun _ h => h⟩

theorem connMono_upd {cn cn' : Nat → Conn} {k : Nat} {c : Conn} (e : cn' = upd cn k c) (m : ConnMono (cn k) c)
    (v : Nat) : ConnMono (cn v) (cn' v) := by
  subst e
  by_cases hv : v = k
  · subst hv; rw [upd_same]; exact m
  · rw [upd_other _ _ hv]; exact ConnMono.refl _

theorem teardown_frame (s : St) (k : Nat) :
    (teardown true s k).client = s.client ∧ (teardown true s k).conn = s.conn ∧
    (teardown true s k).watch = (if reachesDelDB s k then s.watch + 1 else s.watch) ∧
    (teardown true s k).db = (if reachesDelDB s k then none else s.db) ∧
    (teardown true s k).sessMap = (if superseded s k then s.sessMap else none) := by
  unfold teardown teardownBody reachesDelDB
  by_cases hsup : superseded s k = true
  · simp [hsup]
  · simp only [hsup, Bool.and_false, Bool.false_eq_true, if_false, Bool.not_false, Bool.true_and]
    cases hsm : s.sessMap <;> by_cases hcl : (s.sess (s.conn k).sess).clean = true <;> simp [hcl, closeSess, hsm]

theorem connectLocked_frame (s : St) (k : Nat) (clean : Bool) :
    (connectLocked true s k clean).client = some k ∧ (connectLocked true s k clean).watch = s.watch ∧
    ((connectLocked true s k clean).conn k).pc = Pc.registered ∧
    (∀ v, ((connectLocked true s k clean).conn v).disc = (s.conn v).disc) ∧
    (∀ v, v ≠ k → ((connectLocked true s k clean).conn v).pc = (s.conn v).pc) := by
  obtain ⟨hcl, hw, ho, hp, hd⟩ := setSession_frame { takeoverMark s with client := some k } k clean
  refine ⟨hcl, hw.trans (takeoverMark_rest s).2.2.2.2.2.2, hp, fun v => ?_, fun v hv => ?_⟩
  · by_cases hv : v = k
    · subst hv; exact hd.trans (takeoverMark_conn s v).2.2.1
    · exact (congrArg Conn.disc (ho v hv)).trans (takeoverMark_conn s v).2.2.1
  · exact (congrArg Conn.pc (ho v hv)).trans (takeoverMark_conn s v).1

/-- the steps that neither emit nor consume a delete event -/
def Act.quietW : Act → Bool
  | .cleanup _ | .writeErr _ | .adminDelete | .watchFires => false
  | _ => true

/-- What every atomic step does to the connection records, the registration and the event counter:
every record only moves forward; the registration stays, or goes to the connection that runs its
`connectLocked`, or is dropped by a delete event or by `removeClient` of a disconnected client;
only teardowns, admin deletes and `watchFires` change the counter. -/
theorem step_frame {s s' : St} {a : Act} (hs : step true s a = some s') :
    (∀ v, ConnMono (s.conn v) (s'.conn v)) ∧
    (s'.client = s.client ∨
      (∃ k cl, a = Act.connectLocked k cl ∧ (s.conn k).pc = Pc.new ∧ s'.client = some k) ∨
      (s'.client = none ∧
        (a = Act.watchFires ∨ ((∃ k, a = Act.remove k) ∧ ∃ o, s.client = some o ∧ (s.conn o).disc = true)))) ∧
    (a.quietW = true → s'.watch = s.watch) := by
  have toPc : ∀ (c : Conn) (p : Pc), p ≠ Pc.new → (c.pc.active = false → p.active = false) →
      ConnMono c { c with pc := p } := fun _ _ hn hi => ⟨fun _ => hn, id, fun _ => hi⟩
  have toDisc : ∀ c : Conn, ConnMono c { c with disc := true, closeReq := false } :=
    fun _ => ⟨id, fun _ => rfl, fun _ e => e⟩
  cases a
  case remove k =>
    obtain ⟨_, cl, rfl, hcl⟩ := step_remove hs
    refine ⟨connMono_upd rfl (toPc _ _ nofun fun _ => rfl), ?_, fun _ => rfl⟩
    rcases hcl with e | ⟨e, hd⟩
    · exact Or.inl e
    · exact Or.inr (Or.inr ⟨e, Or.inr ⟨⟨k, rfl⟩, hd⟩⟩)
  all_goals simp only [step] at hs
  case connectLocked k clean =>
    split at hs <;> cases hs
    rename_i hpc
    obtain ⟨hcl, hw, hp, hd, ho⟩ := connectLocked_frame s k clean
    refine ⟨fun v => ?_, Or.inr (Or.inl ⟨k, clean, rfl, hpc, hcl⟩), fun _ => hw⟩
    by_cases hv : v = k
    · subst hv; exact ⟨fun e => absurd hpc e, fun e => (hd v).trans e, fun e => absurd hpc e⟩
    · exact ⟨fun e => (ho v hv) ▸ e, fun e => (hd v).trans e, fun _ e => (ho v hv) ▸ e⟩
  case refuse k | connackFail k | noticeEnd k =>
    split at hs <;> cases hs
    exact ⟨connMono_upd rfl (toPc _ _ nofun fun _ => rfl), Or.inl rfl, fun _ => rfl⟩
  case storeSess k | resubscribe k =>
    split at hs <;> cases hs
    rename_i hpc
    exact ⟨connMono_upd rfl (toPc _ _ nofun fun e => by rw [hpc] at e; cases e), Or.inl rfl, fun _ => rfl⟩
  case subscribe k f | unsubscribe k f =>
    split at hs <;> cases hs
    exact ⟨fun _ => ConnMono.refl _, Or.inl rfl, fun _ => rfl⟩
  case cleanup k =>
    split at hs <;> cases hs
    obtain ⟨tcl, tconn, _⟩ := teardown_frame s k
    refine ⟨connMono_upd (c := { s.conn k with pc := Pc.cleaned }) ?_ (toPc _ _ nofun fun _ => rfl), Or.inl tcl, nofun⟩
    simp only [setPc, setConn, tconn]
  case close k =>
    split at hs <;> cases hs
    refine ⟨connMono_upd (k := k) (c := { s.conn k with pc := Pc.closed, disc := true, closeReq := false }) ?_
      ⟨fun _ => nofun, fun _ => rfl, fun _ _ => rfl⟩, Or.inl rfl, fun _ => rfl⟩
    simp [setPc, setConn, markDisc, upd_upd]
  case writeErr k =>
    split at hs <;> cases hs
    obtain ⟨tcl, tconn, _⟩ := teardown_frame s k
    refine ⟨connMono_upd (c := { s.conn k with disc := true, closeReq := false }) ?_ (toDisc _), Or.inl tcl, nofun⟩
    simp only [markDisc, setConn, tconn]
  case asyncClose k =>
    split at hs <;> cases hs
    exact ⟨connMono_upd rfl (toDisc _), Or.inl rfl, fun _ => rfl⟩
  case adminDelete =>
    cases hs
    exact ⟨fun _ => ConnMono.refl _, Or.inl rfl, nofun⟩
  case watchFires =>
    split at hs <;> cases hs
    refine ⟨?_, ?_, nofun⟩
    · cases hcl : s.client with
      | none => simp only [deleteSession, hcl]; exact fun _ => ConnMono.refl _
      | some o => simp only [deleteSession, hcl]; exact connMono_upd rfl (toDisc _)
    · refine Or.inr (Or.inr ⟨?_, Or.inl rfl⟩)
      cases hcl : s.client <;> simp [deleteSession, hcl]

theorem step_connMono {s s' : St} {a : Act} (hs : step true s a = some s') (v : Nat) :
    ConnMono (s.conn v) (s'.conn v) := (step_frame hs).1 v

/-- a connection becomes the registered one only by its own `connectLocked`, which it runs once -/
theorem step_client {s s' : St} {a : Act} (hs : step true s a = some s') {v : Nat}
    (hc : s'.client = some v) (hst : (s.conn v).pc ≠ Pc.new) : s.client = some v := by
  rcases (step_frame hs).2.1 with e | ⟨k, _, _, hpc, e⟩ | ⟨e, _⟩
  · exact e ▸ hc
  · cases eq_of_client e hc; exact absurd hpc hst
  · rw [e] at hc; cases hc

theorem step_watch_quiet {s s' : St} {a : Act} (hq : a.quietW = true) (hs : step true s a = some s') :
    s'.watch = s.watch := (step_frame hs).2.2 hq

theorem ended_step {s s' : St} {a : Act} (hs : step true s a = some s') {v : Nat} (h : ended s v) : ended s' v := by
  have m := step_connMono hs v
  refine ⟨m.started h.1, ?_⟩
  rcases h.2 with h2 | h2
  · exact Or.inl (m.disc h2)
  · exact Or.inr (m.inactive h.1 h2)

/-- "started and not alive" is stable: a connection that is no longer the registered live one never
becomes it again -/
theorem not_alive_step {s s' : St} {a : Act} (hs : step true s a = some s') {v : Nat}
    (hst : (s.conn v).pc ≠ Pc.new) (h : ¬ alive s v) : ¬ alive s' v := by
  have m := step_connMono hs v
  rintro ⟨hc, hd, ha⟩
  apply h
  refine ⟨step_client hs hc hst, ?_, ?_⟩
  · cases e : (s.conn v).disc with
    | false => rfl
    | true => rw [m.disc e] at hd; cases hd
  · cases e : (s.conn v).pc.active with
    | true => rfl
    | false => rw [m.inactive hst e] at ha; cases ha

theorem countT_append (l : List Origin) (o : Origin) :
    countT (l ++ [o]) = countT l + (if o.isTeardown then 1 else 0) := by
  unfold countT
  by_cases h : o.isTeardown = true <;> simp [List.filter_append, h]

theorem countT_tail_le (l : List Origin) : countT l ≤ countT l.tail + 1 := by
  cases l with
  | nil => simp [countT]
  | cons o r =>
    simp only [List.tail_cons]
    unfold countT
    by_cases h : o.isTeardown = true <;> simp [h]

theorem countT_cons_admin (c : Option Nat) (r : List Origin) : countT (Origin.admin c :: r) = countT r := by
  simp [countT, Origin.isTeardown]

theorem countT_cons_teardown (j : Nat) (r : List Origin) : countT (Origin.teardownOf j :: r) = countT r + 1 := by
  simp [countT, List.filter_cons, Origin.isTeardown]

/-- the victim of every queued admin-origin event has been let in, and is no longer alive once a
teardown-origin event is queued behind that admin event -/
def Victims (b : St) : List Origin → Prop
  | [] => True
  | Origin.admin (some v) :: rest => (b.conn v).pc ≠ Pc.new ∧ (0 < countT rest → ¬ alive b v) ∧ Victims b rest
  | _ :: rest => Victims b rest

theorem victims_mono {b b' : St} (h1 : ∀ v, (b.conn v).pc ≠ Pc.new → (b'.conn v).pc ≠ Pc.new)
    (h2 : ∀ v, (b.conn v).pc ≠ Pc.new → ¬ alive b v → ¬ alive b' v) :
    ∀ {l : List Origin}, Victims b l → Victims b' l
  | [], _ => trivial
  | Origin.admin (some v) :: _, h => ⟨h1 v h.1, fun hc => h2 v h.1 (h.2.1 hc), victims_mono h1 h2 h.2.2⟩
  | Origin.admin none :: rest, h | Origin.teardownOf _ :: rest, h => victims_mono (l := rest) h1 h2 h

theorem victims_tail {b : St} : ∀ {l : List Origin}, Victims b l → Victims b l.tail
  | [], _ => trivial
  | Origin.admin (some _) :: _, h => h.2.2
  | Origin.admin none :: _, h | Origin.teardownOf _ :: _, h => h

theorem victims_append_admin {b : St} (c : Option Nat) (hc : ∀ v, c = some v → (b.conn v).pc ≠ Pc.new) :
    ∀ {l : List Origin}, Victims b l → Victims b (l ++ [Origin.admin c])
  | [], _ => by
    cases c with
    | none => trivial
    | some v => exact ⟨hc v rfl, by simp [countT], trivial⟩
  | Origin.admin (some v) :: rest, h => by
    refine ⟨h.1, ?_, victims_append_admin c hc h.2.2⟩
    have e : countT (rest ++ [Origin.admin c]) = countT rest := by simp [countT_append, Origin.isTeardown]
    intro hpos; exact h.2.1 (e ▸ hpos)
  | Origin.admin none :: rest, h | Origin.teardownOf _ :: rest, h => victims_append_admin (l := rest) c hc h

theorem victims_append_teardown {b : St} (k : Nat) (hdead : ∀ v, ¬ alive b v) :
    ∀ {l : List Origin}, Victims b l → Victims b (l ++ [Origin.teardownOf k])
  | [], _ => trivial
  | Origin.admin (some v) :: _, h => ⟨h.1, fun _ => hdead v, victims_append_teardown k hdead h.2.2⟩
  | Origin.admin none :: rest, h | Origin.teardownOf _ :: rest, h => victims_append_teardown (l := rest) k hdead h

structure OInv (fixed : Bool) (s : OSt) : Prop where
  /-- the ghost queue lists exactly the events in flight -/
  len : s.origins.length = s.base.watch
  /-- the broker expects at most as many echoes as teardown-origin events are queued -/
  ownLe : s.own ≤ countT s.origins
  /-- the code before the patch has no counter -/
  ownZero : fixed = false → s.own = 0
  /-- the invariant of the coarse model (it does not mention `watch` / `db`) -/
  inv : Inv s.base
  /-- the connection whose teardown emitted a queued event has ended -/
  tdEnded : ∀ j, Origin.teardownOf j ∈ s.origins → ended s.base j
  victims : Victims s.base s.origins

theorem oinv_init (fixed : Bool) : OInv fixed oinit :=
  ⟨rfl, Nat.le_refl _, fun _ => rfl, inv_init, by simp [oinit], trivial⟩

theorem ended_congr {b b' : St} (hconn : b'.conn = b.conn) {v : Nat} (h : ended b v) : ended b' v := by
  unfold ended at *; rw [hconn]; exact h

theorem alive_congr {b b' : St} (hcl : b'.client = b.client) (hconn : b'.conn = b.conn) {v : Nat}
    (h : alive b' v) : alive b v := by
  unfold alive at *; rw [hcl, hconn] at h; exact h

theorem victims_of_same {b b' : St} (hcl : b'.client = b.client) (hconn : b'.conn = b.conn) {l : List Origin}
    (h : Victims b l) : Victims b' l :=
  victims_mono (fun v hv => by rw [hconn]; exact hv) (fun _ _ hna ha => hna (alive_congr hcl hconn ha)) h

theorem victims_step {s b : St} {a : Act} (hb : step true s a = some b) {l : List Origin} (h : Victims s l) :
    Victims b l :=
  victims_mono (fun v hv => (step_connMono hb v).started hv) (fun v hv hna => not_alive_step hb hv hna) h

/-- a base step that neither emits nor consumes an event (possibly followed by a correction of
`watch` only) keeps the invariant with the queue untouched -/
theorem oinv_same_queue {fixed : Bool} {s : OSt} {a : Act} {b : St} (h : OInv fixed s)
    (hb : step true s.base a = some b) (b' : St) (hcl : b'.client = b.client) (hconn : b'.conn = b.conn)
    (hinv : Inv b') (hw : b'.watch = s.base.watch) : OInv fixed ⟨b', s.origins, s.own⟩ := by
  refine ⟨h.len.trans hw.symm, h.ownLe, h.ownZero, hinv, ?_, ?_⟩
  · intro j hj; exact ended_congr hconn (ended_step hb (h.tdEnded j hj))
  · exact victims_of_same hcl hconn (victims_step hb h.victims)

/-- a teardown that reaches `delDB` and deletes: a teardown-origin event is queued -/
theorem oinv_push_teardown {fixed : Bool} {s : OSt} {a : Act} {b : St} {k : Nat} (h : OInv fixed s)
    (hb : step true s.base a = some b) (hw : b.watch = s.base.watch + 1) (hdead : ∀ v, ¬ alive b v)
    (hend : ended b k) (own' : Nat) (hown : own' ≤ s.own + 1) (hz : fixed = false → own' = 0) :
    OInv fixed ⟨b, s.origins ++ [Origin.teardownOf k], own'⟩ := by
  refine ⟨by simp [h.len, hw], ?_, hz, inv_step h.inv hb, ?_, ?_⟩
  · have := h.ownLe
    simp only [countT_append, Origin.isTeardown, if_true]; omega
  · intro j hj
    rcases List.mem_append.mp hj with hj | hj
    · exact ended_step hb (h.tdEnded j hj)
    · simp only [List.mem_singleton, Origin.teardownOf.injEq] at hj; subst hj; exact hend
  · exact victims_append_teardown k hdead (victims_step hb h.victims)

theorem reachesDelDB_client {s : St} {k : Nat} (h : reachesDelDB s k = true) : s.client = none ∨ s.client = some k := by
  apply not_superseded
  intro hsup; simp [reachesDelDB, hsup] at h

theorem oinv_teardown {fixed : Bool} {s : OSt} {a : Act} {b : St} {k : Nat} (h : OInv fixed s)
    (hb : step true s.base a = some b)
    (hw : b.watch = if reachesDelDB s.base k then s.base.watch + 1 else s.base.watch)
    (hcl : b.client = s.base.client) (hend : ended b k) :
    OInv fixed (oTeardown fixed s k b) := by
  -- a teardown that reaches `delDB` is that of the registered connection, if any: nobody is alive after it
  have hdead : reachesDelDB s.base k = true → ∀ v, ¬ alive b v := by
    intro hr v ha
    cases eq_of_owner (reachesDelDB_client hr) (hcl.symm.trans ha.1)
    exact not_alive_of_ended hend ha
  unfold oTeardown
  by_cases hr : reachesDelDB s.base k = true
  · simp only [hr, if_true] at hw ⊢
    cases fixed with
    | false =>
      simp only [Bool.false_eq_true, if_false]
      exact oinv_push_teardown h hb hw (hdead hr) hend _ (Nat.le_succ _) (fun _ => h.ownZero rfl)
    | true =>
      simp only [if_true]
      split
      · exact oinv_push_teardown h hb hw (hdead hr) hend _ (Nat.le_refl _) (fun e => by cases e)
      · exact oinv_same_queue h hb _ rfl rfl (inv_dbwatch (inv_step h.inv hb) b.db s.base.watch) rfl
  · simp only [hr, Bool.false_eq_true, if_false] at hw ⊢
    exact oinv_same_queue h hb b rfl rfl (inv_step h.inv hb) hw

/-- `watchFires`: the event is dropped as the echo of an own delete (proposed repair, while `own > 0`), or
delivered, which is the base step (`deleteSession`) -/
theorem watchFires_cases {fixed : Bool} {s s' : OSt} (hs : ostep fixed s Act.watchFires = some s') :
    0 < s.base.watch ∧
    ((fixed = true ∧ 0 < s.own ∧ s' = ⟨{ s.base with watch := s.base.watch - 1 }, s.origins.tail, s.own - 1⟩) ∨
     ((fixed = false ∨ s.own = 0) ∧
        s' = ⟨{ deleteSession s.base with watch := s.base.watch - 1 }, s.origins.tail, s.own⟩)) := by
  unfold ostep at hs
  simp only [step] at hs
  by_cases hpos : 0 < s.base.watch
  · simp only [hpos, if_true] at hs
    refine ⟨hpos, ?_⟩
    by_cases hd : (fixed && decide (0 < s.own)) = true
    · simp only [hd, if_true, Option.some.injEq] at hs
      simp only [Bool.and_eq_true, decide_eq_true_eq] at hd
      exact Or.inl ⟨hd.1, hd.2, hs.symm⟩
    · simp only [hd, Bool.false_eq_true, if_false, Option.some.injEq] at hs
      refine Or.inr ⟨?_, hs.symm⟩
      cases fixed with
      | false => exact Or.inl rfl
      | true => simp at hd; exact Or.inr hd
  · simp [hpos] at hs

/-- `fixed` ranges over the code before and after `fixes/C16-own-delete-event.patch` -/
theorem oinv_step {fixed : Bool} {s s' : OSt} {a : Act} (h : OInv fixed s) (hs : ostep fixed s a = some s') :
    OInv fixed s' := by
  have hs0 := hs
  unfold ostep at hs
  cases hb : step true s.base a with
  | none => simp [hb] at hs
  | some b =>
    simp only [hb] at hs
    cases a
    case cleanup k =>
      simp only [Option.some.injEq] at hs; subst hs
      have hb' := hb
      simp only [step] at hb'
      split at hb' <;> cases hb'
      refine oinv_teardown h hb ?_ (teardown_frame _ _).1 ?_
      · simp [setPc, setConn, (teardown_frame _ _).2.2.1]
      · constructor <;> simp [setPc, setConn, Pc.active]
    case writeErr k =>
      simp only [Option.some.injEq] at hs; subst hs
      have hb' := hb
      simp only [step] at hb'
      split at hb' <;> cases hb'
      rename_i hpc
      refine oinv_teardown h hb ?_ (teardown_frame _ _).1 ?_
      · simp [markDisc, setConn, (teardown_frame _ _).2.2.1]
      · constructor <;> simp [markDisc, setConn, (teardown_frame _ _).2.1, hpc]
    case adminDelete =>
      simp only [Option.some.injEq] at hs; subst hs
      simp only [step, Option.some.injEq] at hb; subst hb
      refine ⟨by simp [h.len], ?_, h.ownZero, inv_dbwatch h.inv _ _, ?_, ?_⟩
      · have := h.ownLe
        simp only [countT_append, Origin.isTeardown]; simpa using this
      · intro j hj
        rcases List.mem_append.mp hj with hj | hj
        · exact h.tdEnded j hj
        · simp at hj
      · exact victims_of_same (by rfl) (by rfl) (victims_append_admin _ (fun v hv => h.inv.regd v hv) h.victims)
    case watchFires =>
      obtain ⟨hpos, hc⟩ := watchFires_cases hs0
      have hlen : s.origins.tail.length = s.base.watch - 1 := by simp [h.len]
      have hmem : ∀ o, o ∈ s.origins.tail → o ∈ s.origins := fun o ho => List.mem_of_mem_tail ho
      have hle := h.ownLe
      have htl := countT_tail_le s.origins
      rcases hc with ⟨hf, hp, rfl⟩ | ⟨hz, rfl⟩
      · -- taken for the echo of an own delete, and dropped
        refine ⟨hlen, ?_, fun e => absurd (e ▸ hf) nofun, inv_dbwatch h.inv _ _,
          fun j hj => h.tdEnded j (hmem _ hj), victims_tail (victims_of_same (by rfl) (by rfl) h.victims)⟩
        show s.own - 1 ≤ countT s.origins.tail
        omega
      · -- delivered: the base step
        have hown : s.own = 0 := by
          rcases hz with e | e
          · exact h.ownZero e
          · exact e
        have hb' := hb
        simp only [step, hpos, if_true, Option.some.injEq] at hb'
        subst hb'
        refine ⟨hlen, ?_, h.ownZero, inv_step h.inv hb, fun j hj => ended_step hb (h.tdEnded j (hmem _ hj)),
          victims_tail (victims_step hb h.victims)⟩
        show s.own ≤ countT s.origins.tail
        omega
    all_goals
      simp only [Option.some.injEq] at hs; subst hs
      exact oinv_same_queue h hb b rfl rfl (inv_step h.inv hb) (step_watch_quiet rfl hb)

theorem origins_ne_nil {fixed : Bool} {s : OSt} (h : OInv fixed s) (hpos : 0 < s.base.watch) : s.origins ≠ [] := by
  intro e; have := h.len; rw [e] at this; simp at this; omega

/-- `watchFires` is enabled exactly when an event is queued -/
theorem watchFires_enabled {fixed : Bool} {s : OSt} (h : OInv fixed s) (hne : s.origins ≠ []) :
    (ostep fixed s Act.watchFires).isSome = true := by
  have hpos : 0 < s.base.watch := by
    rw [← h.len]; exact List.length_pos_iff.mpr hne
  unfold ostep
  simp only [step, hpos, if_true]
  split <;> rfl

/-- the bookkeeping of the repaired broker is exact: it expects precisely the queued teardown-origin events -/
def Exact (s : OSt) : Prop := s.own = countT s.origins

/-- a `watchFires` that delivers an admin-origin event while a teardown-origin event is queued
(necessarily behind it): the repaired broker takes the admin event for the echo of its own delete -/
def overtakes (s : OSt) : Act → Bool
  | .watchFires =>
    match s.origins with
    | Origin.admin _ :: rest => decide (0 < countT rest)
    | _ => false
  | _ => false

theorem exact_oTeardown {s : OSt} (he : s.own = countT s.origins) (k : Nat) (b : St) :
    (oTeardown true s k b).own = countT (oTeardown true s k b).origins := by
  unfold oTeardown
  split
  · simp only [if_true]; split
    · simp only [countT_append, Origin.isTeardown, if_true]; omega
    · exact he
  · exact he

theorem exact_step {s s' : OSt} {a : Act} (h : OInv true s) (he : Exact s) (hs : ostep true s a = some s')
    (hno : overtakes s a = false) : Exact s' := by
  unfold Exact at *
  have hs0 := hs
  unfold ostep at hs
  split at hs
  · cases hs
  cases a
  case watchFires =>
    obtain ⟨hpos, hc⟩ := watchFires_cases hs0
    have hne := origins_ne_nil h hpos
    cases ho : s.origins with
    | nil => exact absurd ho hne
    | cons o rest =>
      rw [ho] at he
      cases o with
      | teardownOf j =>
        rw [countT_cons_teardown] at he
        rcases hc with ⟨_, _, e⟩ | ⟨hz, _⟩
        · subst e; simp only [ho, List.tail_cons]; omega
        · rcases hz with hz | hz
          · cases hz
          · omega
      | admin c =>
        rw [countT_cons_admin] at he
        have hr : countT rest = 0 := by
          cases hr : countT rest with
          | zero => rfl
          | succ n => simp [overtakes, ho, hr] at hno
        rcases hc with ⟨_, hp, _⟩ | ⟨_, e⟩
        · omega
        · subst e; simp only [ho, List.tail_cons]; omega
  all_goals
    simp only [Option.some.injEq] at hs
    subst hs
  case cleanup | writeErr => exact exact_oTeardown he _ _
  case adminDelete => simp only [countT_append, Origin.isTeardown]; simpa using he
  all_goals exact he

theorem exact_teardown_head {s : OSt} (he : Exact s) {j : Nat} {rest : List Origin}
    (ho : s.origins = Origin.teardownOf j :: rest) : 0 < s.own := by
  unfold Exact at he; rw [ho, countT_cons_teardown] at he; omega

/-- **a delivered event** (code before the patch: every event; repaired code: an event that is not
expected) runs `deleteSession`: whoever is registered is disconnected and unregistered -/
theorem delivered_event_disconnects {fixed : Bool} {s s' : OSt} (hz : fixed = false ∨ s.own = 0)
    (hs : ostep fixed s Act.watchFires = some s') :
    s'.base.client = none ∧ ∀ o, s.base.client = some o → (s'.base.conn o).disc = true := by
  obtain ⟨_, hc⟩ := watchFires_cases hs
  rcases hc with ⟨hf, hp, _⟩ | ⟨_, e⟩
  · rcases hz with hz | hz
    · rw [hz] at hf; cases hf
    · omega
  · subst e
    constructor
    · cases hcl : s.base.client <;> simp [deleteSession, hcl]
    · intro o ho; simp [deleteSession, ho, markDisc, setConn]

/-- **after the handling of an admin-origin event its victim is not alive** — whether the event is
delivered (`deleteSession`) or, in the repaired code, taken for an expected echo and dropped: the
latter happens only when a teardown-origin event is queued behind it, and then the victim has
already gone (`OInv.victims`). -/
theorem admin_event_victim_gone {fixed : Bool} {s s' : OSt} (h : OInv fixed s) {v : Nat} {rest : List Origin}
    (ho : s.origins = Origin.admin (some v) :: rest) (hs : ostep fixed s Act.watchFires = some s') :
    ¬ alive s'.base v := by
  obtain ⟨_, hc⟩ := watchFires_cases hs
  rcases hc with ⟨_, hp, e⟩ | ⟨_, e⟩
  · subst e
    have hv := h.victims
    rw [ho] at hv
    have hle := h.ownLe
    rw [ho, countT_cons_admin] at hle
    intro ha
    exact hv.2.1 (by omega) (alive_congr (b := s.base) rfl rfl ha)
  · subst e
    rintro ⟨hc, _, _⟩
    simp only [deleteSession] at hc
    cases hcl : s.base.client <;> simp [hcl] at hc

theorem deleteSession_frame (s : St) :
    (deleteSession s).sessMap = s.sessMap ∧ (deleteSession s).sess = s.sess ∧ (deleteSession s).db = s.db ∧
    (deleteSession s).topicMgr = s.topicMgr ∧ (deleteSession s).nextSess = s.nextSess ∧
    ∀ k, s.client ≠ some k → (deleteSession s).conn k = s.conn k := by
  unfold deleteSession
  cases hcl : s.client with
  | none => simp
  | some o =>
    refine ⟨rfl, rfl, rfl, rfl, rfl, ?_⟩
    intro k hk
    have : k ≠ o := fun e => hk (by rw [e])
    simp [markDisc, setConn, this]

end EgVerif.BrokerSessions
