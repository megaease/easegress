import EgVerif.Model.URLRule
import EgVerif.Gen.FactsC09IRu
import Mathlib.Tactic.SplitIfs
/-!
Regenerated tie by translation for `pkg/util/urlrule/urlrule.go`: the `…IR`
definitions of `Gen.FactsC09IRu` (re-translated from the source on every run) equal `Model/URLRule.lean`.
At the end, `matches_eq_spec`: an initialised rule matches as its declarative reading `Rule.spec` says.
-/
namespace EgVerif.URLRule
open EgVerif.Gen.FactsC09IRu

theorem smValid_regenerated_from_source (sm : StringMatch) : smValidIR sm = sm.valid := by
  unfold smValidIR StringMatch.valid
  cases sm.empty
  · simp
  · simp [bne]
    -- the same conjunction on both sides: `==` on strings is `decide (· = ·)`
    rfl

theorem smMatch_regenerated_from_source (re : String → String → Bool) (sm : StringMatch) (value : String) :
    smMatchIR re sm value = sm.matches re value := rfl

theorem ruleMatch_regenerated_from_source (re : String → String → Bool) (r : Rule) (method path : String) :
    ruleMatchIR re r method path = r.matches re method path := by
  unfold ruleMatchIR Rule.matches
  by_cases h : r.methods.length > 0
  · cases r.methods.contains method <;> simp [h]
  · simp [h]

theorem ruleInit_regenerated_from_source (r : Rule) :
    ruleInitIR r = (r.init.1, r.init.2 || r.url.compiled) := by
  unfold ruleInitIR Rule.init
  by_cases h : r.url.regex = "" <;> simp [h]

theorem deepEqual_regenerated_from_source_loop (r r1 : Rule) (hl : r.methods.length = r1.methods.length) :
    ∀ (fuel i : Nat), i + fuel = r.methods.length →
      deepEqualIR_loop1 r r1 (i : Int) fuel =
        if r.methods.drop i = r1.methods.drop i then .inr () else .inl false := by
  intro fuel
  induction fuel with
  | zero =>
    intro i hi
    have h1 : r.methods.drop i = [] := List.drop_eq_nil_of_le (by omega)
    have h2 : r1.methods.drop i = [] := List.drop_eq_nil_of_le (by omega)
    simp [deepEqualIR_loop1, h1, h2]
  | succ n ih =>
    intro i hi
    have hlt : i < r.methods.length := by omega
    have hlt1 : i < r1.methods.length := by omega
    have d1 : r.methods.drop i = r.methods[i] :: r.methods.drop (i + 1) := (List.drop_eq_getElem_cons hlt)
    have d2 : r1.methods.drop i = r1.methods[i] :: r1.methods.drop (i + 1) := (List.drop_eq_getElem_cons hlt1)
    have g1 : r.methods.getD i "" = r.methods[i] := by simp [List.getD, hlt]
    have g2 : r1.methods.getD i "" = r1.methods[i] := by simp [List.getD, hlt1]
    unfold deepEqualIR_loop1
    simp only [Int.toNat_natCast, g1, g2, d1, d2, List.cons.injEq]
    have := ih (i + 1) (by omega)
    rw [show ((i : Int) + 1) = ((i + 1 : Nat) : Int) by omega, this]
    by_cases he : r.methods[i] = r1.methods[i]
    · simp [he]
    · simp [he]

theorem deepEqual_regenerated_from_source (r r1 : Rule) : deepEqualIR r r1 = r.deepEqual r1 := by
  unfold deepEqualIR Rule.deepEqual
  by_cases hl : r.methods.length = r1.methods.length
  · have := deepEqual_regenerated_from_source_loop r r1 hl r.methods.length 0 (by omega)
    simp only [Int.sub_zero, Int.toNat_natCast, List.drop_zero] at this ⊢
    rw [show ((0 : Nat) : Int) = 0 from rfl] at this
    rw [this]
    by_cases hm : r.methods = r1.methods
    · simp [hm, Bool.and_assoc]
      -- the same conjunction on both sides: `==` on strings is `decide (· = ·)`
      rfl
    · simp [hm, hl]
  · have hm : r.methods ≠ r1.methods := fun h => hl (by rw [h])
    have hl' : ¬ ((r.methods.length : Int) = (r1.methods.length : Int)) := by omega
    simp [hm, hl']

/-- `StringMatch.Match` as a disjunction: each test of the cascade either answers `true` or passes on. -/
theorem StringMatch.matches_eq (re : String → String → Bool) (sm : StringMatch) (value : String) :
    sm.matches re value =
      ((sm.empty && value == "") || (sm.exact != "" && value == sm.exact) ||
       (sm.pfx != "" && value.startsWith sm.pfx) || (sm.compiled && re sm.regex value)) := by
  simp only [StringMatch.matches, Bool.if_true_left, Bool.if_false_left, Bool.or_assoc, Bool.decide_eq_true,
    Bool.not_not]

theorem Rule.matches_eq (re : String → String → Bool) (r : Rule) (method path : String) :
    r.matches re method path =
      ((r.methods.isEmpty || r.methods.contains method) && r.url.matches re path) := by
  unfold Rule.matches
  cases r.methods with
  | nil => rfl
  | cons m ms => cases (m :: ms).contains method <;> simp

theorem matches_eq_spec (re : String → String → Bool) (r : Rule) (method path : String) :
    r.inited.matches re method path = r.spec re method path := by
  rw [Rule.matches_eq, StringMatch.matches_eq]
  rfl

end EgVerif.URLRule
