import EgVerif.Model.HotUpdate
/-!
Lemmas about `Model/HotUpdate.lean` on which the C11 theorems of `Props/C11.lean` rest, in the order
of the model's parts. Schedules of `mux.inst`: what one `step` does to one request (`step_reqs`) and
to the published history (`step_hist`), and the invariant `Inv` both give. Registry: the one shape all
four operations share (`Reg.step_cases`) and the well-formedness `Reg.WF` it preserves. RateLimiter:
`UrlsOk` (every URL holds a live limiter) through the repaired `reload` and through `Handle`.
-/
namespace EgVerif.HotUpdate

variable {R O M : Type}

theorem run_append (s : St R O M) (a b : List (Step R O M)) : run s (a ++ b) = run (run s a) b := by
  induction a generalizing s with
  | nil => rfl
  | cons x xs ih => simp [run, ih]

theorem run_append_cons (s : St R O M) (a : List (Step R O M)) (x : Step R O M) (b : List (Step R O M)) :
    run s (a ++ x :: b) = run (step (run s a) x) b := run_append s a (x :: b)

section
variable (s : St R O M) (a : Step R O M) (l : List (Step R O M)) (r : Nat)

theorem setReq_reqs (q : ReqSt R O M) (i : Nat) : (setReq s r q).reqs i = if i = r then q else s.reqs i := rfl

theorem step_load_some (g : Gen R O M) (h : (s.reqs r).loaded = some g) : step s (.load r) = s := by
  simp [step, h]

theorem step_load_none (h : (s.reqs r).loaded = none) :
    step s (.load r) = setReq s r { loaded := some s.cur, obs := (s.reqs r).obs } := by
  simp [step, h]

theorem step_use_none (f : Field) (h : (s.reqs r).loaded = none) : step s (.use r f) = s := by
  simp [step, h]

theorem step_use_some (f : Field) (g : Gen R O M) (h : (s.reqs r).loaded = some g) :
    step s (.use r f) = setReq s r { loaded := some g, obs := (s.reqs r).obs ++ [(f, g.read f)] } := by
  simp [step, h]

theorem step_store_none (u : Nat) (h : s.built u = none) : step s (.store u) = s := by
  simp [step, h]

theorem step_store_some (u : Nat) (g : Gen R O M) (h : s.built u = some g) :
    step s (.store u) = { s with cur := g, hist := g :: s.hist,
                                 built := fun i => if i = u then none else s.built i } := by
  simp [step, h]

/-- What one step does to request `r`: nothing; its `Load`, of the current instance; or one read
from the instance it holds. -/
theorem step_reqs :
    (step s a).reqs r = s.reqs r ∨
      ((s.reqs r).loaded = none ∧ (step s a).reqs r = { loaded := some s.cur, obs := (s.reqs r).obs }) ∨
      ∃ g f, (s.reqs r).loaded = some g ∧
        (step s a).reqs r = { loaded := some g, obs := (s.reqs r).obs ++ [(f, g.read f)] } := by
  cases a with
  | load r' =>
    cases hn : (s.reqs r').loaded with
    | some g => rw [step_load_some s r' g hn]; exact .inl rfl
    | none =>
      rw [step_load_none s r' hn]
      by_cases hi : r = r'
      · subst hi; exact .inr (.inl ⟨hn, if_pos rfl⟩)
      · exact .inl (if_neg hi)
  | use r' f =>
    cases hs : (s.reqs r').loaded with
    | none => rw [step_use_none s r' f hs]; exact .inl rfl
    | some g =>
      rw [step_use_some s r' f g hs]
      by_cases hi : r = r'
      · subst hi; exact .inr (.inr ⟨g, f, hs, if_pos rfl⟩)
      · exact .inl (if_neg hi)
  | build u g => exact .inl rfl
  | store u => simp only [step]; split <;> exact .inl rfl

/-- A step publishes at most one generation, one an updater had built, which then is the current one. -/
theorem step_hist :
    ((step s a).hist = s.hist ∧ (step s a).cur = s.cur) ∨
      ∃ u g, s.built u = some g ∧ (step s a).hist = g :: s.hist ∧ (step s a).cur = g := by
  cases a with
  | load r => simp only [step]; split <;> exact .inl ⟨rfl, rfl⟩
  | use r f => simp only [step]; split <;> exact .inl ⟨rfl, rfl⟩
  | build u g => exact .inl ⟨rfl, rfl⟩
  | store u =>
    simp only [step]
    split
    · exact .inl ⟨rfl, rfl⟩
    · exact .inr ⟨u, _, ‹_›, rfl, rfl⟩

theorem step_built (u : Nat) (g : Gen R O M) (h : (step s a).built u = some g) :
    s.built u = some g ∨ a = .build u g := by
  cases a with
  | load r => simp only [step] at h; split at h <;> exact .inl h
  | use r f => simp only [step] at h; split at h <;> exact .inl h
  | build u' g' =>
    simp only [step] at h
    split at h
    · cases h; subst u; exact .inr rfl
    · exact .inl h
  | store u' =>
    simp only [step] at h
    split at h
    · exact .inl h
    · simp only at h
      split at h
      · cases h
      · exact .inl h

theorem loaded_stable_run (g : Gen R O M) (h : (s.reqs r).loaded = some g) :
    ((run s l).reqs r).loaded = some g := by
  induction l generalizing s with
  | nil => exact h
  | cons a rest ih =>
    refine ih (step s a) ?_
    rcases step_reqs s a r with e | ⟨hn, _⟩ | ⟨g', f, hg, e⟩
    · rw [e]; exact h
    · rw [hn] at h; cases h
    · rw [e, ← hg]; exact h

theorem loaded_step (g : Gen R O M) (h : ((step s a).reqs r).loaded = some g) :
    (s.reqs r).loaded = some g ∨ g = s.cur := by
  rcases step_reqs s a r with e | ⟨_, e⟩ | ⟨g', f, hg, e⟩ <;> rw [e] at h
  · exact .inl h
  · exact .inr (Option.some.inj h).symm
  · exact .inl (hg.trans h)

/-- The published history only grows, and what a request holds at the end of a schedule it held at
the start, or it is the generation current at the start or one published since. -/
theorem loaded_run :
    ∃ pre, (run s l).hist = pre ++ s.hist ∧
      ∀ g, ((run s l).reqs r).loaded = some g → (s.reqs r).loaded = some g ∨ g ∈ pre ++ [s.cur] := by
  induction l generalizing s with
  | nil => exact ⟨[], rfl, fun g h => .inl h⟩
  | cons a rest ih =>
    obtain ⟨pre, hp, hm⟩ := ih (step s a)
    rcases step_hist s a with ⟨e1, e2⟩ | ⟨_, g', _, e1, e2⟩ <;> rw [e1] at hp <;> rw [e2] at hm
    · refine ⟨pre, hp, fun g h => (hm g h).elim (fun h => ?_) .inr⟩
      exact (loaded_step s a r g h).imp_right fun e => by simp [e]
    · refine ⟨pre ++ [g'], hp.trans (List.append_cons pre g' s.hist), fun g h => (hm g h).elim (fun h => ?_) fun h => ?_⟩
      · exact (loaded_step s a r g h).imp_right fun e => by simp [e]
      · exact .inr (List.mem_append_left _ h)

end

/-- The invariant of the interleaving semantics: the newest published generation is the current one,
and for every request one published generation explains its state — it read nothing before its
`Load`, and every read after it was served by the instance it loaded. -/
structure Inv (s : St R O M) : Prop where
  head : s.hist.head? = some s.cur
  req : ∀ r, ((s.reqs r).loaded = none ∧ (s.reqs r).obs = []) ∨
    ∃ g ∈ s.hist, (s.reqs r).loaded = some g ∧ ∀ p ∈ (s.reqs r).obs, p.2 = g.read p.1

theorem Inv.cur_mem {s : St R O M} (h : Inv s) : s.cur ∈ s.hist := List.mem_of_head? h.head

theorem inv_init (g0 : Gen R O M) : Inv (init g0) := ⟨rfl, fun _ => .inl ⟨rfl, rfl⟩⟩

theorem inv_step {s : St R O M} (h : Inv s) (a : Step R O M) : Inv (step s a) := by
  obtain ⟨hhead, hsub⟩ : (step s a).hist.head? = some (step s a).cur ∧ ∀ g ∈ s.hist, g ∈ (step s a).hist := by
    rcases step_hist s a with ⟨e1, e2⟩ | ⟨_, g', _, e1, e2⟩ <;> rw [e1, e2]
    · exact ⟨h.head, fun _ hg => hg⟩
    · exact ⟨rfl, fun g hg => List.mem_cons_of_mem g' hg⟩
  refine ⟨hhead, fun r => ?_⟩
  rcases step_reqs s a r with e | ⟨hn, e⟩ | ⟨g, f, hg, e⟩ <;> rw [e]
  · exact (h.req r).imp id fun ⟨g, hg, hl⟩ => ⟨g, hsub g hg, hl⟩
  · rcases h.req r with ⟨_, ho⟩ | ⟨g, _, hl, _⟩
    · exact .inr ⟨s.cur, hsub _ h.cur_mem, rfl, fun p hp => by rw [ho] at hp; cases hp⟩
    · rw [hn] at hl; cases hl
  · rcases h.req r with ⟨hl, _⟩ | ⟨g', hg', hl, ho⟩
    · rw [hg] at hl; cases hl
    · rw [hg] at hl; cases hl
      refine .inr ⟨g, hsub g hg', rfl, fun p hp => ?_⟩
      rcases List.mem_append.1 hp with hp | hp
      · exact ho p hp
      · cases List.mem_singleton.1 hp; rfl

theorem inv_run {s : St R O M} (h : Inv s) (l : List (Step R O M)) : Inv (run s l) := by
  induction l generalizing s with
  | nil => exact h
  | cons a rest ih => exact ih (inv_step h a)

/-- Every generation an updater builds in a schedule satisfies `S`. -/
def BuildsIn (S : Gen R O M → Prop) : List (Step R O M) → Prop
  | [] => True
  | .build _ g :: rest => S g ∧ BuildsIn S rest
  | _ :: rest => BuildsIn S rest

theorem BuildsIn.tail {S : Gen R O M → Prop} {a : Step R O M} {l : List (Step R O M)}
    (h : BuildsIn S (a :: l)) : BuildsIn S l := by
  cases a with
  | build u g => exact h.2
  | _ => exact h

theorem published_in (S : Gen R O M → Prop) (s : St R O M) (l : List (Step R O M))
    (hh : ∀ g ∈ s.hist, S g) (hb : ∀ u g, s.built u = some g → S g) (hl : BuildsIn S l) :
    ∀ g ∈ (run s l).hist, S g := by
  induction l generalizing s with
  | nil => exact hh
  | cons a rest ih =>
    refine ih (step s a) ?_ (fun u g h => ?_) hl.tail
    · rcases step_hist s a with ⟨e, _⟩ | ⟨u, g, hu, e, _⟩ <;> rw [e]
      · exact hh
      · exact List.forall_mem_cons.2 ⟨hb u g hu, hh⟩
    · rcases step_built s a u g h with h | rfl
      · exact hb u g h
      · exact hl.1

/-- The three reads of a request, in the order `serveHTTP` performs them. -/
def triple (g : Gen R O M) : List (Field × Val R O M) :=
  [(.rules, g.read .rules), (.mapper, g.read .mapper), (.options, g.read .options)]

theorem run_reload (s : St R O M) (g : Gen R O M) :
    (run s [.build 0 g, .store 0]).cur = g ∧ (run s [.build 0 g, .store 0]).reqs = s.reqs := by
  simp [run, step]

theorem run_req (s : St R O M) (k : Nat) (hl : (s.reqs k).loaded = none) (ho : (s.reqs k).obs = []) :
    let s' := run s [.load k, .use k .rules, .use k .mapper, .use k .options]
    s'.cur = s.cur ∧ (∀ i, i ≠ k → s'.reqs i = s.reqs i) ∧ (s'.reqs k).obs = triple s.cur := by
  -- the four steps evaluate: `hl` decides the `Load`, each read then finds the instance just loaded
  simp only [run, step, setReq, hl, ho, triple, if_true, List.nil_append, List.cons_append, ne_eq,
    true_and, and_true]
  intro i hi
  simp only [if_neg hi]

theorem seqRun_spec (ops : List (HOp R O M)) : ∀ (s : St R O M) (k : Nat),
    (∀ r, k ≤ r → (s.reqs r).loaded = none ∧ (s.reqs r).obs = []) →
    (∀ i, i < k → (seqRun s k ops).reqs i = s.reqs i) ∧
    (∀ j g, (expectedGens s.cur ops)[j]? = some g → ((seqRun s k ops).reqs (j + k)).obs = triple g) := by
  induction ops with
  | nil => intro s k _; exact ⟨fun _ _ => rfl, fun _ _ h => nomatch h⟩
  | cons op rest ih =>
    intro s k hf
    cases op with
    | reload g =>
      obtain ⟨hc, hr⟩ := run_reload s g
      have := ih (run s [.build 0 g, .store 0]) k (by intro r hr'; rw [hr]; exact hf r hr')
      simp only [seqRun, expectedGens]
      rw [hc, hr] at this
      exact this
    | req =>
      obtain ⟨hl, ho⟩ := hf k (Nat.le_refl k)
      obtain ⟨hc, hoth, hobs⟩ := run_req s k hl ho
      obtain ⟨ih1, ih2⟩ := ih (run s [.load k, .use k .rules, .use k .mapper, .use k .options]) (k + 1)
        (by intro r hr; rw [hoth r (by omega)]; exact hf r (by omega))
      rw [hc] at ih2
      simp only [seqRun, expectedGens]
      refine ⟨fun i hi => ?_, fun j g hj => ?_⟩
      · rw [ih1 i (by omega), hoth i (by omega)]
      · cases j with
        | zero =>
          -- the request just run: request `k`, which the rest of the history leaves alone
          cases hj
          rw [Nat.zero_add, ih1 k (Nat.lt_succ_self k)]
          exact hobs
        | succ j =>
          rw [Nat.add_right_comm]
          exact ih2 j g hj

/-- Well-formedness of the registry: instance identities are fresh, unique per name, and no
registered instance has been closed. -/
structure Reg.WF (r : Reg) : Prop where
  fresh : ∀ n e, r.ents n = some e → e.inst < r.next
  inj : ∀ n m e e', r.ents n = some e → r.ents m = some e' → e.inst = e'.inst → n = m
  live : ∀ n e, r.ents n = some e → e.inst ∉ r.closed
  closed_lt : ∀ i ∈ r.closed, i < r.next

theorem Reg.wf_empty : Reg.empty.WF :=
  ⟨by intro n e h; simp [Reg.empty] at h, by intro n m e e' h; simp [Reg.empty] at h,
   by intro n e h; simp [Reg.empty] at h, by intro i h; simp [Reg.empty] at h⟩

theorem Reg.set_eq (r : Reg) (n : String) (e : Option Entity) (m : String) :
    r.set n e m = if m = n then e else r.ents m := rfl

theorem Reg.closes_prev {r : Reg} {n : String} {prev : Entity} (hp : r.ents n = some prev) :
    ∀ i ∈ prev.inst :: r.closed, i ∈ r.closed ∨ ∃ p, r.ents n = some p ∧ p.inst = i := fun _ hi =>
  (List.mem_cons.1 hi).elim (fun e => .inr ⟨prev, hp, e.symm⟩) .inl

/-- The shape every registry operation has: it leaves the registry as it is, or the entry of its
own name is replaced, by nothing (only a delete) or by an entity holding the next fresh instance; at
most the instance that name held is closed; `next` does not go back. -/
theorem Reg.step_cases (r : Reg) (o : Op) : (r.step o).1 = r ∨
    ∃ e next closed, (r.step o).1 = ⟨r.set o.name e, next, closed⟩ ∧ r.next ≤ next ∧
      (∀ x, e = some x → x.inst = r.next ∧ r.next < next) ∧
      (∀ i ∈ closed, i ∈ r.closed ∨ ∃ p, r.ents o.name = some p ∧ p.inst = i) ∧
      (e = none → o = .delete o.name) := by
  have fresh : ∀ (s : Nat) (x : Entity), some (Entity.mk s 1 r.next) = some x →
      x.inst = r.next ∧ r.next < r.next + 1 := fun s x hx => by
    cases hx; exact ⟨rfl, Nat.lt_succ_self _⟩
  cases o with
  | create n s => exact .inr ⟨_, _, _, rfl, Nat.le_succ _, fresh s, fun _ hi => .inl hi, nofun⟩
  | update n s =>
    simp only [Reg.step]
    split
    · exact .inl rfl
    · exact .inr ⟨_, _, _, rfl, Nat.le_succ _, fresh s, Reg.closes_prev ‹_›, nofun⟩
  | apply n s =>
    simp only [Reg.step]
    split
    · exact .inr ⟨_, _, _, rfl, Nat.le_succ _, fresh s, fun _ hi => .inl hi, nofun⟩
    · split
      · exact .inl rfl
      · exact .inr ⟨_, _, _, rfl, Nat.le_succ _, fresh s, Reg.closes_prev ‹_›, nofun⟩
  | delete n =>
    simp only [Reg.step]
    split
    · exact .inl rfl
    · exact .inr ⟨none, _, _, rfl, Nat.le_refl _, nofun, Reg.closes_prev ‹_›, fun _ => rfl⟩

theorem Reg.wf_step {r : Reg} (h : r.WF) (o : Op) : (r.step o).1.WF := by
  rcases r.step_cases o with e | ⟨e, next, closed, eq, hnext, he, hcl, _⟩
  · rw [e]; exact h
  rw [eq]
  have hlt : ∀ i ∈ closed, i < r.next := fun i hi => by
    rcases hcl i hi with hi | ⟨p, hp, rfl⟩
    · exact h.closed_lt i hi
    · exact h.fresh o.name p hp
  refine ⟨fun m x hx => ?_, fun a b x y ha hb hi => ?_, fun m x hx hc => ?_,
    fun i hi => Nat.lt_of_lt_of_le (hlt i hi) hnext⟩
  · simp only [Reg.set_eq] at hx
    split at hx
    · exact (he x hx).1 ▸ (he x hx).2
    · exact Nat.lt_of_lt_of_le (h.fresh m x hx) hnext
  · simp only [Reg.set_eq] at ha hb
    split at ha <;> split at hb
    · subst a b; rfl
    · have := (he x ha).1; have := h.fresh b y hb; omega
    · have := (he y hb).1; have := h.fresh a x ha; omega
    · exact h.inj a b x y ha hb hi
  · simp only [Reg.set_eq] at hx
    split at hx
    · have := (he x hx).1; have := hlt _ hc; omega
    · rename_i hne
      rcases hcl _ hc with hc | ⟨p, hp, hpi⟩
      · exact h.live m x hx hc
      · exact hne (h.inj m o.name x p hx hp hpi.symm)

theorem Reg.wf_run {r : Reg} (h : r.WF) (ops : List Op) : (r.run ops).WF := by
  induction ops generalizing r with
  | nil => exact h
  | cons o rest ih => exact ih (Reg.wf_step h o)

theorem Reg.step_ents_other (r : Reg) (o : Op) (m : String) (hm : m ≠ o.name) :
    (r.step o).1.ents m = r.ents m := by
  rcases r.step_cases o with e | ⟨_, _, _, e, _⟩ <;> rw [e]
  exact if_neg hm

/-- Propositional reading of `rlUsable`. -/
def UrlsOk (heap : Heap) (urls : List URL) : Prop :=
  ∀ u ∈ urls, ∃ h, u.rl = some h ∧ h < heap.length

theorem rlUsable_iff (heap : Heap) (f : RLSpec) : rlUsable heap f = true ↔ UrlsOk heap f.urls := by
  simp only [rlUsable, UrlsOk, List.all_eq_true]
  refine forall₂_congr fun u _ => ?_
  cases u.rl <;> simp

theorem UrlsOk.mono {heap heap' : Heap} {urls : List URL} (hl : heap.length ≤ heap'.length)
    (h : UrlsOk heap urls) : UrlsOk heap' urls := by
  intro u hu
  obtain ⟨x, hx, hlt⟩ := h u hu
  exact ⟨x, hx, Nat.lt_of_lt_of_le hlt hl⟩

theorem createFor_length (spec : RLSpec) (heap : Heap) (u : URL) :
    (createFor spec heap u).1.length = heap.length + 1 := by simp [createFor]

section
variable (steal : Bool) (new prev : RLSpec) (heap : Heap) (u : URL) (ps us : List URL)

/-- Repaired code: the inner loop leaves the previous generation's URLs untouched. -/
theorem takeFrom_false_fst : (takeFrom false new prev u ps).1 = ps := by
  induction ps with
  | nil => rfl
  | cons p ps ih =>
    unfold takeFrom
    split
    · simp
    · simp [ih]

theorem takeFrom_snd (x : Option Nat) (h : (takeFrom steal new prev u ps).2 = some x) :
    ∃ p ∈ ps, p.rl = x := by
  induction ps with
  | nil => simp [takeFrom] at h
  | cons p ps ih =>
    unfold takeFrom at h
    split at h
    · simp at h; exact ⟨p, by simp, h⟩
    · simp at h
      obtain ⟨q, hq, hx⟩ := ih h
      exact ⟨q, List.mem_cons_of_mem _ hq, hx⟩

theorem reloadUrls_false_prev : (reloadUrls false new prev heap ps us).2.2 = ps := by
  induction us generalizing heap with
  | nil => rfl
  | cons u us ih =>
    unfold reloadUrls
    have hfst := takeFrom_false_fst new prev u ps
    split
    · rename_i ps' h heq
      obtain rfl : ps' = ps := by rw [← hfst, heq]
      exact ih heap
    · exact ih _

theorem reloadUrls_heap_le : heap.length ≤ (reloadUrls steal new prev heap ps us).1.length := by
  induction us generalizing heap ps with
  | nil => exact Nat.le_refl _
  | cons u us ih =>
    unfold reloadUrls
    split
    · exact ih heap _
    · exact Nat.le_trans (by rw [createFor_length]; exact Nat.le_succ _) (ih _ _)

/-- Repaired code: the new generation only holds live limiters. -/
theorem reloadUrls_false_new_ok (hps : UrlsOk heap ps) :
    UrlsOk (reloadUrls false new prev heap ps us).1 (reloadUrls false new prev heap ps us).2.1 := by
  induction us generalizing heap with
  | nil => exact fun _ hu => nomatch hu
  | cons u us ih =>
    unfold reloadUrls
    have hfst := takeFrom_false_fst new prev u ps
    split
    · rename_i ps' h heq
      obtain rfl : ps' = ps := by rw [← hfst, heq]
      obtain ⟨p, hp, hrl⟩ := takeFrom_snd false new prev u ps' h (by rw [heq])
      obtain ⟨x, hx, hlt⟩ := hps p hp
      exact List.forall_mem_cons.2 ⟨⟨x, hrl ▸ hx,
        Nat.lt_of_lt_of_le hlt (reloadUrls_heap_le false new prev heap ps' us)⟩, ih heap hps⟩
    · have hlt : heap.length < (createFor new heap u).1.length := by
        rw [createFor_length]; exact Nat.lt_succ_self _
      exact List.forall_mem_cons.2 ⟨⟨heap.length, rfl,
        Nat.lt_of_lt_of_le hlt (reloadUrls_heap_le false new prev _ ps us)⟩, ih _ (hps.mono (Nat.le_of_lt hlt))⟩

end

/-- `Handle` on a generation whose URLs all hold live limiters never dereferences nil, and it
never removes a limiter object. -/
theorem rlHandle_ok (heap : Heap) (q : FReq) (urls : List URL) (h : UrlsOk heap urls) :
    (rlHandle heap q urls).2 ≠ HOut.panic ∧ (rlHandle heap q urls).1.length = heap.length := by
  induction urls with
  | nil => simp [rlHandle]
  | cons u us ih =>
    have hus : UrlsOk heap us := fun v hv => h v (List.mem_cons_of_mem _ hv)
    obtain ⟨x, hx, hlt⟩ := h u (by simp)
    unfold rlHandle
    split
    · exact ih hus
    · simp only [hx]
      rw [List.getElem?_eq_getElem hlt]
      simp only
      split <;> simp

/-- The repaired `Close` sets `closed`, whatever the state was and however far the producer's
shutdown has come; `Handle` then fails cleanly without looking at the producer. -/
theorem kafkaHandle_close_guarded (shutdownDone : Bool) (s : KafkaSt) :
    kafkaHandle (kafkaClose true shutdownDone s) = KOut.failed := by
  simp [kafkaHandle, kafkaClose]

/-- `Pipeline.reload` as it is: whatever was running, the new generation's filter is created anew from
the new spec, with the new policy. -/
theorem pStep_false (s : PSt) (g : PGen) : pStep false s g = pInit g := by simp [pStep, pInit]

theorem ServerAction.effects_no_muxReload (a : ServerAction) (ss mm : Nat) :
    a.effects.filter (fun e => e == RtEffect.muxReload ss mm) = [] := by
  cases a <;> rfl

end EgVerif.HotUpdate
