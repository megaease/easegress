import EgVerif.Proofs.Signer
import EgVerif.Gen.FactsC06SignIR
/-!
Regenerated tie by translation for C06 (`Gen.FactsC06SignIR`): what `signer.go` hashes and MACs, and in which order —
`buildScopeString`, `deriveSigningKey`, `hashCanonicalRequest`, `sign`.
-/
namespace EgVerif.Signer
open EgVerif.Sha256 (Bytes)
open EgVerif.Gen.FactsC06SignIR

theorem buildScopeString_regenerated_from_source_loop (lit : Literal) (clock : Clock) (z : Bool) (now t : Int) (sc0 : List Bytes)
    (ct : Int) (cs : Bytes) : ∀ (scopes : List Bytes) (buf : Bytes),
    buildScopeStringIR_loop1 lit clock z now t sc0 ct cs buf scopes = .inr (buf ++ (scopes.map fun s => (47 : UInt8) :: s).flatten) := by
  intro scopes
  induction scopes with
  | nil => intro buf; simp [buildScopeStringIR_loop1]
  | cons s r ih => intro buf; simp [buildScopeStringIR_loop1, ih]

/-- `buildScopeString` (time already set) = `scopeString`: `date/scope₁/…/scopeₙ/suffix` -/
theorem buildScopeString_regenerated_from_source (lit : Literal) (clock : Clock) (now t : Int) (scopes : List Bytes) :
    buildScopeStringIR lit clock false now t scopes = (scopeString lit clock t scopes, t) := by
  unfold buildScopeStringIR scopeString
  simp only [buildScopeString_regenerated_from_source_loop, Bool.false_eq_true, if_false, List.nil_append]
  have : clock.fmtDate t :: scopes ++ [lit.scopeSuffix] = clock.fmtDate t :: (scopes ++ [lit.scopeSuffix]) := rfl
  rw [this, joinB_cons_flatten]
  simp

theorem deriveSigningKey_regenerated_from_source_loop (lit : Literal) (cr : Crypto) (clock : Clock) (secret : Bytes) (t : Int)
    (sc0 : List Bytes) (d : Bytes) : ∀ (scopes : List Bytes) (key : Bytes),
    deriveSigningKeyIR_loop1 lit cr clock secret t sc0 key d scopes = .inr (scopes.foldl (fun k s => cr.hmac k s) key) := by
  intro scopes
  induction scopes with
  | nil => intro key; rfl
  | cons s r ih => intro key; simp [deriveSigningKeyIR_loop1, ih]

/-- `deriveSigningKey` = the model's HMAC chain `prefix+secret → date → scopes… → suffix` -/
theorem deriveSigningKey_regenerated_from_source (lit : Literal) (cr : Crypto) (clock : Clock) (secret : Bytes) (t : Int)
    (scopes : List Bytes) : deriveSigningKeyIR lit cr clock secret t scopes = deriveSigningKey lit cr clock secret t scopes := by
  unfold deriveSigningKeyIR deriveSigningKey
  simp [deriveSigningKey_regenerated_from_source_loop]

/-- `hashCanonicalRequest` = SHA-256 (hex) of `canonicalRequest`: method, URI, query, headers, signed headers, body hash, LF-separated -/
theorem hashCanonicalRequest_regenerated_from_source (cr : Crypto) (m uri cq ch sh bh : Bytes) :
    hashCanonicalRequestIR cr m uri cq ch sh bh = cr.sha256hex (canonicalRequest m uri cq ch sh bh) := by
  unfold hashCanonicalRequestIR canonicalRequest
  simp

/-- `sign` = hex of HMAC(key, `stringToSign`) -/
theorem sign_regenerated_from_source (lit : Literal) (cr : Crypto) (clock : Clock) (t : Int) (scope hcr key : Bytes) :
    signIR lit cr clock t scope hcr key = Sha256.hex (cr.hmac key (stringToSign lit clock t scope hcr)) := by
  unfold signIR stringToSign
  simp

/-- together: the model's `signature` is what `sign` computes from `deriveSigningKey`, `buildScopeString` and `hashCanonicalRequest` -/
theorem signature_regenerated_from_source (lit : Literal) (cr : Crypto) (clock : Clock) (secret : Bytes) (now t : Int)
    (scopes : List Bytes) (m uri cq ch sh bh : Bytes) :
    signIR lit cr clock t (buildScopeStringIR lit clock false now t scopes).1 (hashCanonicalRequestIR cr m uri cq ch sh bh)
        (deriveSigningKeyIR lit cr clock secret t scopes)
      = signature lit cr clock secret t scopes (canonicalRequest m uri cq ch sh bh) := by
  rw [sign_regenerated_from_source, buildScopeString_regenerated_from_source, deriveSigningKey_regenerated_from_source,
    hashCanonicalRequest_regenerated_from_source]
  rfl

end EgVerif.Signer
