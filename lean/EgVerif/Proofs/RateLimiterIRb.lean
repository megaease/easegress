import EgVerif.Model.RateLimiterFilter
import EgVerif.Model.MultiRateLimiter
import EgVerif.Gen.FactsC09IR
import EgVerif.Gen.FactsC09IRb
/-!
Ties by translation for C09 (`notes/C09.md`): `Gen.FactsC09IR` and `Gen.FactsC09IRb` are produced on every run by
the go/ast micro-translator from the current bodies of the util limiter's `acquirePermission` and `SetState`, the
filter's `RateLimiter.Handle` and the MQTT proxy's `newLimiter` / `Limiter.acquirePermission`; the theorems prove
the generated definitions equal to the hand-written model for all inputs. A source change that alters the
arithmetic or the branch structure changes the generated definition and breaks the proof.
-/
namespace EgVerif.RateLimiterFilter
open EgVerif.RateLimiter EgVerif.Gen.FactsC09IRb

/-- result of `Handle` from the loop's `Sum` (a `return` inside the loop / `break` or falling out of it) -/
def finH : Sum (Option (Heap × HOut)) (Heap × Option Nat × Option Nat × Int) → Option (Heap × HOut)
  | .inl r => r
  | .inr (heap, status, asked, waited) => some (heap, ⟨"", status, asked, waited⟩)

theorem handle_regenerated_from_source_loop (now : Nat → Int) (cancelled : Bool) (us : List (Bool × Option Nat))
    (h0 : Heap) : ∀ (l : List (Bool × Option Nat)) (heap : Heap),
      finH (handleIR_loop1 now cancelled us h0 heap none none 0 l) =
        handle now (l.map (·.1)) (l.map (·.2)) heap := by
  intro l
  induction l with
  | nil => intro heap; simp [handleIR_loop1, handle, finH]
  | cons u r ih =>
    intro heap
    obtain ⟨m, lim⟩ := u
    cases m with
    | false => simp [handleIR_loop1, handle, ih]
    | true =>
      cases lim with
      | none => simp [handleIR_loop1, handle, finH]
      | some id =>
        simp only [handleIR_loop1, handle, List.map_cons]
        cases hg : heapGet heap id with
        | none => simp [hg, finH]
        | some lm =>
          simp only [hg, Option.isSome_some, Bool.and_self, Bool.not_true, Bool.false_eq_true, if_false, if_true,
            Option.getD_some]
          by_cases hp : (acquire lm.policy lm.state (now id) 1).2.permitted = true
          · simp only [hp, Bool.not_true, Bool.false_eq_true, if_false]
            by_cases hw : (acquire lm.policy lm.state (now id) 1).2.wait ≤ 0
            · simp [hw, finH]
            · cases cancelled <;> simp [hw, finH]
          · simp only [Bool.not_eq_true] at hp
            simp [hp, finH]

/-- **The filter's `Handle`, regenerated from the source, is the model's `handle`**: rules that do not
match are skipped; the *first* matching rule's limiter is asked once; refused ⇒ 429 `rateLimited`;
permitted without wait ⇒ `break`; with a wait ⇒ return after the timer or the client's cancellation; a rule
with a nil limiter panics. -/
theorem handle_regenerated_from_source (now : Nat → Int) (cancelled : Bool) (us : List (Bool × Option Nat))
    (h0 : Heap) : handleIR now cancelled us h0 = handle now (us.map (·.1)) (us.map (·.2)) h0 :=
  -- the `match` on the loop's `Sum` in `handleIR` is `finH` unfolded
  handle_regenerated_from_source_loop now cancelled us h0 us h0

end EgVerif.RateLimiterFilter

namespace EgVerif.RateLimiter
open EgVerif.Gen.FactsC09IRb

open EgVerif.Gen.FactsC09IR in
/-- `acquirePermission` of an enabled limiter, regenerated from the source, is the model's `acquire`. -/
theorem acquire_regenerated_from_source (p : Policy) (s : RL) (now count : Int) :
    acquireIR p s now count false = acquire p s now count := by
  unfold acquireIR acquire
  simp only [Bool.false_eq_true, if_false, decide_eq_true_eq]

/-- **The MQTT proxy's `newLimiter`, regenerated from the source, is the model's `newLimiter`**: no
limiter for a nil / all-zero spec; period = `timePeriod` seconds (1 if not positive); both rates ⇒ the
two-dimensional limiter `[requests, bytes]`, else the request or the byte limiter; timeout always 0. -/
theorem newLimiter_regenerated_from_source (spec : Option RateLimitSpec) :
    newLimiterIR spec = newLimiter spec := by
  cases spec with
  | none => rfl
  | some sp =>
    obtain ⟨rr, br, tp⟩ := sp
    simp only [newLimiterIR, newLimiter, Option.isNone_some, Bool.false_or, Option.getD_some,
      Bool.and_eq_true, beq_iff_eq, decide_eq_true_eq]
    -- the tests in source order; both sides take the same branch
    by_cases h0 : rr = 0 ∧ br = 0
    · rw [if_pos h0, if_pos h0]
    · rw [if_neg h0, if_neg h0]
      by_cases h1 : rr > 0 ∧ br > 0
      · simp only [if_pos h1]
      · simp only [if_neg h1]
        by_cases h2 : rr > 0
        · simp only [if_pos h2]
        · simp only [if_neg h2]
          by_cases h3 : br > 0
          · simp only [if_pos h3]
          · simp only [if_neg h3]

/-- the `Limiter` value the three fields of a `*Limiter` stand for (in the order `acquirePermission` tests them) -/
def ofFields (lm : Option (MPolicy × MRL)) (lq lb : Option (Policy × RL)) : Limiter :=
  match lm, lq, lb with
  | some m, _, _ => Limiter.multi m.1 m.2
  | none, some q, _ => Limiter.request q.1 q.2
  | none, none, some b => Limiter.byte b.1 b.2
  | none, none, none => Limiter.none

/-- **`Limiter.acquirePermission`, regenerated from the source, is the model's `Limiter.acquire`**: the
multi limiter is asked for `[1, byteNum]`, the request limiter for one permit, the byte limiter for
`byteNum` permits; no limiter ⇒ permitted. -/
theorem limiterAcquire_regenerated_from_source (lm : Option (MPolicy × MRL)) (lq lb : Option (Policy × RL))
    (now byteNum : Int) :
    (let r := limiterAcquireIR lm lq lb now byteNum
     (ofFields r.1.1 r.1.2.1 r.1.2.2, r.2)) = (ofFields lm lq lb).acquire now byteNum := by
  cases lm with
  | some m => simp [limiterAcquireIR, ofFields, Limiter.acquire]
  | none =>
    cases lq with
    | some q => simp [limiterAcquireIR, ofFields, Limiter.acquire]
    | none => cases lb <;> simp [limiterAcquireIR, ofFields, Limiter.acquire]

/-- **`RateLimiter.SetState`, regenerated from the source**: unchanged state ⇒ nothing; leaving
`StateDisabled` ⇒ `cycle = tokens = 0`, `startTime = now`; then the state is stored. -/
theorem setState_regenerated_from_source (s : RL) (cur st : Nat) : setStateIR s cur st = setState s cur st := by
  obtain ⟨c, t⟩ := s
  unfold setStateIR setState
  by_cases h1 : cur = st <;> by_cases h2 : cur = 2 <;> simp [h1, h2, init]

end EgVerif.RateLimiter
