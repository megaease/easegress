import EgVerif.Spec.Topic
/-!
# C14: the topic trie refines the abstract subscription set, and routing is MQTT 3.1.1 matching

The trie is read as a map from filter paths to client lists (`clientsAt`). `insert` and `remove` are point updates
of that map (`clientsAt_insert`, `clientsAt_remove`, both from `clientsAt_pathOp`), `findSubscribers` collects the
entries at the paths matching the topic (`mem_findLoop`), and the refinement relation `R` says that the map holds
exactly the live subscriptions. `WF` (unique keys, no empty node below the root) is the structural invariant;
`inv_step` carries `R`, `WF`, the session bookkeeping `J` and `Uniq` through every operation. The property theorems
are restated in `Props/C14.lean`.
-/
namespace EgVerif.Topic

/-! ### association lists (the Go maps of the model) -/
section AL
variable {κ β : Type} [DecidableEq κ]

theorem alGet_alSet (k k' : κ) (v : β) (l : List (κ × β)) :
    alGet k' (alSet k v l) = if k' = k then some v else alGet k' l := by
  induction l with
  | nil =>
    by_cases h : k' = k
    · simp [alSet, alGet, h]
    · simp [alSet, alGet, h, Ne.symm h]
  | cons p r ih =>
    obtain ⟨a, b⟩ := p
    by_cases h1 : a = k
    · subst h1
      by_cases h2 : k' = a
      · subst h2; simp [alSet, alGet]
      · simp [alSet, alGet, h2, Ne.symm h2]
    · by_cases h2 : a = k'
      · subst h2; simp [alSet, alGet, h1]
      · simp [alSet, alGet, h1, h2, ih]

theorem alGet_alSet_self (k : κ) (x : β) (l : List (κ × β)) : alGet k (alSet k x l) = some x := by
  rw [alGet_alSet, if_pos rfl]

theorem alSet_alSet_same (k : κ) (x y : β) (l : List (κ × β)) :
    alSet k y (alSet k x l) = alSet k y l := by
  induction l with
  | nil => simp [alSet]
  | cons p r ih =>
    obtain ⟨a, b⟩ := p
    by_cases h : a = k
    · simp [alSet, h]
    · simp [alSet, h, ih]

theorem alErase_cons (k a : κ) (b : β) (r : List (κ × β)) :
    alErase k ((a, b) :: r) = if a = k then alErase k r else (a, b) :: alErase k r := by
  by_cases h : a = k <;> simp [alErase, h]

theorem alGet_alErase (k k' : κ) (l : List (κ × β)) :
    alGet k' (alErase k l) = if k' = k then none else alGet k' l := by
  induction l with
  | nil => simp only [alErase, List.filter_nil, alGet, ite_self]
  | cons p r ih =>
    obtain ⟨a, b⟩ := p
    rw [alErase_cons]
    by_cases h1 : a = k
    · subst h1
      by_cases h2 : a = k'
      · subst h2; simp [ih]
      · simp [alGet, h2, ih, Ne.symm h2]
    · by_cases h2 : a = k'
      · subst h2; simp [alGet, h1]
      · simp [alGet, h1, h2, ih]

theorem alErase_alSet_same (k : κ) (x : β) (l : List (κ × β)) :
    alErase k (alSet k x l) = alErase k l := by
  induction l with
  | nil => simp [alSet, alErase]
  | cons p r ih =>
    obtain ⟨a, b⟩ := p
    by_cases h : a = k
    · simp [alSet, alErase_cons, h]
    · simp [alSet, alErase_cons, h, ih]

theorem alGet_mem {k : κ} {v : β} {l : List (κ × β)} (h : alGet k l = some v) : (k, v) ∈ l := by
  induction l with
  | nil => cases h
  | cons p r ih =>
    obtain ⟨a, b⟩ := p
    rw [alGet] at h
    split at h
    · rename_i e; cases h; rw [e]; exact List.mem_cons_self
    · exact List.mem_cons_of_mem _ (ih h)

theorem alGet_none_iff {k : κ} {l : List (κ × β)} : alGet k l = none ↔ k ∉ l.map Prod.fst := by
  induction l with
  | nil => exact ⟨fun _ h => (by cases h), fun _ => rfl⟩
  | cons p r ih =>
    obtain ⟨a, b⟩ := p
    rw [alGet, List.map_cons, List.mem_cons, not_or]
    split
    · rename_i h1; exact ⟨fun h => (by cases h), fun h => absurd h1.symm h.1⟩
    · rename_i h1; exact ⟨fun h => ⟨Ne.symm h1, ih.mp h⟩, fun h => ih.mpr h.2⟩

theorem mem_alGet {k : κ} {v : β} {l : List (κ × β)} (nd : (l.map Prod.fst).Nodup) (h : (k, v) ∈ l) :
    alGet k l = some v := by
  induction l with
  | nil => cases h
  | cons p r ih =>
    obtain ⟨a, b⟩ := p
    rw [List.map_cons, List.nodup_cons] at nd
    rcases List.mem_cons.mp h with h | h
    · cases h; simp [alGet]
    · have : a ≠ k := fun e => nd.1 (List.mem_map.mpr ⟨(k, v), h, e.symm⟩)
      simp [alGet, this, ih nd.2 h]

theorem mem_iff_alGet {k : κ} {v : β} {l : List (κ × β)} (nd : (l.map Prod.fst).Nodup) :
    (k, v) ∈ l ↔ alGet k l = some v := ⟨mem_alGet nd, alGet_mem⟩

theorem forall_mem_alSet {P : κ × β → Prop} {k : κ} {v : β} {l : List (κ × β)} (hk : P (k, v))
    (hl : ∀ p ∈ l, P p) : ∀ p ∈ alSet k v l, P p := by
  induction l with
  | nil => exact List.forall_mem_singleton.mpr hk
  | cons x r ih =>
    obtain ⟨a, b⟩ := x
    have hr : ∀ p ∈ r, P p := fun p hp => hl p (List.mem_cons_of_mem _ hp)
    rw [alSet]
    split
    · rename_i e
      subst e
      exact List.forall_mem_cons.mpr ⟨hk, hr⟩
    · exact List.forall_mem_cons.mpr ⟨hl _ List.mem_cons_self, ih hr⟩

theorem alSet_mem_self (k : κ) (v : β) (l : List (κ × β)) : (k, v) ∈ alSet k v l :=
  alGet_mem (alGet_alSet_self k v l)

theorem alSet_ne_nil (k : κ) (x : β) (l : List (κ × β)) : alSet k x l ≠ [] :=
  List.ne_nil_of_mem (alSet_mem_self k x l)

theorem nodup_alSet (k : κ) (v : β) {l : List (κ × β)} (nd : (l.map Prod.fst).Nodup) :
    ((alSet k v l).map Prod.fst).Nodup := by
  induction l with
  | nil => exact List.nodup_cons.mpr ⟨List.not_mem_nil, List.nodup_nil⟩
  | cons x r ih =>
    obtain ⟨a, b⟩ := x
    rw [List.map_cons, List.nodup_cons] at nd
    rw [alSet]
    split
    · exact List.nodup_cons.mpr nd
    · rename_i h1
      refine List.nodup_cons.mpr ⟨fun h => ?_, ih nd.2⟩
      obtain ⟨p, hp, e⟩ := List.mem_map.mp h
      exact forall_mem_alSet (P := fun p => p.1 ≠ a) (Ne.symm h1)
        (fun p hp e => nd.1 (List.mem_map.mpr ⟨p, hp, e⟩)) p hp e

theorem nodup_alErase (k : κ) {l : List (κ × β)} (nd : (l.map Prod.fst).Nodup) :
    ((alErase k l).map Prod.fst).Nodup :=
  List.Nodup.sublist (List.Sublist.map _ List.filter_sublist) nd

theorem mem_alErase {k : κ} {l : List (κ × β)} {p : κ × β} : p ∈ alErase k l ↔ p ∈ l ∧ p.1 ≠ k := by
  simp [alErase]

theorem alErase_noop (k : κ) (l : List (κ × β)) (h : alGet k l = none) : alErase k l = l := by
  rw [alErase, List.filter_eq_self]
  intro p hp
  exact decide_eq_true fun e => alGet_none_iff.mp h (List.mem_map.mpr ⟨p, hp, e⟩)

end AL

/-! ### the trie seen as a partial map from filter paths to client lists -/

def clientsAt : Trie → List Level → List (Client × QoS)
  | t, [] => t.clients
  | t, l :: ls => match alGet l t.children with
    | some n => clientsAt n ls
    | none => []

def subAt : Trie → List Level → Option Trie
  | t, [] => some t
  | t, l :: ls => match alGet l t.children with
    | some n => subAt n ls
    | none => none

/-- the child under `l`; an absent child reads as the empty node, which stores nothing (`clientsAt_empty`) -/
def childD (t : Trie) (l : Level) : Trie := (alGet l t.children).getD Trie.empty

theorem clientsAt_empty (g : List Level) : clientsAt Trie.empty g = [] := by
  cases g <;> rfl

theorem clientsAt_cons (t : Trie) (l : Level) (x : List Level) :
    clientsAt t (l :: x) = clientsAt (childD t l) x := by
  rw [clientsAt, childD]
  cases alGet l t.children with
  | none => exact (clientsAt_empty x).symm
  | some n => rfl

theorem childD_alSet (cl : List (Client × QoS)) (ch : List (Level × Trie)) (l l' : Level) (m : Trie) :
    childD (.node cl (alSet l m ch)) l' = if l' = l then m else childD (.node cl ch) l' := by
  simp only [childD, Trie.children, alGet_alSet]
  split <;> rfl

theorem childD_alErase (cl : List (Client × QoS)) (ch : List (Level × Trie)) (l l' : Level) :
    childD (.node cl (alErase l ch)) l' = if l' = l then Trie.empty else childD (.node cl ch) l' := by
  simp only [childD, Trie.children, alGet_alErase]
  split <;> rfl

/-- An operation that walks down the path `f` through `childD`, touches no client list on the way and applies
`u` to the one at the end changes the path view at `f` only. `insert` and `remove` are of this shape. -/
theorem clientsAt_pathOp {op : List Level → Trie → Trie} {u : List (Client × QoS) → List (Client × QoS)}
    (nil_clients : ∀ t, (op [] t).clients = u t.clients)
    (nil_child : ∀ t l, childD (op [] t) l = childD t l)
    (cons_clients : ∀ l ls t, (op (l :: ls) t).clients = t.clients)
    (cons_child : ∀ l ls t l', childD (op (l :: ls) t) l' = if l' = l then op ls (childD t l) else childD t l')
    (f : List Level) : ∀ (t : Trie) (g : List Level),
      clientsAt (op f t) g = if g = f then u (clientsAt t f) else clientsAt t g := by
  induction f with
  | nil =>
    intro t g
    cases g with
    | nil => exact nil_clients t
    | cons l' g' => rw [clientsAt_cons, nil_child, if_neg (List.cons_ne_nil _ _), clientsAt_cons]
  | cons l ls ih =>
    intro t g
    cases g with
    | nil => exact cons_clients l ls t
    | cons l' g' =>
      rw [clientsAt_cons, cons_child]
      by_cases h : l' = l
      · subst h
        rw [if_pos rfl, ih, clientsAt_cons, clientsAt_cons]
        simp only [List.cons.injEq, true_and]
      · rw [if_neg h, if_neg (fun e => h (List.cons.inj e).1), clientsAt_cons]

theorem insert_nil (c : Client) (q : QoS) (t : Trie) :
    insert [] c q t = .node (alSet c q t.clients) t.children := by
  cases t; rfl

theorem insert_cons (l : Level) (ls : List Level) (c : Client) (q : QoS) (t : Trie) :
    insert (l :: ls) c q t = .node t.clients (alSet l (insert ls c q (childD t l)) t.children) := by
  cases t; rfl

theorem clientsAt_insert (f : List Level) (c : Client) (q : QoS) (t : Trie) (g : List Level) :
    clientsAt (insert f c q t) g = if g = f then alSet c q (clientsAt t f) else clientsAt t g := by
  refine clientsAt_pathOp (op := fun f => insert f c q) (u := alSet c q) ?_ ?_ ?_ ?_ f t g
  · intro t; rw [insert_nil]; rfl
  · intro t l; rw [insert_nil]; rfl
  · intro l ls t; rw [insert_cons]; rfl
  · intro l ls t l'; rw [insert_cons, childD_alSet]; cases t; rfl

theorem eq_empty_of_isEmpty {t : Trie} (h : t.isEmpty = true) : t = Trie.empty := by
  cases t with
  | node cl ch =>
    simp only [Trie.isEmpty, Trie.clients, Trie.children, Bool.and_eq_true, List.isEmpty_iff] at h
    rw [h.1, h.2]; rfl

theorem remove_nil (c : Client) (t : Trie) : remove [] c t = .node (alErase c t.clients) t.children := by
  cases t; rfl

theorem remove_empty (ls : List Level) (c : Client) : remove ls c Trie.empty = Trie.empty := by
  cases ls <;> rfl

/-- One level of `remove`. A pruned child reads through `childD` as the empty node it had become, so the pruning
does not show in this form. -/
theorem remove_cons (l : Level) (ls : List Level) (c : Client) (t : Trie) :
    (remove (l :: ls) c t).clients = t.clients ∧
    ∀ l', childD (remove (l :: ls) c t) l' = if l' = l then remove ls c (childD t l) else childD t l' := by
  cases t with
  | node cl ch =>
    have keep : ∀ n, childD (.node cl ch) l = n → ∀ l',
        childD (.node cl ch) l' = if l' = l then n else childD (.node cl ch) l' := by
      intro n e l'
      split
      · rename_i h; rw [h, e]
      · rfl
    have hc : childD (.node cl ch) l = (alGet l ch).getD Trie.empty := rfl
    rw [hc]
    cases hg : alGet l ch with
    | none =>
      rw [Option.getD_none, remove_empty]
      simp only [remove, removeAux, hg, Option.getD_none]
      exact ⟨trivial, keep _ (by rw [hc, hg]; rfl)⟩
    | some child =>
      rw [Option.getD_some]
      cases hr : removeAux ls c child with
      | none =>
        simp only [remove, removeAux, hg, hr, Option.getD_none]
        exact ⟨trivial, keep _ (by rw [hc, hg]; rfl)⟩
      | some child' =>
        simp only [remove, removeAux, hg, hr, Option.getD_some]
        by_cases he : child'.isEmpty = true
        · rw [if_pos he, Option.getD_some, eq_empty_of_isEmpty he]
          exact ⟨rfl, childD_alErase cl ch l⟩
        · rw [if_neg he, Option.getD_some]
          exact ⟨rfl, fun l' => childD_alSet cl ch l l' child'⟩

theorem clientsAt_remove (f : List Level) (c : Client) (t : Trie) (g : List Level) :
    clientsAt (remove f c t) g = if g = f then alErase c (clientsAt t f) else clientsAt t g := by
  refine clientsAt_pathOp (op := fun f => remove f c) (u := alErase c) ?_ ?_ ?_ ?_ f t g
  · intro t; rw [remove_nil]; rfl
  · intro t l; rw [remove_nil]; rfl
  · intro l ls t; exact (remove_cons l ls c t).1
  · intro l ls t; exact (remove_cons l ls c t).2

/-! ### the structural invariant: unique keys, and every non-root node has a subscriber at or below it -/

/-- some subscription is stored at or below this node -/
inductive Live : Trie → Prop
  | here {cl ch} : cl ≠ [] → Live (.node cl ch)
  | under {cl ch} {l : Level} {n : Trie} : (l, n) ∈ ch → Live n → Live (.node cl ch)

/-- Go-map discipline (unique keys in `clients` and `nodes`, hereditarily) and **no empty non-root
node**: every child is `Live`. -/
inductive WF : Trie → Prop
  | mk {cl ch} : (cl.map Prod.fst).Nodup → (ch.map Prod.fst).Nodup →
      (∀ p ∈ ch, WF p.2) → (∀ p ∈ ch, Live p.2) → WF (.node cl ch)

theorem WF_empty : WF Trie.empty := WF.mk (by simp) (by simp) (by simp) (by simp)

theorem Live.not_isEmpty {t : Trie} (h : Live t) : t.isEmpty = false := by
  cases h with
  | @here cl ch hne =>
    cases cl with
    | nil => exact absurd rfl hne
    | cons _ _ => rfl
  | @under cl ch l n hm _ =>
    cases ch with
    | nil => cases hm
    | cons _ _ => exact Bool.and_false _

theorem WF.child {n : Trie} (h : WF n) {l : Level} {m : Trie} (hm : (l, m) ∈ n.children) : WF m := by
  cases h with
  | mk _ _ hc _ => exact hc _ hm

theorem WF.child_live {n : Trie} (h : WF n) {l : Level} {m : Trie} (hm : (l, m) ∈ n.children) : Live m := by
  cases h with
  | mk _ _ _ hl => exact hl _ hm

theorem WF.children_nodup {n : Trie} (h : WF n) : (n.children.map Prod.fst).Nodup := by
  cases h with
  | mk _ h2 _ _ => exact h2

theorem WF.clients_nodup {n : Trie} (h : WF n) : (n.clients.map Prod.fst).Nodup := by
  cases h with
  | mk h1 _ _ _ => exact h1

theorem live_of_wf_nonempty {t : Trie} (h : WF t) (hne : t.isEmpty = false) : Live t := by
  cases h with
  | @mk cl ch _ _ _ hl =>
    cases cl with
    | cons x xs => exact Live.here (List.cons_ne_nil _ _)
    | nil =>
      cases ch with
      | nil => cases hne
      | cons p ps => exact Live.under (l := p.1) (n := p.2) List.mem_cons_self (hl p List.mem_cons_self)

theorem Live_insert (f : List Level) (c : Client) (q : QoS) : ∀ t, Live (insert f c q t) := by
  induction f with
  | nil =>
    intro t
    rw [insert_nil]
    exact Live.here (alSet_ne_nil c q _)
  | cons l ls ih =>
    intro t
    rw [insert_cons]
    exact Live.under (alSet_mem_self l _ _) (ih _)

theorem WF_insert (f : List Level) (c : Client) (q : QoS) : ∀ t, WF t → WF (insert f c q t) := by
  induction f with
  | nil =>
    intro t h; cases h with
    | mk h1 h2 h3 h4 => exact WF.mk (nodup_alSet _ _ h1) h2 h3 h4
  | cons l ls ih =>
    intro t h; cases h with
    | @mk cl ch h1 h2 h3 h4 =>
      have hchild : WF ((alGet l ch).getD Trie.empty) := by
        cases hg : alGet l ch with
        | none => exact WF_empty
        | some n => exact h3 _ (alGet_mem hg)
      exact WF.mk h1 (nodup_alSet _ _ h2) (forall_mem_alSet (ih _ hchild) h3)
        (forall_mem_alSet (Live_insert _ _ _ _) h4)

theorem WF_remove (f : List Level) (c : Client) : ∀ t, WF t → WF (remove f c t) := by
  induction f with
  | nil =>
    intro t h; cases h with
    | mk h1 h2 h3 h4 => exact WF.mk (nodup_alErase _ h1) h2 h3 h4
  | cons l ls ih =>
    intro t h
    cases h with
    | @mk cl ch h1 h2 h3 h4 =>
      cases hg : alGet l ch with
      | none =>
        simp only [remove, removeAux, hg]
        exact WF.mk h1 h2 h3 h4
      | some child =>
        have hw := ih child (h3 _ (alGet_mem hg))
        cases hra : removeAux ls c child with
        | none =>
          simp only [remove, removeAux, hg, hra]
          exact WF.mk h1 h2 h3 h4
        | some child' =>
          simp only [remove, hra, Option.getD_some] at hw
          simp only [remove, removeAux, hg, hra]
          split
          · exact WF.mk h1 (nodup_alErase _ h2) (fun p hp => h3 p (mem_alErase.mp hp).1)
              (fun p hp => h4 p (mem_alErase.mp hp).1)
          · rename_i he
            -- the child that is kept is not empty, hence live
            exact WF.mk h1 (nodup_alSet _ _ h2) (forall_mem_alSet hw h3)
              (forall_mem_alSet (live_of_wf_nonempty hw (Bool.eq_false_iff.mpr he)) h4)

theorem clientsAt_nodup (f : List Level) : ∀ t, WF t → ((clientsAt t f).map Prod.fst).Nodup := by
  induction f with
  | nil => intro t h; simpa [clientsAt] using h.clients_nodup
  | cons l ls ih =>
    intro t h
    simp only [clientsAt]
    cases hg : alGet l t.children with
    | none => simp
    | some n => exact ih n (h.child (alGet_mem hg))

/-! ### `findSubscribers` against the path view -/

theorem matches_nil_right (f : Filter) : «matches» f [] = true ↔ f = [] ∨ f = [hash] := by
  cases f <;> simp [«matches»]

theorem matches_cons_cons (l : Level) (f : Filter) (tl : Level) (t : List Level) :
    «matches» (l :: f) (tl :: t) = true ↔
      (l = hash ∧ f = []) ∨ (l ≠ hash ∧ (l = plus ∨ l = tl) ∧ «matches» f t = true) := by
  by_cases h : l = hash <;> simp [«matches», h]

theorem mem_clientsAt_cons {n : Trie} (wf : WF n) (x : Client × QoS) (l : Level) (r : List Level) :
    x ∈ clientsAt n (l :: r) ↔ ∃ p ∈ n.children, p.1 = l ∧ x ∈ clientsAt p.2 r := by
  rw [clientsAt]
  constructor
  · intro h
    cases hg : alGet l n.children with
    | none => rw [hg] at h; cases h
    | some m => rw [hg] at h; exact ⟨(l, m), alGet_mem hg, rfl, h⟩
  · rintro ⟨⟨l', m⟩, hm, rfl, hx⟩
    rw [mem_alGet wf.children_nodup hm]
    exact hx

theorem live_witness {n : Trie} (h : Live n) : WF n → ∃ g c q, (c, q) ∈ clientsAt n g := by
  induction h with
  | @here cl ch hne =>
    intro _
    obtain ⟨p, hp⟩ := List.exists_mem_of_ne_nil cl hne
    exact ⟨[], p.1, p.2, hp⟩
  | @under cl ch l n hm _ ih =>
    intro wf
    obtain ⟨g, c, q, hx⟩ := ih (wf.child hm)
    exact ⟨l :: g, c, q, (mem_clientsAt_cons wf _ l g).mpr ⟨(l, n), hm, rfl, hx⟩⟩

theorem subAt_spec (p : List Level) : ∀ (t n : Trie), WF t → subAt t p = some n →
    WF n ∧ (p ≠ [] → Live n) ∧ ∀ g, clientsAt t (p ++ g) = clientsAt n g := by
  induction p with
  | nil => intro t n wf h; cases h; exact ⟨wf, fun h => absurd rfl h, fun _ => rfl⟩
  | cons l p ih =>
    intro t n wf h
    rw [subAt] at h
    cases hg : alGet l t.children with
    | none => rw [hg] at h; cases h
    | some m =>
      rw [hg] at h
      have hm := alGet_mem hg
      obtain ⟨h1, h2, h3⟩ := ih m n (wf.child hm) h
      refine ⟨h1, fun _ => ?_, fun g => ?_⟩
      · cases p with
        | nil => cases h; exact wf.child_live hm
        | cons => exact h2 (List.cons_ne_nil _ _)
      · rw [← h3 g, List.cons_append, clientsAt, hg]

theorem mem_hashHits (cur : List Trie) (x : Client × QoS) :
    x ∈ hashHits cur ↔ ∃ n ∈ cur, ∃ p ∈ n.children, p.1 = hash ∧ x ∈ p.2.clients := by
  simp only [hashHits, List.mem_flatMap, List.mem_filter, decide_eq_true_eq, and_assoc]

theorem mem_nextNodes (tl : Level) (cur : List Trie) (m : Trie) :
    m ∈ nextNodes tl cur ↔
      ∃ n ∈ cur, ∃ p ∈ n.children, p.1 ≠ hash ∧ (p.1 = plus ∨ p.1 = tl) ∧ p.2 = m := by
  simp only [nextNodes, List.mem_flatMap, List.mem_map, List.mem_filter, Bool.and_eq_true, Bool.or_eq_true,
    decide_eq_true_eq, and_assoc]

theorem endHits_eq (cur : List Trie) :
    endHits cur = cur.flatMap fun n => clientsAt n [] ++ clientsAt n [hash] := by
  rfl

theorem findLoop_no_frontier (topic : List Level) : findLoop topic [] = [] := by
  cases topic <;> rfl

/-- the early exit on an empty frontier does not change the result -/
theorem findLoop_cons (tl : Level) (rest : List Level) (cur : List Trie) :
    findLoop (tl :: rest) cur = hashHits cur ++ findLoop rest (nextNodes tl cur) := by
  rw [findLoop]
  split
  · rename_i h
    rw [List.isEmpty_iff.mp h, findLoop_no_frontier, List.append_nil]
  · rfl

theorem mem_findLoop (topic : List Level) : ∀ (cur : List Trie), (∀ n ∈ cur, WF n) → ∀ (x : Client × QoS),
    x ∈ findLoop topic cur ↔ ∃ n ∈ cur, ∃ f, x ∈ clientsAt n f ∧ «matches» f topic = true := by
  induction topic with
  | nil =>
    intro cur _ x
    rw [findLoop, endHits_eq]
    simp only [List.mem_flatMap, List.mem_append, matches_nil_right]
    constructor
    · rintro ⟨n, hn, h | h⟩
      · exact ⟨n, hn, [], h, Or.inl rfl⟩
      · exact ⟨n, hn, [hash], h, Or.inr rfl⟩
    · rintro ⟨n, hn, f, hx, rfl | rfl⟩
      · exact ⟨n, hn, Or.inl hx⟩
      · exact ⟨n, hn, Or.inr hx⟩
  | cons tl rest ih =>
    intro cur hwf x
    have hnext : ∀ m ∈ nextNodes tl cur, WF m := by
      intro m hm
      obtain ⟨n, hn, p, hp, _, _, rfl⟩ := (mem_nextNodes tl cur m).mp hm
      exact (hwf n hn).child (l := p.1) hp
    rw [findLoop_cons, List.mem_append, mem_hashHits, ih _ hnext]
    constructor
    · rintro (⟨n, hn, p, hp, hl, hx⟩ | ⟨m, hm, f, hx, hmat⟩)
      · exact ⟨n, hn, [hash], (mem_clientsAt_cons (hwf n hn) x hash []).mpr ⟨p, hp, hl, hx⟩,
          (matches_cons_cons ..).mpr (Or.inl ⟨rfl, rfl⟩)⟩
      · obtain ⟨n, hn, p, hp, h1, h2, rfl⟩ := (mem_nextNodes tl cur m).mp hm
        exact ⟨n, hn, p.1 :: f, (mem_clientsAt_cons (hwf n hn) x p.1 f).mpr ⟨p, hp, rfl, hx⟩,
          (matches_cons_cons ..).mpr (Or.inr ⟨h1, h2, hmat⟩)⟩
    · rintro ⟨n, hn, f, hx, hmat⟩
      cases f with
      | nil => cases hmat
      | cons l r =>
        obtain ⟨p, hp, rfl, hm⟩ := (mem_clientsAt_cons (hwf n hn) x l r).mp hx
        rcases (matches_cons_cons ..).mp hmat with ⟨hl, rfl⟩ | ⟨h1, h2, h3⟩
        · exact Or.inl ⟨n, hn, p, hp, hl, hm⟩
        · exact Or.inr ⟨p.2, (mem_nextNodes tl cur p.2).mpr ⟨n, hn, p, hp, h1, h2, rfl⟩, r, hm, h3⟩

/-! ### `splitTopic` against the declarative well-formedness -/

def wild (l : Level) : Bool := l.contains '+' || l.contains '#'

theorem splitSlash_ne_nil (s : List Char) : ∃ l ls, splitSlash s = l :: ls := by
  induction s with
  | nil => exact ⟨[], [], rfl⟩
  | cons c r ih =>
    obtain ⟨l, ls, e⟩ := ih
    by_cases h : c = '/'
    · exact ⟨[], splitSlash r, by simp [splitSlash, h]⟩
    · exact ⟨c :: l, ls, by simp [splitSlash, h, e]⟩

theorem splitSlash_cons_slash (r : List Char) : splitSlash ('/' :: r) = [] :: splitSlash r := by
  simp only [splitSlash, if_true]

theorem splitSlash_cons_other {c : Char} {r : List Char} {l : Level} {ls : List Level} (h : c ≠ '/')
    (e : splitSlash r = l :: ls) : splitSlash (c :: r) = (c :: l) :: ls := by
  simp only [splitSlash, h, if_false, e]

/-- the loop's test `len(level) > 1 && wildCardFlag` is the negation of `levelOK` -/
theorem levelOK_eq (l : Level) : levelOK l = !(decide (l.length > 1) && wild l) := by
  simp only [levelOK, wild, gt_iff_lt, ← Nat.not_le, decide_not]
  cases l.contains '+' <;> cases l.contains '#' <;> cases decide (l.length ≤ 1) <;> rfl

theorem wellFormedLevels_single (a : Level) : wellFormedLevels [a] = levelOK a := by
  simp only [wellFormedLevels, List.all_cons, List.all_nil, hashOnlyLast, Bool.and_true]

theorem wellFormedLevels_cons_cons (a b : Level) (r : List Level) :
    wellFormedLevels (a :: b :: r) = (levelOK a && !a.contains '#' && wellFormedLevels (b :: r)) := by
  simp only [wellFormedLevels, List.all_cons, hashOnlyLast]
  ac_rfl

theorem splitSlash_single_nil {s : List Char} (h : splitSlash s = [[]]) : s = [] := by
  cases s with
  | nil => rfl
  | cons c r =>
    obtain ⟨l, ls, e⟩ := splitSlash_ne_nil r
    by_cases hc : c = '/'
    · subst hc; rw [splitSlash_cons_slash, e] at h; cases h
    · rw [splitSlash_cons_other hc e] at h; cases h

theorem wild_snoc (cur : Level) (ch : Char) :
    wild (cur ++ [ch]) = (wild cur || decide (ch = '+' ∨ ch = '#')) := by
  simp only [wild, List.contains_append, List.contains_cons, List.contains_nil, Bool.or_false, Bool.decide_or,
    eq_comm (a := ch)]
  ac_rfl

/-- a `#` that is not the last character of the string makes its level, or the filter, ill-formed -/
theorem wellFormedLevels_hash_inside (cur l1 : Level) (ls1 : List Level) (h : ¬ (l1 = [] ∧ ls1 = [])) :
    wellFormedLevels ((cur ++ '#' :: l1) :: ls1) = false := by
  cases ls1 with
  | cons a b => simp [wellFormedLevels_cons_cons]
  | nil =>
    cases l1 with
    | nil => exact absurd ⟨rfl, rfl⟩ h
    | cons a b =>
      simp [wellFormedLevels_single, levelOK_eq, wild]
      omega

/-! what the rune loop does on each kind of character -/

theorem splitLoop_nil (cur : Level) (flag : Bool) (acc : List Level) :
    splitLoop [] cur flag acc = if decide (cur.length > 1) && flag then none else some (acc ++ [cur]) := rfl

theorem splitLoop_slash (rest : List Char) (cur : Level) (flag : Bool) (acc : List Level) :
    splitLoop ('/' :: rest) cur flag acc =
      if decide (cur.length > 1) && flag then none else splitLoop rest [] false (acc ++ [cur]) := by
  simp only [splitLoop, if_true]

theorem splitLoop_cons {ch : Char} (h : ch ≠ '/') (rest : List Char) (cur : Level) (flag : Bool)
    (acc : List Level) :
    splitLoop (ch :: rest) cur flag acc =
      if ch = '#' ∧ rest ≠ [] then none
      else splitLoop rest (cur ++ [ch]) (flag || decide (ch = '+' ∨ ch = '#')) acc := by
  by_cases h2 : ch = '+'
  · subst h2; simp [splitLoop]
  · by_cases h3 : ch = '#'
    · subst h3
      by_cases hr : rest = [] <;> simp [splitLoop, hr]
    · simp [splitLoop, h, h2, h3]

/-- The loop invariant of `splitTopic`: `wildCardFlag` is `wild cur`, a `#` already read was the last character, and
the levels still to come are those of `splitSlash rest` with `cur` in front of the first. -/
theorem splitLoop_eq (rest : List Char) : ∀ (cur : List Char) (acc : List Level),
    ('#' ∈ cur → rest = []) →
    ∀ l0 ls0, splitSlash rest = l0 :: ls0 →
    splitLoop rest cur (wild cur) acc =
      if wellFormedLevels ((cur ++ l0) :: ls0) then some (acc ++ (cur ++ l0) :: ls0) else none := by
  induction rest with
  | nil =>
    intro cur acc _ l0 ls0 e
    cases e
    rw [splitLoop_nil, List.append_nil, wellFormedLevels_single, levelOK_eq]
    cases decide (cur.length > 1) && wild cur <;> rfl
  | cons ch r ih =>
    intro cur acc hh l0 ls0 e
    obtain ⟨l1, ls1, e1⟩ := splitSlash_ne_nil r
    have hnm : '#' ∉ cur := fun h => List.cons_ne_nil _ _ (hh h)
    by_cases h1 : ch = '/'
    · subst h1
      rw [splitSlash_cons_slash, e1] at e
      cases e
      have hnh : cur.contains '#' = false := by simpa using hnm
      have := ih [] (acc ++ [cur]) (by simp) l1 ls1 e1
      rw [show wild [] = false from rfl, List.nil_append] at this
      rw [splitLoop_slash, this, List.append_nil, wellFormedLevels_cons_cons, levelOK_eq, hnh]
      cases decide (cur.length > 1) && wild cur <;> simp
    · rw [splitSlash_cons_other h1 e1] at e
      cases e
      have hsnoc : cur ++ ch :: l1 = (cur ++ [ch]) ++ l1 := by simp
      rw [splitLoop_cons h1, ← wild_snoc]
      by_cases hbad : ch = '#' ∧ r ≠ []
      · obtain ⟨rfl, hr⟩ := hbad
        have : ¬ (l1 = [] ∧ ls0 = []) := by
          rintro ⟨rfl, rfl⟩; exact hr (splitSlash_single_nil e1)
        rw [if_pos ⟨rfl, hr⟩, wellFormedLevels_hash_inside cur l1 ls0 this, if_neg Bool.false_ne_true]
      · rw [if_neg hbad, hsnoc]
        refine ih (cur ++ [ch]) acc (fun hm => ?_) l1 ls0 e1
        rcases List.mem_append.mp hm with hm | hm
        · exact absurd hm hnm
        · exact Classical.not_not.mp fun hr => hbad ⟨(List.mem_singleton.mp hm).symm, hr⟩

theorem split_eq (s : List Char) :
    split s = if wellFormed s then some (splitSlash s) else none := by
  obtain ⟨l0, ls0, e⟩ := splitSlash_ne_nil s
  have := splitLoop_eq s [] [] (by simp) l0 ls0 e
  rw [show wild [] = false from rfl, List.nil_append, List.nil_append] at this
  rw [split, wellFormed, this, e]

theorem split_some {f : List Char} {ls : List Level} (h : split f = some ls) :
    wellFormed f = true ∧ ls = splitSlash f := by
  rw [split_eq] at h
  split at h
  · exact ⟨‹_›, (Option.some.inj h).symm⟩
  · cases h

theorem split_none {f : List Char} (h : split f = none) : wellFormed f = false := by
  rw [split_eq] at h
  split at h
  · cases h
  · exact Bool.eq_false_iff.mpr ‹_›

theorem split_isSome (f : List Char) : (split f).isSome = wellFormed f := by
  rw [split_eq]
  cases wellFormed f <;> rfl

/-! ### refinement of the abstract subscription set -/

/-- the trie stores exactly the live subscriptions (as maps: per filter path and client one QoS) -/
def R (t : Trie) (s : Subs) : Prop := ∀ f c, alGet c (clientsAt t f) = s.get f c

/-- map semantics of the abstract set: at most one entry per (filter, client) -/
def Uniq (s : Subs) : Prop := s.Pairwise (fun a b => ¬ (a.1 = b.1 ∧ a.2.1 = b.2.1))

theorem get_filter_key (k : Filter → Client → Bool) (s : Subs) (f' : Filter) (c' : Client) :
    Subs.get (s.filter (fun e => k e.1 e.2.1)) f' c' = if k f' c' then s.get f' c' else none := by
  induction s with
  | nil => simp only [List.filter_nil, Subs.get, ite_self]
  | cons e r ih =>
    obtain ⟨a, b, q⟩ := e
    by_cases h : a = f' ∧ b = c'
    · obtain ⟨rfl, rfl⟩ := h
      cases hk : k a b <;> simp [hk, Subs.get, ih]
    · cases hk : k a b <;> simp [hk, Subs.get, ih, h]

theorem get_unsub (f : Filter) (c : Client) (s : Subs) (f' : Filter) (c' : Client) :
    (s.unsub f c).get f' c' = if f' = f ∧ c' = c then none else s.get f' c' := by
  rw [Subs.unsub, get_filter_key (fun a b => !(decide (a = f) && decide (b = c)))]
  by_cases h : f' = f ∧ c' = c <;> simp [h]

theorem get_sub (f : Filter) (c : Client) (q : QoS) (s : Subs) (f' : Filter) (c' : Client) :
    (s.sub f c q).get f' c' = if f' = f ∧ c' = c then some q else s.get f' c' := by
  simp only [Subs.sub, Subs.get, get_unsub]
  by_cases h : f' = f ∧ c' = c
  · obtain ⟨e1, e2⟩ := h; subst e1; subst e2
    simp
  · have : ¬ (f = f' ∧ c = c') := fun e => h ⟨e.1.symm, e.2.symm⟩
    simp [h, this]

theorem get_disc (c : Client) (s : Subs) (f' : Filter) (c' : Client) :
    (s.disc c).get f' c' = if c' = c then none else s.get f' c' := by
  rw [Subs.disc, get_filter_key (fun _ b => decide (b ≠ c))]
  by_cases h : c' = c <;> simp [h]

theorem uniq_filter {s : Subs} (p : Filter × Client × QoS → Bool) (h : Uniq s) : Uniq (s.filter p) :=
  List.Pairwise.sublist List.filter_sublist h

theorem uniq_sub (f : Filter) (c : Client) (q : QoS) {s : Subs} (h : Uniq s) : Uniq (s.sub f c q) := by
  unfold Subs.sub Uniq
  rw [List.pairwise_cons]
  refine ⟨?_, uniq_filter _ h⟩
  intro b hb
  simp only [Subs.unsub, List.mem_filter, Bool.not_eq_true', Bool.and_eq_false_imp, decide_eq_true_eq,
    decide_eq_false_iff_not] at hb
  rintro ⟨e1, e2⟩
  exact hb.2 e1.symm e2.symm

theorem mem_iff_get {s : Subs} (h : Uniq s) (f : Filter) (c : Client) (q : QoS) :
    (f, c, q) ∈ s ↔ s.get f c = some q := by
  induction s with
  | nil => simp [Subs.get]
  | cons e r ih =>
    obtain ⟨a, b, q'⟩ := e
    rw [Uniq, List.pairwise_cons] at h
    rw [Subs.get, List.mem_cons, ih h.2]
    split
    · rename_i h1
      obtain ⟨rfl, rfl⟩ := h1
      -- the head is the only entry under its key
      have : Subs.get r a b ≠ some q := fun hm => h.1 _ ((ih h.2).mpr hm) ⟨rfl, rfl⟩
      constructor
      · rintro (e | hm)
        · cases e; rfl
        · exact absurd hm this
      · intro e; cases e; exact Or.inl rfl
    · rename_i h1
      constructor
      · rintro (e | hm)
        · cases e; exact absurd ⟨rfl, rfl⟩ h1
        · exact hm
      · exact Or.inr

theorem mem_clientsAt_iff {t : Trie} {s : Subs} (wf : WF t) (u : Uniq s) (r : R t s) (f : Filter) (c : Client)
    (q : QoS) : (c, q) ∈ clientsAt t f ↔ (f, c, q) ∈ s := by
  rw [mem_iff_get u, ← r f c]
  exact mem_iff_alGet (clientsAt_nodup f t wf)

/-- every node below the root lies on the path of a stored subscription -/
theorem subAt_subscription {t : Trie} {s : Subs} (wf : WF t) (u : Uniq s) (r : R t s) {l : Level}
    {p : List Level} {n : Trie} (h : subAt t (l :: p) = some n) : ∃ g c q, ((l :: p) ++ g, c, q) ∈ s := by
  obtain ⟨wfn, lv, hc⟩ := subAt_spec (l :: p) t n wf h
  obtain ⟨g, c, q, hx⟩ := live_witness (lv (List.cons_ne_nil _ _)) wfn
  rw [← hc g] at hx
  exact ⟨g, c, q, (mem_clientsAt_iff wf u r _ c q).mp hx⟩

theorem eq_empty_of_R_nil {t : Trie} (wf : WF t) (r : R t []) : t = Trie.empty := by
  cases he : t.isEmpty with
  | true => exact eq_empty_of_isEmpty he
  | false =>
    obtain ⟨g, c, q, hx⟩ := live_witness (live_of_wf_nonempty wf he) wf
    cases (mem_clientsAt_iff wf List.Pairwise.nil r g c q).mp hx

/-- a point update of the path view (at `f`, entry `c` set to `v`) against the same update of the abstract set -/
theorem R_update {t t' : Trie} {s s' : Subs} {f : Filter} {c : Client} {v : Option QoS}
    {u : List (Client × QoS) → List (Client × QoS)} (h : R t s)
    (ht : ∀ g, clientsAt t' g = if g = f then u (clientsAt t f) else clientsAt t g)
    (hu : ∀ c' l, alGet c' (u l) = if c' = c then v else alGet c' l)
    (hs : ∀ f' c', s'.get f' c' = if f' = f ∧ c' = c then v else s.get f' c') : R t' s' := by
  intro f' c'
  rw [ht, hs]
  by_cases h1 : f' = f
  · subst h1
    rw [if_pos rfl, hu]
    by_cases h2 : c' = c
    · simp [h2]
    · simp [h2, h f' c']
  · simp [h1, h f' c']

/-- the trie side of the refinement: the stored subscriptions and the two structural invariants -/
def Refines (t : Trie) (s : Subs) : Prop := R t s ∧ WF t ∧ Uniq s

theorem Refines.insert {t : Trie} {s : Subs} (h : Refines t s) (f : Filter) (c : Client) (q : QoS) :
    Refines (insert f c q t) (s.sub f c q) :=
  ⟨R_update h.1 (clientsAt_insert f c q t) (fun c' l => alGet_alSet c c' q l) (get_sub f c q s),
    WF_insert f c q t h.2.1, uniq_sub f c q h.2.2⟩

theorem Refines.remove {t : Trie} {s : Subs} (h : Refines t s) (f : Filter) (c : Client) :
    Refines (remove f c t) (s.unsub f c) :=
  ⟨R_update h.1 (clientsAt_remove f c t) (fun c' l => alGet_alErase c c' l) (get_unsub f c s),
    WF_remove f c t h.2.1, uniq_filter _ h.2.2⟩

theorem Refines.insertAll (c : Client) (fs : List (List Char × QoS)) :
    ∀ {t : Trie} {s : Subs}, Refines t s → fs.all (fun p => (split p.1).isSome) = true →
      Refines (insertAll c fs t) (specSubAll c fs s) := by
  induction fs with
  | nil => intro t s h _; exact h
  | cons p r ih =>
    intro t s h hall
    obtain ⟨f, q⟩ := p
    rw [List.all_cons, Bool.and_eq_true] at hall
    obtain ⟨ls, hs⟩ := Option.isSome_iff_exists.mp hall.1
    rw [Topic.insertAll, hs, specSubAll, ← (split_some hs).2]
    exact ih (h.insert ls c q) hall.2

theorem Refines.unsubscribeTM (c : Client) (fs : List (List Char)) :
    ∀ {t : Trie} {s : Subs}, Refines t s → Refines (unsubscribeTM c fs t) (specUnsubAll c fs s) := by
  induction fs with
  | nil => intro t s h; exact h
  | cons f r ih =>
    intro t s h
    rw [Topic.unsubscribeTM, specUnsubAll]
    cases hs : split f with
    | none => rw [split_none hs]; exact ih h
    | some ls =>
      obtain ⟨hw, e⟩ := split_some hs
      rw [hw, if_pos rfl, ← e]
      exact ih (h.remove ls c)

theorem get_specUnsubAll (c : Client) (fs : List (List Char)) :
    ∀ (s : Subs) (f' : Filter) (c' : Client),
      (specUnsubAll c fs s).get f' c' =
        if c' = c ∧ ∃ raw ∈ fs, wellFormed raw = true ∧ splitSlash raw = f' then none else s.get f' c' := by
  induction fs with
  | nil => intro s f' c'; simp [specUnsubAll]
  | cons f r ih =>
    intro s f' c'
    simp only [specUnsubAll]
    rw [ih]
    by_cases hw : wellFormed f = true
    · simp only [hw, if_true, get_unsub, List.mem_cons, exists_eq_or_imp, true_and]
      by_cases h1 : c' = c
      · by_cases h2 : splitSlash f = f'
        · simp [h1, h2]
        · have : ¬ f' = splitSlash f := fun e => h2 e.symm
          simp [h1, h2, this]
      · simp [h1]
    · simp only [hw, Bool.false_eq_true, if_false, List.mem_cons, exists_eq_or_imp, false_and, false_or]

theorem get_specSubAll_cases (c : Client) (fs : List (List Char × QoS)) :
    ∀ (s : Subs) (f' : Filter) (c' : Client) (q : QoS),
      (specSubAll c fs s).get f' c' = some q →
        (c' = c ∧ ∃ p ∈ fs, splitSlash p.1 = f') ∨ s.get f' c' = some q := by
  induction fs with
  | nil => intro s f' c' q h; exact Or.inr (by simpa [specSubAll] using h)
  | cons p r ih =>
    intro s f' c' q h
    obtain ⟨f, q0⟩ := p
    simp only [specSubAll] at h
    rcases ih _ _ _ _ h with ⟨e, p, hp, hp2⟩ | h'
    · exact Or.inl ⟨e, p, List.mem_cons_of_mem _ hp, hp2⟩
    · rw [get_sub] at h'
      by_cases hk : f' = splitSlash f ∧ c' = c
      · exact Or.inl ⟨hk.2, (f, q0), by simp, hk.1.symm⟩
      · rw [if_neg hk] at h'; exact Or.inr h'

/-- the session of every client remembers (at least) the topic strings of its live subscriptions -/
def J (sess : List (Client × List (List Char))) (s : Subs) : Prop :=
  ∀ f c q, s.get f c = some q → ∃ raw ∈ sessTopics c sess, split raw = some f

theorem sessTopics_alSet (c c' : Client) (v : List (List Char)) (sess : List (Client × List (List Char))) :
    sessTopics c' (alSet c v sess) = if c' = c then v else sessTopics c' sess := by
  unfold sessTopics; rw [alGet_alSet]; split <;> simp

theorem sessTopics_alErase (c c' : Client) (sess : List (Client × List (List Char))) :
    sessTopics c' (alErase c sess) = if c' = c then [] else sessTopics c' sess := by
  unfold sessTopics; rw [alGet_alErase]; split <;> simp

structure Inv (st : State) (s : Subs) : Prop where
  r : R st.trie s
  wf : WF st.trie
  j : J st.sess s
  uniq : Uniq s

theorem all_split_iff (fs : List (List Char × QoS)) :
    fs.all (fun p => (split p.1).isSome) = fs.all (fun p => wellFormed p.1) := by
  induction fs with
  | nil => rfl
  | cons p r ih => simp only [List.all_cons, split_isSome]

/-- a SUBSCRIBE in terms of the declarative well-formedness -/
theorem step_subscribe (s : State) (c : Client) (fs : List (List Char × QoS)) :
    step s (.subscribe c fs) =
      if fs.all (fun p => wellFormed p.1) then
        (⟨insertAll c fs s.trie, alSet c (sessTopics c s.sess ++ fs.map (·.1)) s.sess⟩, false)
      else (s, true) := by
  simp only [step, subscribeTM, all_split_iff]
  cases fs.all (fun p => wellFormed p.1) <;> rfl

section
variable {sess : List (Client × List (List Char))} {s : Subs}

theorem J.raw (hj : J sess s) {f : Filter} {c : Client} {q : QoS} (h : s.get f c = some q) :
    ∃ raw ∈ sessTopics c sess, split raw = some f ∧ wellFormed raw = true ∧ splitSlash raw = f := by
  obtain ⟨raw, hr, hs⟩ := hj f c q h
  obtain ⟨hw, e⟩ := split_some hs
  exact ⟨raw, hr, hs, hw, e.symm⟩

theorem J_subscribe (hj : J sess s) (c : Client) (fs : List (List Char × QoS))
    (hall : ∀ p ∈ fs, wellFormed p.1 = true) :
    J (alSet c (sessTopics c sess ++ fs.map (·.1)) sess) (specSubAll c fs s) := by
  intro f c' q hg
  rw [sessTopics_alSet]
  rcases get_specSubAll_cases c fs s f c' q hg with ⟨rfl, p, hp, rfl⟩ | h'
  · rw [if_pos rfl]
    refine ⟨p.1, List.mem_append_right _ (List.mem_map.mpr ⟨p, hp, rfl⟩), ?_⟩
    rw [split_eq, hall p hp, if_pos rfl]
  · obtain ⟨raw, hr, hs⟩ := hj f c' q h'
    split
    · rename_i e
      subst e
      exact ⟨raw, List.mem_append_left _ hr, hs⟩
    · exact ⟨raw, hr, hs⟩

theorem J_unsubscribe (hj : J sess s) (c : Client) (fs : List (List Char)) :
    J (alSet c ((sessTopics c sess).filter (fun f => !fs.contains f)) sess) (specUnsubAll c fs s) := by
  intro f c' q hg
  rw [get_specUnsubAll] at hg
  split at hg
  · cases hg
  · rename_i hne
    obtain ⟨raw, hr, hs, hw, e2⟩ := hj.raw hg
    rw [sessTopics_alSet]
    split
    · rename_i e; subst e
      refine ⟨raw, List.mem_filter.mpr ⟨hr, ?_⟩, hs⟩
      -- a remembered string named in the packet would have removed the subscription
      cases hc : fs.contains raw with
      | false => rfl
      | true => exact absurd ⟨rfl, raw, List.contains_iff_mem.mp hc, hw, e2⟩ hne
    · exact ⟨raw, hr, hs⟩

theorem J_disconnect (hj : J sess s) (c : Client) : J (alErase c sess) (s.disc c) := by
  intro f c' q hg
  rw [get_disc] at hg
  split at hg
  · cases hg
  · rename_i hne
    rw [sessTopics_alErase, if_neg hne]
    exact hj f c' q hg

/-- the sessions cover the live subscriptions, so unsubscribing everything a session remembers removes every
subscription of its client: this is what makes a disconnect leave nothing behind -/
theorem get_specUnsubAll_sessTopics (hj : J sess s) (c : Client) (f : Filter) (c' : Client) :
    (specUnsubAll c (sessTopics c sess) s).get f c' = (s.disc c).get f c' := by
  rw [get_specUnsubAll, get_disc]
  by_cases e : c' = c
  · subst e
    rw [if_pos rfl]
    split
    · rfl
    · rename_i hne
      cases hg : s.get f c' with
      | none => rfl
      | some q =>
        obtain ⟨raw, hr, _, hw, e2⟩ := hj.raw hg
        exact absurd ⟨rfl, raw, hr, hw, e2⟩ hne
  · rw [if_neg e, if_neg (fun h => e h.1)]

end

theorem inv_step {st : State} {s : Subs} (h : Inv st s) (op : Op) :
    Inv (step st op).1 (specStep s op) := by
  have hr : Refines st.trie s := ⟨h.r, h.wf, h.uniq⟩
  cases op with
  | subscribe c fs =>
    rw [step_subscribe, specStep]
    cases hall : fs.all (fun p => wellFormed p.1) with
    | false => exact h
    | true =>
      obtain ⟨r, wf, u⟩ := hr.insertAll c fs ((all_split_iff fs).trans hall)
      exact ⟨r, wf, J_subscribe h.j c fs (List.all_eq_true.mp hall), u⟩
  | unsubscribe c fs =>
    obtain ⟨r, wf, u⟩ := hr.unsubscribeTM c fs
    exact ⟨r, wf, J_unsubscribe h.j c fs, u⟩
  | disconnect c =>
    obtain ⟨r, wf, _⟩ := hr.unsubscribeTM c (sessTopics c st.sess)
    exact ⟨fun f c' => (r f c').trans (get_specUnsubAll_sessTopics h.j c f c'), wf, J_disconnect h.j c,
      uniq_filter _ h.uniq⟩

theorem inv_init : Inv State.init [] :=
  ⟨fun f c => by simp [State.init, clientsAt_empty, alGet, Subs.get], WF_empty,
   fun f c q h => by simp [Subs.get] at h, List.Pairwise.nil⟩

theorem inv_run (ops : List Op) : ∀ {st : State} {s : Subs}, Inv st s → Inv (run st ops) (specRun s ops) := by
  induction ops with
  | nil => intro st s h; exact h
  | cons op r ih => intro st s h; exact ih (inv_step h op)

/-! ### `collapseMax` (the map built by the repaired `addClients`) -/

theorem alGet_collapseMax (c' : Client) (l : List (Client × QoS)) :
    alGet c' (collapseMax l) = ownMax c' l := by
  induction l with
  | nil => rfl
  | cons p r ih =>
    obtain ⟨c, q⟩ := p
    rw [collapseMax, ownMax, ← ih]
    by_cases e : c = c'
    · subst e
      rw [if_pos rfl]
      cases hg : alGet c (collapseMax r) with
      | some q' => exact alGet_alSet_self c _ _
      | none => simp only [alGet, if_true]
    · rw [if_neg e]
      cases hg : alGet c (collapseMax r) with
      | some q' => simp only [alGet_alSet, if_neg (Ne.symm e)]
      | none => simp only [alGet, if_neg e]

theorem collapseMax_nodup (l : List (Client × QoS)) : ((collapseMax l).map Prod.fst).Nodup := by
  induction l with
  | nil => simp [collapseMax]
  | cons p r ih =>
    obtain ⟨c, q⟩ := p
    simp only [collapseMax]
    cases hg : alGet c (collapseMax r) with
    | some q' => exact nodup_alSet _ _ ih
    | none =>
      simp only [List.map_cons, List.nodup_cons]
      exact ⟨alGet_none_iff.mp hg, ih⟩

theorem mem_ownHits {c : Client} {q : QoS} {l : List (Client × QoS)} :
    q ∈ (l.filter (fun p => p.1 = c)).map Prod.snd ↔ (c, q) ∈ l := by
  simp

/-- `ownMax` is the list maximum of the client's hits, so what core proves of `max?` holds of it -/
theorem ownMax_eq_max? (c : Client) (l : List (Client × QoS)) :
    ownMax c l = ((l.filter (fun p => p.1 = c)).map Prod.snd).max? := by
  induction l with
  | nil => rfl
  | cons p r ih =>
    obtain ⟨c', q⟩ := p
    rw [ownMax, ih, List.filter_cons]
    simp only [decide_eq_true_eq]
    split
    · rw [List.map_cons, List.max?_cons]
      cases ((r.filter (fun p => p.1 = c)).map Prod.snd).max? <;> rfl
    · rfl

theorem ownMax_isSome_of_mem {c : Client} {l : List (Client × QoS)} {q : QoS} (h : (c, q) ∈ l) :
    ∃ q', ownMax c l = some q' := by
  rw [ownMax_eq_max?]
  exact Option.isSome_iff_exists.mp (List.isSome_max?_of_mem (mem_ownHits.mpr h))

theorem ownMax_some {c : Client} {l : List (Client × QoS)} {q : QoS} (h : ownMax c l = some q) :
    (c, q) ∈ l ∧ ∀ q', (c, q') ∈ l → q' ≤ q := by
  rw [ownMax_eq_max?, List.max?_eq_some_iff] at h
  simp only [mem_ownHits] at h
  exact h

theorem mem_collapseMax {c : Client} {q : QoS} {l : List (Client × QoS)} :
    (c, q) ∈ collapseMax l ↔ ownMax c l = some q := by
  rw [mem_iff_alGet (collapseMax_nodup l), alGet_collapseMax]

/-! ### routing = matching (the C14 statements; `Props/C14.lean` restates them, `Props/C15.lean` uses them) -/

theorem mem_specFind (s : Subs) (topic : List Level) (x : Client × QoS) :
    x ∈ specFind s topic ↔ ∃ f, (f, x.1, x.2) ∈ s ∧ «matches» f topic = true := by
  simp only [specFind, List.mem_map, List.mem_filter]
  constructor
  · rintro ⟨e, ⟨he, hm⟩, rfl⟩; exact ⟨e.1, he, hm⟩
  · rintro ⟨f, he, hm⟩; exact ⟨(f, x.1, x.2), ⟨he, hm⟩, rfl⟩

/-- **Routing = matching.** If the trie obeys the map discipline (`WF`) and stores exactly the live
subscriptions `s` (`R`), then for every topic the hits of `findSubscribers` are exactly the
`(client, qos)` pairs of the live subscriptions whose filter matches the topic under MQTT 3.1.1. -/
theorem find_eq_spec {t : Trie} {s : Subs} (wf : WF t) (u : Uniq s) (r : R t s) (topic : List Level)
    (x : Client × QoS) : x ∈ find t topic ↔ x ∈ specFind s topic := by
  obtain ⟨c, q⟩ := x
  rw [mem_specFind, find, mem_findLoop topic [t] (by simpa using wf)]
  simp only [List.mem_singleton, exists_eq_left, mem_clientsAt_iff wf u r]

/-! ### every history refines the abstract subscription set (restated in `Props/C14.lean`) -/

/-- **Refinement over all histories.** After any finite sequence of SUBSCRIBE (several filters, any
QoS, malformed ones included), UNSUBSCRIBE (also of filters never subscribed, malformed ones) and
disconnect events by any clients, the trie stores exactly the abstract live-subscription set
(`Inv.r`), keeps unique keys and has **no empty non-root node** (`Inv.wf`), the sessions cover the
live subscriptions (`Inv.j`) and the abstract set is a map (`Inv.uniq`). -/
theorem history_refines (ops : List Op) : Inv (run State.init ops) (specRun [] ops) :=
  inv_run ops inv_init

/-- **C14 main statement**: after any history, a message on any topic is routed to exactly the
`(client, qos)` pairs of the live subscriptions whose filter matches it. -/
theorem routing_after_any_history (ops : List Op) (topic : List Level) (x : Client × QoS) :
    x ∈ find (run State.init ops).trie topic ↔ x ∈ specFind (specRun [] ops) topic :=
  let h := history_refines ops
  find_eq_spec h.wf h.uniq h.r topic x

/-- The QoS reported for a routed client is the QoS of one of that client's own live matching
subscriptions — for every hit, hence for whichever hit the Go map keeps. -/
theorem qos_is_own (ops : List Op) (topic : List Level) (c : Client) (q : QoS)
    (h : (c, q) ∈ find (run State.init ops).trie topic) :
    ∃ f, (f, c, q) ∈ specRun [] ops ∧ «matches» f topic = true :=
  (mem_specFind _ _ _).mp ((routing_after_any_history ops topic (c, q)).mp h)

/-- With the repaired `addClients` (`collapseMax`) it is the highest of them. -/
theorem qos_is_own_max (ops : List Op) (topic : List Level) (c : Client) (q : QoS)
    (h : (c, q) ∈ collapseMax (find (run State.init ops).trie topic)) :
    (∃ f, (f, c, q) ∈ specRun [] ops ∧ «matches» f topic = true) ∧
    ∀ f q', (f, c, q') ∈ specRun [] ops → «matches» f topic = true → q' ≤ q := by
  obtain ⟨h1, h2⟩ := ownMax_some (mem_collapseMax.mp h)
  refine ⟨qos_is_own ops topic c q h1, ?_⟩
  intro f q' hm hmat
  exact h2 q' ((routing_after_any_history ops topic (c, q')).mpr ((mem_specFind _ _ _).mpr ⟨f, hm, hmat⟩))

end EgVerif.Topic
