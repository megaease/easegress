import EgVerif.Proofs.Pipeline
/-!
# C02 — where a jump lands

Declarative facts about consecutive invocations of one `doHandle` run, for **every** flow (validated or
not) and every assignment of filter results: after a filter that returned `""` the very next flow node
runs; after a filter whose result is mapped by `jumpIf` to a real target `t` the next filter that runs is
the **first later node named `t`** (no node between them is named `t`, and — invocation indices being
strictly increasing — none of them runs); a taken jump whose target does not occur later runs nothing
more. Proved by induction on the loop itself (`LoopRel`), not through the reference machine `Spec.run`.
-/
namespace EgVerif.Pipeline

/-- About the invocations the loop records from flow index `i` on with `next` pending (`""` = none): where
the first of them is, or why there is none. -/
def FirstOK (flow : List Node) (i : Nat) (next : String) : List Stat → Prop
  | [] =>
    (next = "" → ∀ n, flow[i]? = some n → n.filter = END) ∧
    (next ≠ "" → ∀ j, i ≤ j → ∀ m, flow[j]? = some m → m.name ≠ next)
  | s :: _ =>
    i ≤ s.idx ∧ (next = "" → s.idx = i) ∧
    (next ≠ "" → s.name = next ∧ ∀ j, i ≤ j → j < s.idx → ∀ m, flow[j]? = some m → m.name ≠ next)

/-- `b` is the invocation after `a`: the next node after a result `""`, else the first later node that
carries the name `jumpIf` gives for the result. -/
def Follows (flow : List Node) (a b : Stat) : Prop :=
  ∃ n, flow[a.idx]? = some n ∧
    (a.result = "" → b.idx = a.idx + 1) ∧
    (a.result ≠ "" → ∃ t, n.jumpIf.lookup a.result = some t ∧ t ≠ "" ∧ t ≠ END ∧
      b.name = t ∧ a.idx < b.idx ∧
      ∀ j, a.idx < j → j < b.idx → ∀ m, flow[j]? = some m → m.name ≠ t)

/-- No invocation comes after `a`, and the flow gives the reason: after a result `""` the flow is over or an
`END` node comes next; a real jump target occurs nowhere later. (The remaining reason, a result that is
unmapped or mapped to `END`, needs no witness in the flow.) -/
def Final (flow : List Node) (a : Stat) : Prop :=
  ∃ n, flow[a.idx]? = some n ∧
    (a.result = "" → ∀ m, flow[a.idx + 1]? = some m → m.filter = END) ∧
    (∀ t, a.result ≠ "" → n.jumpIf.lookup a.result = some t → t ≠ "" → t ≠ END →
      ∀ j, a.idx < j → ∀ m, flow[j]? = some m → m.name ≠ t)

/-- Every invocation is followed by what its result dictates. -/
def Lands (flow : List Node) : List Stat → Prop
  | [] => True
  | [a] => Final flow a
  | a :: b :: tl => Follows flow a b ∧ Lands flow (b :: tl)

theorem lands_follows {flow : List Node} : ∀ {new : List Stat}, Lands flow new →
    ∀ k (hk : k + 1 < new.length), Follows flow (new[k]'(Nat.lt_of_succ_lt hk)) (new[k + 1]'hk)
  | _ :: _ :: _, h, 0, _ => h.1
  | _ :: _ :: _, h, k + 1, hk => lands_follows h.2 k (Nat.lt_of_succ_lt_succ hk)

theorem lands_final {flow : List Node} : ∀ {new : List Stat}, Lands flow new →
    ∀ k (hk : k + 1 = new.length), Final flow (new[k]'(hk ▸ Nat.lt_succ_self k))
  | [_], h, 0, _ => h
  | _ :: _ :: _, h, k + 1, hk => lands_final h.2 k (Nat.succ.inj hk)

section
variable {flow : List Node} {n : Node} {i : Nat} {next : String}

theorem firstOK_nil (hlen : flow.length ≤ i) : FirstOK flow i next [] := by
  refine ⟨fun _ m hm => ?_, fun _ j hj m hm => ?_⟩
  · rw [List.getElem?_eq_none hlen] at hm; cases hm
  · rw [List.getElem?_eq_none (Nat.le_trans hlen hj)] at hm; cases hm

theorem firstOK_skip (hi : flow[i]? = some n) (h1 : next ≠ "") (h2 : next ≠ n.name) :
    ∀ {new : List Stat}, FirstOK flow (i + 1) next new → FirstOK flow i next new
  | [], hf => by
    refine ⟨fun h => absurd h h1, fun _ j hj m hm => ?_⟩
    rcases Nat.eq_or_lt_of_le hj with rfl | h
    · rw [hi] at hm; cases hm; exact fun e => h2 e.symm
    · exact hf.2 h1 j h m hm
  | s :: _, ⟨hle, _, h3⟩ => by
    refine ⟨Nat.le_of_succ_le hle, fun h => absurd h h1, fun _ => ⟨(h3 h1).1, fun j hj hlt m hm => ?_⟩⟩
    rcases Nat.eq_or_lt_of_le hj with rfl | h
    · rw [hi] at hm; cases hm; exact fun e => h2 e.symm
    · exact (h3 h1).2 j h hlt m hm

/-- control arrives at an `END` node: an `END` node is named `END`, which is never pending -/
theorem firstOK_end (hi : flow[i]? = some n) (ha : next = "" ∨ next = n.name) (he : n.filter = END)
    (hE : next ≠ END) : FirstOK flow i next [] := by
  have h0 : next = "" := ha.resolve_right (fun h => hE (h.trans (name_of_end he)))
  refine ⟨fun _ m hm => ?_, fun h => absurd h0 h⟩
  rw [hi] at hm; cases hm; exact he

theorem firstOK_run (ha : next = "" ∨ next = n.name) (kind : String → String) (res : Nat → String)
    (stats tl : List Stat) : FirstOK flow i next (statAt kind res i n stats :: tl) :=
  ⟨Nat.le_refl i, fun _ => rfl, fun hne =>
    ⟨(ha.resolve_left hne).symm, fun _ hj hlt => absurd hlt (Nat.not_lt.mpr hj)⟩⟩

end

theorem final_of_stop {flow : List Node} {n : Node} {a : Stat} (hn : flow[a.idx]? = some n)
    (hc : ¬ Continues n a.result) : Final flow a :=
  ⟨n, hn, fun hr => absurd (Or.inl hr) hc, fun t _ hl ht hE => absurd (Or.inr ⟨t, hl, ht, hE⟩) hc⟩

theorem lands_cons {flow : List Node} {n : Node} {a : Stat} {nx : String} (hn : flow[a.idx]? = some n)
    (hp : Pending n a.result nx) :
    ∀ {tl : List Stat}, FirstOK flow (a.idx + 1) nx tl → Lands flow tl → Lands flow (a :: tl)
  | [], hf, _ => by
    rcases hp with ⟨hr, rfl⟩ | ⟨hne, hl', ht, _⟩
    · exact ⟨n, hn, fun _ => hf.1 rfl, fun t hne => absurd hr hne⟩
    · refine ⟨n, hn, fun hr => absurd hr hne, fun t _ hl _ _ => ?_⟩
      cases hl.symm.trans hl'
      exact hf.2 ht
  | b :: _, ⟨hle, h0, h1⟩, hl => by
    rcases hp with ⟨hr, rfl⟩ | ⟨hne, hl', ht, hE⟩
    · exact ⟨⟨n, hn, fun _ => h0 rfl, fun hne => absurd hr hne⟩, hl⟩
    · exact ⟨⟨n, hn, fun hr => absurd hr hne, fun _ => ⟨nx, hl', ht, hE, (h1 ht).1, hle, (h1 ht).2⟩⟩, hl⟩

theorem lands_of_rel {kind : String → String} {res : Nat → String} {flow rest : List Node} {i : Nat}
    {result next : String} {stats : List Stat} {out : String × List Stat × Bool}
    (h : LoopRel kind res rest i result next stats out) : flow.drop i = rest → next ≠ END →
    ∃ new, out.2.1 = stats ++ new ∧ FirstOK flow i next new ∧ Lands flow new := by
  induction h with
  | nil =>
    intro hd _
    exact ⟨[], (List.append_nil _).symm, firstOK_nil (List.drop_eq_nil_iff.mp hd), trivial⟩
  | skip h1 h2 _ ih =>
    intro hd hE
    obtain ⟨new, heq, hf, hl⟩ := ih (drop_succ_of_drop hd) hE
    exact ⟨new, heq, firstOK_skip (getElem?_of_drop hd) h1 h2 hf, hl⟩
  | atEnd ha he =>
    intro hd hE
    exact ⟨[], (List.append_nil _).symm, firstOK_end (getElem?_of_drop hd) ha he hE, trivial⟩
  | stop ha _ hc =>
    intro hd _
    exact ⟨[_], rfl, firstOK_run ha _ _ _ [], final_of_stop (getElem?_of_drop hd) hc⟩
  | run ha _ hp _ ih =>
    intro hd _
    obtain ⟨new, heq, hf, hl⟩ := ih (drop_succ_of_drop hd) (pending_ne_end hp)
    exact ⟨_ :: new, heq.trans (List.append_assoc _ _ _), firstOK_run ha _ _ _ new, lands_cons (getElem?_of_drop hd) hp hf hl⟩

theorem doHandle_lands (kind : String → String) (res : Nat → String) (flow : List Node) (stats : List Stat) :
    ∃ new, (doHandle kind res flow stats).2.1 = stats ++ new ∧ FirstOK flow 0 "" new ∧ Lands flow new :=
  lands_of_rel (loop_rel kind res flow 0 "" "" stats) rfl (by decide)

end EgVerif.Pipeline
