import EgVerif.Model.RateLimiterFilter
import Mathlib.Tactic.Linarith
import Mathlib.Tactic.SplitIfs
/-! Lemmas for C09 at the filter level (`Handle`, `reload`). -/
namespace EgVerif.RateLimiterFilter
open EgVerif.RateLimiter

def noLimit : HOut := { result := "", status := none, asked := none, waited := 0 }

theorem handle_skip (now : Nat → Int) : ∀ (pre : List (Option Nat)) (ms : List Bool) (post : List (Option Nat))
    (h : Heap), handle now (List.replicate pre.length false ++ ms) (pre ++ post) h = handle now ms post h
  | [], ms, post, h => by simp
  | _ :: pre, ms, post, h => by
    simp only [List.length_cons, List.replicate_succ, List.cons_append, handle]
    exact handle_skip now pre ms post h

theorem handle_first (now : Nat → Int) : ∀ (ms : List Bool) (rls : List (Option Nat)) (h : Heap) (i : Nat)
    (r : Option Nat), ms.findIdx? id = some i → rls[i]? = some r →
    handle now ms rls h = handle now [true] [r] h
  | [], _, _, _, _, hi, _ => by simp at hi
  | _ :: _, [], _, _, _, _, hr => by simp at hr
  | true :: ms, r' :: rls, h, i, r, hi, hr => by
    simp only [List.findIdx?_cons, id, if_true, Option.some.injEq] at hi
    subst hi
    simp only [List.getElem?_cons_zero, Option.some.injEq] at hr
    subst hr
    cases r' <;> rfl
  | false :: ms, _ :: rls, h, i, r, hi, hr => by
    simp only [List.findIdx?_cons, id, Bool.false_eq_true, if_false, Option.map_eq_some_iff] at hi
    obtain ⟨j, hj, rfl⟩ := hi
    exact handle_first now ms rls h j r hj hr

theorem heapGet_cons (e : Nat × Lim) (h : Heap) (id : Nat) :
    heapGet (e :: h) id = if e.1 = id then some e.2 else heapGet h id := by
  unfold heapGet
  rw [List.find?_cons]
  cases he : e.1 == id
  · rw [if_neg (by simpa using he)]
  · rw [if_pos (by simpa using he)]; rfl

theorem heapGet_heapSet_other (h : Heap) {id id' : Nat} (l : Lim) (hne : id' ≠ id) :
    heapGet (heapSet h id l) id' = heapGet h id' := by
  induction h with
  | nil => rfl
  | cons e es ih =>
    rw [heapSet, List.map_cons, ← heapSet, heapGet_cons, heapGet_cons, ih]
    split_ifs <;> simp_all

theorem heapGet_heapSet_same {h : Heap} {id : Nat} (l : Lim) {l' : Lim} (hl : heapGet h id = some l') :
    heapGet (heapSet h id l) id = some l := by
  induction h with
  | nil => cases hl
  | cons e es ih =>
    rw [heapGet_cons] at hl
    rw [heapSet, List.map_cons, ← heapSet, heapGet_cons]
    split_ifs at hl ⊢ <;> simp_all

/-- what `Handle` answers once the limiter `id` has returned `o`: 429 `rateLimited` when it refused, otherwise
nothing, after the wait it imposed -/
def answer (id : Nat) (o : Out) : HOut :=
  if o.permitted then { result := "", status := none, asked := some id, waited := if o.wait ≤ 0 then 0 else o.wait }
  else { result := "rateLimited", status := some 429, asked := some id, waited := 0 }

theorem answer_asked (id : Nat) (o : Out) : (answer id o).asked = some id := by
  unfold answer
  split <;> rfl

theorem answer_refused (id : Nat) {o : Out} (ho : o.permitted = false) :
    answer id o = { result := "rateLimited", status := some 429, asked := some id, waited := 0 } := by
  unfold answer
  rw [ho]
  rfl

theorem answer_permitted (id : Nat) {o : Out} (ho : o.permitted = true) :
    answer id o = { result := "", status := none, asked := some id, waited := if o.wait ≤ 0 then 0 else o.wait } := by
  unfold answer
  rw [if_pos ho]

theorem handle_at_match (now : Nat → Int) (ms : List Bool) {id : Nat} (rls : List (Option Nat)) {h : Heap}
    {l : Lim} (hl : heapGet h id = some l) :
    handle now (true :: ms) (some id :: rls) h =
      some (heapSet h id { l with state := (acquire l.policy l.state (now id) 1).1 },
        answer id (acquire l.policy l.state (now id) 1).2) := by
  simp only [handle, hl]
  cases hp : (acquire l.policy l.state (now id) 1).2.permitted with
  | false => rw [answer_refused id hp]; rfl
  | true =>
    rw [answer_permitted id hp]
    simp only [Bool.not_true, Bool.false_eq_true, if_false]
    split <;> rfl

/-- `Handle` either asks nobody (no rule that has a limiter entry matches) or asks the limiter of one rule and
answers with its decision -/
theorem handle_out_shape (now : Nat → Int) : ∀ (ms : List Bool) (rls : List (Option Nat)) (h h' : Heap) (out : HOut),
    handle now ms rls h = some (h', out) →
    (out = noLimit ∧ h' = h ∧ (∀ b ∈ ms.take rls.length, b = false)) ∨
    (∃ id l, heapGet h id = some l ∧
      h' = heapSet h id { l with state := (acquire l.policy l.state (now id) 1).1 } ∧
      out = answer id (acquire l.policy l.state (now id) 1).2)
  | [], rls, h, h', out, e => by
    cases rls <;> (simp [handle] at e; left; exact ⟨e.2.symm, e.1.symm, by simp⟩)
  | _ :: ms, [], h, h', out, e => by
    simp [handle] at e; left; exact ⟨e.2.symm, e.1.symm, by simp⟩
  | false :: ms, _ :: rls, h, h', out, e => by
    simp only [handle] at e
    rcases handle_out_shape now ms rls h h' out e with ⟨a, b, c⟩ | r
    · left; refine ⟨a, b, fun x hx => ?_⟩
      rw [List.length_cons, List.take_succ_cons, List.mem_cons] at hx
      rcases hx with rfl | hx
      · rfl
      · exact c x hx
    · right; exact r
  | true :: ms, none :: rls, h, h', out, e => by simp [handle] at e
  | true :: ms, some id :: rls, h, h', out, e => by
    cases hl : heapGet h id with
    | none => simp [handle, hl] at e
    | some l =>
      rw [handle_at_match now ms rls hl, Option.some.injEq, Prod.mk.injEq] at e
      exact Or.inr ⟨id, l, hl, e.1.symm, e.2.symm⟩

/-- what `claim` returns: the pointer of the first previous rule equal to `u`, provided `u`'s policy is
unchanged -/
theorem claim_eq_some_iff {newSpec prevSpec : Spec} {u : URLRule} {r : Option Nat} :
    ∀ (pus : List URLRule) (pls : List (Option Nat)),
    claim newSpec prevSpec u pus pls = some r ↔
      isSamePolicy newSpec prevSpec u.policyRef = true ∧
      ∃ j, pus[j]? = some u ∧ pls[j]? = some r ∧ ∀ i : Nat, i < j → pus[i]? ≠ some u
  | [], pls => by cases pls <;> simp [claim]
  | _ :: _, [] => by simp [claim]
  | pu :: pus, pl :: pls => by
    rw [claim]
    by_cases hc : u = pu ∧ isSamePolicy newSpec prevSpec u.policyRef = true
    · obtain ⟨rfl, hs⟩ := hc
      rw [if_pos ⟨rfl, hs⟩]
      constructor
      · intro h
        exact ⟨hs, 0, rfl, h, fun i hi => absurd hi (Nat.not_lt_zero i)⟩
      · rintro ⟨_, j, _, h2, hf⟩
        cases j with
        | zero => exact h2
        | succ j => exact absurd rfl (hf 0 (Nat.succ_pos j))
    · rw [if_neg hc, claim_eq_some_iff pus pls]
      constructor
      · rintro ⟨hs, j, h1, h2, hf⟩
        refine ⟨hs, j + 1, h1, h2, fun i hi => ?_⟩
        cases i with
        | zero => exact fun hpu => hc ⟨(Option.some.inj hpu).symm, hs⟩
        | succ i => exact hf i (Nat.lt_of_succ_lt_succ hi)
      · rintro ⟨hs, j, h1, h2, hf⟩
        cases j with
        | zero => exact absurd ⟨(Option.some.inj h1).symm, hs⟩ hc
        | succ j => exact ⟨hs, j, h1, h2, fun i hi => hf (i + 1) (Nat.succ_lt_succ hi)⟩

/-- `claim` finds nothing iff no previous rule qualifies. `pus.length ≤ pls.length` is needed: `claim` also
answers `none` when `pls` runs out before the rule equal to `u` is reached. -/
theorem claim_none (newSpec prevSpec : Spec) (u : URLRule) :
    ∀ (pus : List URLRule) (pls : List (Option Nat)), pus.length ≤ pls.length →
    claim newSpec prevSpec u pus pls = none →
    u ∉ pus ∨ isSamePolicy newSpec prevSpec u.policyRef = false
  | [], _, _, _ => by simp
  | _ :: _, [], hl, _ => by simp at hl
  | pu :: pus, pl :: pls, hl, e => by
    simp only [claim] at e
    by_cases hc : u = pu ∧ isSamePolicy newSpec prevSpec u.policyRef = true
    · obtain ⟨rfl, h2⟩ := hc
      simp [h2] at e
    · simp only [hc, if_false] at e
      rcases claim_none newSpec prevSpec u pus pls (by simpa using hl) e with h | h
      · by_cases hu : u = pu
        · right
          by_contra hs
          exact hc ⟨hu, by simpa using hs⟩
        · left; simp [hu, h]
      · right; exact h

theorem claim_none_of {newSpec prevSpec : Spec} {u : URLRule} {pus : List URLRule} (pls : List (Option Nat))
    (h : u ∉ pus ∨ isSamePolicy newSpec prevSpec u.policyRef = false) : claim newSpec prevSpec u pus pls = none := by
  cases hc : claim newSpec prevSpec u pus pls with
  | none => rfl
  | some r =>
    obtain ⟨hs, j, h1, _⟩ := (claim_eq_some_iff pus pls).mp hc
    rcases h with h | h
    · exact absurd (List.mem_of_getElem? h1) h
    · rw [hs] at h
      cases h

theorem heapGet_append {h : Heap} (e : Nat × Lim) {id : Nat} {l : Lim} (hl : heapGet h id = some l) :
    heapGet (h ++ [e]) id = some l := by
  unfold heapGet at *
  rw [List.find?_append]
  cases hf : h.find? (fun x => x.1 == id) with
  | none => simp [hf] at hl
  | some v => simpa [hf] using hl

theorem heapGet_append_new {h : Heap} {id : Nat} (l : Lim) (hfresh : ∀ e ∈ h, e.1 < id) :
    heapGet (h ++ [(id, l)]) id = some l := by
  unfold heapGet
  rw [List.find?_append]
  have : h.find? (fun x => x.1 == id) = none := by
    rw [List.find?_eq_none]
    intro x hx
    have := hfresh x hx
    simp; omega
  simp [this]

theorem createFor_none {s : Spec} {u : URLRule} (st : ReloadSt) (h : bindPolicy s u = none) :
    createFor s u st = { st with panicked := true } := by
  simp [createFor, h]

theorem createFor_some {s : Spec} {u : URLRule} (st : ReloadSt) {p : Pol} (h : bindPolicy s u = some p) :
    createFor s u st = { st with rls := st.rls ++ [some st.next],
                                 heap := st.heap ++ [(st.next, { policy := limiterPolicy p, state := init })],
                                 next := st.next + 1 } := by
  simp [createFor, h]

theorem reloadLoop_panicked (s ps : Spec) (prls : List (Option Nat)) (us : List URLRule) (st : ReloadSt)
    (h : st.panicked = true) : reloadLoop s ps prls us st = st := by
  cases us <;> simp [reloadLoop, h]

theorem createFor_heap (newSpec : Spec) (u : URLRule) {st : ReloadSt} {id : Nat} {l : Lim}
    (hl : heapGet st.heap id = some l) : heapGet (createFor newSpec u st).heap id = some l := by
  unfold createFor
  cases bindPolicy newSpec u with
  | none => exact hl
  | some p => exact heapGet_append _ hl

theorem reloadLoop_heap (newSpec prevSpec : Spec) (prevRls : List (Option Nat)) :
    ∀ (us : List URLRule) (st : ReloadSt) (id : Nat) (l : Lim),
    heapGet st.heap id = some l → heapGet (reloadLoop newSpec prevSpec prevRls us st).heap id = some l
  | [], st, id, l, hl => by simpa [reloadLoop] using hl
  | u :: us, st, id, l, hl => by
    simp only [reloadLoop]
    split_ifs
    · exact hl
    · split
      · exact reloadLoop_heap newSpec prevSpec prevRls us _ id l hl
      · exact hl
      · exact reloadLoop_heap newSpec prevSpec prevRls us _ id l (createFor_heap newSpec u hl)

/-- fresh-id discipline: every heap key is below `next` -/
def HeapOk (st : ReloadSt) : Prop := ∀ e ∈ st.heap, e.1 < st.next

theorem createFor_ok (newSpec : Spec) (u : URLRule) (st : ReloadSt) (ok : HeapOk st) :
    HeapOk (createFor newSpec u st) ∧ st.next ≤ (createFor newSpec u st).next := by
  unfold createFor
  cases bindPolicy newSpec u with
  | none => exact ⟨ok, le_refl _⟩
  | some p =>
    refine ⟨?_, by simp⟩
    intro e he
    simp only [List.mem_append, List.mem_singleton] at he
    rcases he with he | rfl
    · have := ok e he; simp only; omega
    · simp

section Loop
variable (newSpec prevSpec : Spec) (prevRls : List (Option Nat))

/-- the pointer `x` that rule `u` ends up with: the limiter `claim` finds, if it finds one; otherwise a fresh
object of `heap` (id not below `lo`) created with the defaults of `createRateLimiter` and the initial state -/
def PtrOk (u : URLRule) (lo : Nat) (heap : Heap) (x : Nat) : Prop :=
  (∀ id, claim newSpec prevSpec u prevSpec.urls prevRls = some (some id) → x = id) ∧
  (claim newSpec prevSpec u prevSpec.urls prevRls = none → ∃ p, lo ≤ x ∧ bindPolicy newSpec u = some p ∧
    heapGet heap x = some { policy := limiterPolicy p, state := init })

/-- what the outer loop of `reload` has done when it has gone from `st` to `st'` over the rules `us` -/
structure LoopPost (us : List URLRule) (st st' : ReloadSt) : Prop where
  panicked : st'.panicked = false
  ok : HeapOk st'
  next_le : st.next ≤ st'.next
  length : st'.rls.length = st.rls.length + us.length
  kept : ∀ k, k < st.rls.length → st'.rls[k]? = st.rls[k]?
  ptr : ∀ i u, us[i]? = some u →
    ∃ x, st'.rls[st.rls.length + i]? = some (some x) ∧ PtrOk newSpec prevSpec prevRls u st.next st'.heap x

variable {newSpec prevSpec prevRls}

/-- one more rule in front: the loop has first gone from `st` to `st1`, giving the rule the pointer `x` -/
theorem LoopPost.cons {u : URLRule} {us : List URLRule} {st st1 st' : ReloadSt} {x : Nat}
    (post : LoopPost newSpec prevSpec prevRls us st1 st') (hn : st.next ≤ st1.next)
    (hr : st1.rls = st.rls ++ [some x]) (hx : PtrOk newSpec prevSpec prevRls u st.next st'.heap x) :
    LoopPost newSpec prevSpec prevRls (u :: us) st st' := by
  have hlen : st1.rls.length = st.rls.length + 1 := by rw [hr, List.length_append, List.length_singleton]
  refine ⟨post.panicked, post.ok, le_trans hn post.next_le, ?_, fun k hk => ?_, fun i v hv => ?_⟩
  · rw [post.length, hlen, List.length_cons]; omega
  · rw [post.kept k (by omega), hr, List.getElem?_append_left hk]
  · cases i with
    | zero =>
      obtain rfl : u = v := by simpa using hv
      refine ⟨x, ?_, hx⟩
      rw [Nat.add_zero, post.kept _ (by omega), hr, List.getElem?_append_right (le_refl _)]
      simp
    | succ i =>
      obtain ⟨y, hy, hc, hf⟩ := post.ptr i v hv
      rw [hlen, Nat.add_assoc, Nat.add_comm 1] at hy
      refine ⟨y, hy, hc, fun hnone => ?_⟩
      obtain ⟨p, c1, c2⟩ := hf hnone
      exact ⟨p, le_trans hn c1, c2⟩

variable (newSpec prevSpec prevRls)

/-- The whole outer loop, rule by rule: the `i`-th new rule points to the limiter of the first
previous rule that equals it with an unchanged policy, if there is one; otherwise to a fresh object. -/
theorem reloadLoop_spec : ∀ (us : List URLRule) (st : ReloadSt), st.panicked = false → HeapOk st →
    (∀ u ∈ us, claim newSpec prevSpec u prevSpec.urls prevRls ≠ some none) →
    (∀ u ∈ us, (bindPolicy newSpec u).isSome) →
    LoopPost newSpec prevSpec prevRls us st (reloadLoop newSpec prevSpec prevRls us st)
  | [], st, hp, ok, _, _ => ⟨hp, ok, le_refl _, rfl, fun _ _ => rfl, fun i u h => by simp at h⟩
  | u :: us, st, hp, ok, hnn, hbind => by
    have hnn' : ∀ v ∈ us, claim newSpec prevSpec v prevSpec.urls prevRls ≠ some none :=
      fun v hv => hnn v (List.mem_cons_of_mem _ hv)
    have hbind' : ∀ v ∈ us, (bindPolicy newSpec v).isSome := fun v hv => hbind v (List.mem_cons_of_mem _ hv)
    simp only [reloadLoop, hp, Bool.false_eq_true, if_false]
    cases hcl : claim newSpec prevSpec u prevSpec.urls prevRls with
    | some r =>
      cases r with
      | none => exact absurd hcl (hnn u List.mem_cons_self)
      | some id0 =>
        simp only
        refine (reloadLoop_spec us ⟨st.rls ++ [some id0], st.heap, st.next, false⟩ rfl ok hnn' hbind').cons
          (le_refl _) rfl ⟨fun id hid => ?_, fun hnone => ?_⟩
        · rw [hcl] at hid
          exact Option.some.inj (Option.some.inj hid)
        · rw [hcl] at hnone
          cases hnone
    | none =>
      obtain ⟨p, hpol⟩ := Option.isSome_iff_exists.mp (hbind u List.mem_cons_self)
      have okc := createFor_ok newSpec u st ok
      simp only
      rw [createFor_some st hpol] at okc ⊢
      refine (reloadLoop_spec us _ (by exact hp) okc.1 hnn' hbind').cons okc.2 rfl ⟨fun id hid => ?_, fun _ => ?_⟩
      · rw [hcl] at hid
        cases hid
      · exact ⟨p, le_refl _, hpol, reloadLoop_heap newSpec prevSpec prevRls us _ _ _ (heapGet_append_new _ ok)⟩

end Loop

end EgVerif.RateLimiterFilter
