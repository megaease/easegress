import EgVerif.Proofs.Retry
import EgVerif.Model.CircuitBreaker
import EgVerif.Gen.FactsC10IR
import EgVerif.Gen.FactsC10IRp
import EgVerif.Gen.FactsC10IRc
/-!
# C10 — the regenerated tie by translation (notes/IR.md)

`Gen/FactsC10IR.lean`, `FactsC10IRc.lean` and `FactsC10IRp.lean` are produced on every run by the go/ast → Lean
micro-translator from the bodies of `RetryPolicy.Wrap` (the returned closure), `RetryPolicy.CreateWrapper`, and
`ServerPool.doHandle`, `ServerPool.handle` and its handler closure. The `<fn>_regenerated_from_source` theorems
prove the generated definitions equal to the hand-written mirrors in `Model/Retry.lean` **for all inputs**; the
bridge lemmas below connect the generic mirror (`wrapG`, opaque float algebra) to the model the property
theorems are about (`retryLoopWith`, exact fractions).
-/
namespace EgVerif.Retry
open EgVerif.Gen.FactsC10IR EgVerif.Gen.FactsC10IRp EgVerif.Gen.FactsC10IRc

/-- result of the closure from the loop's `Sum` (early `return` inside / falling out of the loop) -/
def finG {F : Type} : Sum RunG (List EventG × Option Nat × Nat × Nat × Option SPErr × F) → RunG
  | .inl r => r
  | .inr (ev, resp, _, _, err, _) => ⟨ev, err, resp⟩

/-- the translated attempt loop is the model's loop; the two counters of the translation (handler calls,
selects) stay equal at every loop head, and the events are appended where the model prepends them -/
theorem wrap_regenerated_from_source_loop {F : Type} (A : FloatOps F) (p : RetryPolicy) (f : F)
    (h : Nat → Option Nat → Option SPErr × Option Nat) (env : EnvG) (resp0 : Option Nat) (fuel k : Nat)
    (base : F) (prev : Option SPErr × Option Nat) (events : List EventG) (attempt : Int) :
      finG (wrapIR_loop1 A p f h env resp0 events prev.2 k k prev.1 base attempt fuel) =
        ⟨events ++ (wrapLoopG A h p.exponential f env fuel k base prev).events,
         (wrapLoopG A h p.exponential f env fuel k base prev).err,
         (wrapLoopG A h p.exponential f env fuel k base prev).resp⟩ := by
  fun_induction wrapLoopG A h p.exponential f env fuel k base prev generalizing events attempt with
  | case1 => simp only [wrapIR_loop1, finG, List.append_nil]
  | case2 fuel k base prev r hr =>
    simp only [wrapIR_loop1, show (h k prev.2).1 = none from hr, Option.isNone_none, if_true, finG]
    rfl
  | case3 fuel k base prev r e hr hd =>
    simp only [wrapIR_loop1, show (h k prev.2).1 = some e from hr, hd, Option.isNone_some, Bool.false_eq_true,
      if_false, if_true, finG, List.append_assoc, List.cons_append, List.nil_append]
    rfl
  | case4 fuel k base prev r e hr hd rest ih =>
    simp only [wrapIR_loop1, show (h k prev.2).1 = some e from hr, hd, Option.isNone_some, Bool.false_eq_true,
      if_false]
    rw [hr] at ih
    refine (ih _ _).trans ?_
    simp only [List.append_assoc, List.cons_append, List.nil_append, backoffG]
    rfl

/-- **`RetryPolicy.Wrap` (the returned closure), regenerated from the source, is the model's `wrapG`**:
for every float algebra, policy, handler oracle and environment. -/
theorem wrap_regenerated_from_source {F : Type} (A : FloatOps F) (p : RetryPolicy) (f : F)
    (h : Nat → Option Nat → Option SPErr × Option Nat) (env : EnvG) (resp0 : Option Nat) :
    wrapIR A p f h env resp0 = wrapG A p f h env resp0 := by
  have := wrap_regenerated_from_source_loop A p f h env resp0 p.maxAttempts.toNat 0 (A.ofInt (p.wait : Int))
    (none, resp0) [] 0
  rw [List.nil_append] at this
  unfold wrapIR wrapG
  simp only [Int.sub_zero]
  generalize wrapIR_loop1 A p f h env resp0 [] resp0 0 0 none (A.ofInt ↑p.wait) 0 p.maxAttempts.toNat = L at this ⊢
  cases L with
  | inl _ | inr _ => exact this

/-- **`RetryPolicy.CreateWrapper`, regenerated from the source**: the wait duration becomes the parsed
`WaitDuration` when the string is non-empty, and 500 ms when the result is ≤ 0. -/
theorem createWrapper_regenerated_from_source (wd0 : Int) (ws : String) (parse : String → Int × Bool) :
    createWrapperIR wd0 ws parse = createWrapperG wd0 ws parse := by
  unfold createWrapperIR createWrapperG createWrapper
  simp only []
  generalize (if (ws != "") = true then (parse ws).1 else wd0) = x
  by_cases hx : x ≤ 0
  · simp only [hx, decide_true, if_true]
    rfl
  · simp only [hx, decide_false, Bool.false_eq_true, if_false]
    exact (Int.toNat_of_nonneg (Int.le_of_lt (Int.not_le.mp hx))).symm

/-- **`ServerPool.doHandle`, regenerated from the source, is the model's classification** of what the
environment answers (`DoEnv.attempt` fixes the precedence of the checks). -/
theorem doHandle_regenerated_from_source (fc : List Nat) (o : DoEnv) (resp0 : Option Nat) :
    doHandleIR fc o resp0 = doHandle fc o.attempt resp0 := by
  obtain ⟨ns, pf, sf, ce, bf, st⟩ := o
  -- the checks in the order the code makes them; each answer `true` ends the function
  cases ns with
  | true => rfl
  | false =>
    cases pf with
    | true => rfl
    | false =>
      cases sf with
      | true => cases ce <;> rfl
      | false => cases bf <;> rfl

/-- the breaker layer of the composed handler: one acquire; refused ⇒ `ErrShortCircuited` and the inner
handler does not run; admitted ⇒ the inner handler runs once and its `err != nil` is recorded — the trace of
C08's `Wrap` model around that handler (`cbView_wrap`) -/
theorem runHF_cb (fc : List Nat) (env : Env) (permitted : Bool) (X : HF) :
    runHF fc env permitted (.cb X) =
      if !permitted then ⟨[], some .shortCircuited, none, 1, []⟩
      else ⟨(runHF fc env permitted X).events, (runHF fc env permitted X).err, (runHF fc env permitted X).resp,
        (runHF fc env permitted X).acq + 1,
        (runHF fc env permitted X).recs ++ [(runHF fc env permitted X).err.isSome]⟩ := by
  rw [runHF]

/-- **`ServerPool.handle`, regenerated from the source, is the model's `handle`**: the retry wrapper is
applied first and only to non-stream requests, the circuit breaker outermost; nil error ⇒ `""`,
`ErrShortCircuited` ⇒ 503 `shortCircuited`, a `serverPoolError` ⇒ its result, with a failure response only
if `spCtx.resp` is still nil. -/
theorem handle_regenerated_from_source (pool : Pool) (stream permitted : Bool) (env : Env) :
    handleIR pool stream permitted env = handle pool stream permitted env := by
  obtain ⟨fc, retry, hasCB⟩ := pool
  unfold handleIR handle
  simp only []
  -- `X`: the handler after the retry wrapper has (or has not) been applied; running it is `inner`
  generalize hX : (ite (retry.isSome && !stream) _ HF.base : HF) = X
  have run : runHF fc env permitted X = ⟨(inner ⟨fc, retry, hasCB⟩ stream env).events,
      (inner ⟨fc, retry, hasCB⟩ stream env).err.map .spe, (inner ⟨fc, retry, hasCB⟩ stream env).resp, 0, []⟩ := by
    subst hX
    cases retry <;> cases stream <;> rfl
  generalize inner ⟨fc, retry, hasCB⟩ stream env = I at run
  obtain ⟨ev, err, resp⟩ := I
  cases hasCB with
  | false =>
    simp only [run, Bool.false_eq_true, if_false, Bool.false_and]
    cases err <;> cases resp <;> rfl
  | true =>
    cases permitted with
    | false =>
      simp only [runHF_cb, if_true, Bool.not_false, Bool.and_true]
      rfl
    | true =>
      simp only [runHF_cb, run, Bool.false_eq_true, if_false, if_true, Bool.not_true, Bool.and_false]
      cases err <;> cases resp <;> rfl

/-- **The handler closure of `ServerPool.handle`, regenerated from the source**: the pool timeout (when
> 0) is put on the context of *each* call (inside the retry loop), and `spCtx.resp`, `stdReq`, `stdResp`
are reset before `doHandle` runs. -/
theorem handler_regenerated_from_source (timeout : Int) (resp0 : Option Nat) :
    handlerIR timeout resp0 = handlerG timeout := by
  unfold handlerIR handlerG
  by_cases h : timeout > 0 <;> simp [h]

/-! ### bridge: the generic mirror and the model of the property theorems

`wrapG` (any float algebra) and `retryLoopWith` (exact fractions) make the same calls, stop at the same
`select`, and return the same error / response; they differ only in how a sleep's duration is written. -/

/-- an event without its duration -/
inductive Skel
  | call (k : Nat) | sleep (k : Nat) | stop (k : Nat)
deriving Repr, DecidableEq

def Event.skel : Event → Skel
  | .call k => .call k
  | .sleep k _ _ => .sleep k
  | .stop k => .stop k

def EventG.skel : EventG → Skel
  | .call k => .call k
  | .sleep k _ => .sleep k
  | .stop k => .stop k

def callsS (evs : List Skel) : List Nat :=
  evs.filterMap (fun e => match e with | .call k => some k | _ => none)

theorem calls_eq_callsS (evs : List Event) : calls evs = callsS (evs.map Event.skel) := by
  rw [callsS, List.filterMap_map]
  exact congrArg (List.filterMap · evs) (funext fun e => by cases e <;> rfl)

/-! ### durations: the exact rational instance of the float algebra

`ratOps` computes the back-off exactly; `time.Duration(d)` / `int(x)` truncate toward zero. (The Go code
computes in `float64`: rounding is not modelled — the theorems below are about the exact instance.) -/

/-- Go's float → integer conversion: truncation toward zero -/
def truncQ (q : Rat) : Int := if 0 ≤ q then q.floor else -((-q).floor)

def ratOps : FloatOps Rat :=
  ⟨fun n => (n : Rat), fun a b => a + b, fun a b => a - b, fun a b => a * b, truncQ,
   fun m e => (m : Rat) / (10 : Rat) ^ e⟩

/-- `base` before the `k`-th back-off: `wait · 1.5^k` (exponential) or `wait` -/
def baseQ (p : RetryPolicy) (k : Nat) : Rat :=
  if p.exponential then (p.wait : Rat) * (3 / 2) ^ k else (p.wait : Rat)

/-- the `k`-th back-off `d = base − δ + rand.Intn(int(2δ+1))`, `δ = base·f`, before truncation -/
def durQ (p : RetryPolicy) (f : Rat) (env : EnvG) (k : Nat) : Rat :=
  baseQ p k - baseQ p k * f + ((env.jitter k (truncQ (baseQ p k * f * 2 + 1)) : Int) : Rat)

theorem baseQ_nonneg (p : RetryPolicy) (k : Nat) : 0 ≤ baseQ p k := by
  unfold baseQ
  have hw : (0 : Rat) ≤ (p.wait : Rat) := Nat.cast_nonneg _
  split
  · exact mul_nonneg hw (pow_nonneg (by norm_num) _)
  · exact hw

theorem ofInt_wait_ratOps (p : RetryPolicy) : ratOps.ofInt (p.wait : Int) = baseQ p 0 := by
  simp [ratOps, baseQ]

theorem nextBaseG_ratOps (p : RetryPolicy) (k : Nat) :
    nextBaseG ratOps p.exponential (baseQ p k) = baseQ p (k + 1) := by
  unfold nextBaseG baseQ
  cases p.exponential
  · rfl
  · show (p.wait : Rat) * (3 / 2) ^ k * ((15 : Nat) / 10 ^ 1) = p.wait * (3 / 2) ^ (k + 1)
    rw [pow_succ _ k, mul_assoc]
    norm_num

theorem backoffG_ratOps (p : RetryPolicy) (f : Rat) (env : EnvG) (k : Nat) :
    backoffG ratOps f (baseQ p k) (env.jitter k) = durQ p f env k := by
  simp only [backoffG, durQ, ratOps, Int.cast_ofNat, Int.cast_one]

/-- `rand.Intn`'s contract -/
def JitterOK (env : EnvG) : Prop := ∀ k n, 0 ≤ env.jitter k n ∧ (0 < n → env.jitter k n < n)

theorem truncQ_le {q : Rat} (h : 0 ≤ q) : ((truncQ q : Int) : Rat) ≤ q := by
  unfold truncQ; rw [if_pos h]; exact Rat.floor_le q

theorem lt_truncQ_add_one {q : Rat} (h : 0 ≤ q) : q < ((truncQ q : Int) : Rat) + 1 := by
  unfold truncQ; rw [if_pos h]
  have := Rat.lt_floor_add_one q
  push_cast at this
  exact this

/-- **Every back-off lies in `[base·(1−f), base·(1+f)]`** (before truncation), under `rand.Intn`'s
contract and `0 ≤ f`: the jitter `r` satisfies `0 ≤ r < n` with `n = int(2δ+1) ≤ 2δ + 1`. -/
theorem durQ_bounds (p : RetryPolicy) (f : Rat) (env : EnvG) (k : Nat) (hf : 0 ≤ f) (hj : JitterOK env) :
    baseQ p k * (1 - f) ≤ durQ p f env k ∧ durQ p f env k ≤ baseQ p k * (1 + f) := by
  have hδ : 0 ≤ baseQ p k * f * 2 := mul_nonneg (mul_nonneg (baseQ_nonneg p k) hf) zero_le_two
  have hq : 0 ≤ baseQ p k * f * 2 + 1 := add_nonneg hδ zero_le_one
  have hn1 := lt_truncQ_add_one hq
  have hn2 := truncQ_le hq
  obtain ⟨h0, hlt⟩ := hj k (truncQ (baseQ p k * f * 2 + 1))
  rw [durQ, mul_sub, mul_add, mul_one]
  generalize truncQ (baseQ p k * f * 2 + 1) = n at hn1 hn2 h0 hlt ⊢
  have hr : ((env.jitter k n : Int) : Rat) + 1 ≤ n := by
    rw [← Int.cast_one, ← Int.cast_add, Int.cast_le]
    exact hlt (Int.cast_pos.mp (lt_of_le_of_lt hδ (lt_of_add_lt_add_right hn1)))
  refine ⟨le_add_of_nonneg_right (Int.cast_nonneg h0), ?_⟩
  linarith

def sleepTotal : List EventG → Int
  | [] => 0
  | .sleep _ d :: t => d + sleepTotal t
  | _ :: t => sleepTotal t

def sleepCount : List EventG → Nat
  | [] => 0
  | .sleep _ _ :: t => 1 + sleepCount t
  | _ :: t => sleepCount t

/-- `Σ_{k ≤ j < k+n} base_j·(1+f)` -/
def capFrom (p : RetryPolicy) (f : Rat) : Nat → Nat → Rat
  | _, 0 => 0
  | k, n + 1 => baseQ p k * (1 + f) + capFrom p f (k + 1) n

theorem capFrom_nonneg (p : RetryPolicy) (f : Rat) (hf : 0 ≤ f) (n k : Nat) : 0 ≤ capFrom p f k n := by
  induction n generalizing k with
  | zero => exact le_refl _
  | succ n ih => exact add_nonneg (mul_nonneg (baseQ_nonneg p k) (by linarith)) (ih (k + 1))

theorem capFrom_closed (p : RetryPolicy) (f : Rat) (n k : Nat) :
    capFrom p f k n =
      if p.exponential then 2 * (p.wait : Rat) * (1 + f) * ((3 / 2) ^ (k + n) - (3 / 2) ^ k)
      else (n : Rat) * (p.wait : Rat) * (1 + f) := by
  induction n generalizing k with
  | zero => simp [capFrom]
  | succ n ih =>
    rw [capFrom, ih, baseQ]
    cases p.exponential
    · simp only [Bool.false_eq_true, if_false, Nat.cast_succ]; ring
    · simp only [if_true]
      rw [Nat.add_right_comm k 1 n, ← Nat.add_assoc, pow_succ, pow_succ]
      ring

def callCount : List EventG → Nat
  | [] => 0
  | .call _ :: t => 1 + callCount t
  | _ :: t => callCount t

section
variable (h : Nat → Option Nat → Option SPErr × Option Nat) (p : RetryPolicy) (f : Rat) (env : EnvG)

theorem wrapLoopG_sleeps (fuel k : Nat) (base : Rat) (prev) (hb : base = baseQ p k) (j : Nat) (dur : Int)
    (hm : EventG.sleep j dur ∈ (wrapLoopG ratOps h p.exponential f env fuel k base prev).events) :
    j < k + fuel ∧ dur = truncQ (durQ p f env j) := by
  fun_induction wrapLoopG ratOps h p.exponential f env fuel k base prev with
  | case1 => cases hm
  -- a run that ends at attempt `k` (success, or `ctx.Done()` won) has no sleep
  | case2 | case3 => simp only [List.mem_cons, reduceCtorEq, List.not_mem_nil, or_false] at hm
  | case4 fuel k base prev r e hr hd rest ih =>
    subst hb
    simp only [List.mem_cons, reduceCtorEq, false_or, EventG.sleep.injEq] at hm
    rcases hm with ⟨rfl, rfl⟩ | hm
    · exact ⟨Nat.lt_add_of_pos_right (Nat.succ_pos _), congrArg truncQ (backoffG_ratOps p f env j)⟩
    · obtain ⟨h1, h2⟩ := ih (nextBaseG_ratOps p k) hm
      exact ⟨Nat.lt_of_lt_of_eq h1 (Nat.add_right_comm k 1 fuel), h2⟩

/-- **Total waiting of one wrapped call is bounded** — by the sum over *all* `fuel` attempts, because
the `select` sits inside the loop: after the last failed attempt one more back-off is waited. -/
theorem wrapLoopG_total_le (hf : 0 ≤ f) (hf1 : f ≤ 1) (hj : JitterOK env) (fuel k : Nat) (base : Rat) (prev)
    (hb : base = baseQ p k) :
    ((sleepTotal (wrapLoopG ratOps h p.exponential f env fuel k base prev).events : Int) : Rat) ≤
      capFrom p f k fuel := by
  fun_induction wrapLoopG ratOps h p.exponential f env fuel k base prev with
  | case1 => simp only [sleepTotal, Int.cast_zero, capFrom, le_refl]
  | case2 fuel k | case3 fuel k =>
    simp only [sleepTotal, Int.cast_zero]
    exact capFrom_nonneg p f hf (fuel + 1) k
  | case4 fuel k base prev r e hr hd rest ih =>
    subst hb
    simp only [sleepTotal, capFrom, backoffG_ratOps, Int.cast_add]
    obtain ⟨lo, hi⟩ := durQ_bounds p f env k hf hj
    have h0 : 0 ≤ durQ p f env k := le_trans (mul_nonneg (baseQ_nonneg p k) (by linarith)) lo
    exact add_le_add ((truncQ_le h0).trans hi) (ih (nextBaseG_ratOps p k))

end

section
variable {F : Type} (A : FloatOps F) (h : Nat → Option Nat → Option SPErr × Option Nat) (p : RetryPolicy) (f : F)
  (env : EnvG)

/-- `R` and `M` make the same calls, sleeps and stop in the same order and return the same -/
structure Refines (R : RunG) (M : Run) : Prop where
  events : R.events.map EventG.skel = M.events.map Event.skel
  err : R.err = M.err
  resp : R.resp = M.resp

theorem wrapLoopG_refines (envM : Env) (hd : ∀ k, envM.done k = env.done k) (fuel k : Nat) (base : F)
    (prev : Option SPErr × Option Nat) :
    Refines (wrapLoopG A h p.exponential f env fuel k base prev) (retryLoopWith h p envM fuel k prev) := by
  fun_induction wrapLoopG A h p.exponential f env fuel k base prev with
  | case1 => exact ⟨rfl, rfl, rfl⟩
  | case2 fuel k base prev r hr =>
    simp only [retryLoopWith, show (h k prev.2).1 = none from hr]
    exact ⟨rfl, rfl, rfl⟩
  | case3 fuel k base prev r e hr hk =>
    simp only [retryLoopWith, show (h k prev.2).1 = some e from hr, hd, hk, if_true]
    exact ⟨rfl, rfl, rfl⟩
  | case4 fuel k base prev r e hr hk rest ih =>
    simp only [retryLoopWith, show (h k prev.2).1 = some e from hr, hd, hk]
    exact ⟨congrArg (fun l => Skel.call k :: Skel.sleep k :: l) ih.events, ih.err, ih.resp⟩

theorem wrapLoopG_counts (fuel k : Nat) (base : F) (prev) :
    callCount (wrapLoopG A h p.exponential f env fuel k base prev).events ≤ fuel ∧
      sleepCount (wrapLoopG A h p.exponential f env fuel k base prev).events ≤ fuel := by
  fun_induction wrapLoopG A h p.exponential f env fuel k base prev with
  | case1 => exact ⟨Nat.le_refl 0, Nat.le_refl 0⟩
  | case2 fuel | case3 fuel => exact ⟨Nat.succ_le_succ (Nat.zero_le fuel), Nat.zero_le _⟩
  | case4 fuel k base prev r e hr hd rest ih =>
    have h1 : callCount rest.events ≤ fuel := ih.1
    have h2 : sleepCount rest.events ≤ fuel := ih.2
    simp only [callCount, sleepCount]
    omega

/-- when every attempt fails and the client stays, **each of the `fuel` attempts is followed by a
back-off**, the last one included (the observation of DESIGN §10.3, as a theorem) -/
theorem wrapLoopG_all_fail (hfail : ∀ k r, (h k r).1.isSome = true) (hnd : ∀ k, env.done k = false)
    (fuel k : Nat) (base : F) (prev) :
    (wrapLoopG A h p.exponential f env fuel k base prev).events.map EventG.skel =
      (List.range' k fuel).flatMap (fun j => [Skel.call j, Skel.sleep j]) := by
  fun_induction wrapLoopG A h p.exponential f env fuel k base prev with
  | case1 => rfl
  | case2 fuel k base prev r hr =>
    have := hfail k prev.2
    rw [show (h k prev.2).1 = none from hr] at this
    cases this
  | case3 fuel k base prev r e hr hd =>
    rw [hnd k] at hd
    cases hd
  | case4 fuel k base prev r e hr hd rest ih =>
    rw [List.range'_succ, List.flatMap_cons, ← ih]
    rfl
end

/-! ### time: the pool timeout per attempt, and the client-visible wait

`dur k` = how long the backend takes to answer the `k`-th call (`none` = never). With a pool timeout
`t > 0` the handler closure hands `doHandle` a context with that deadline (`handler_regenerated_from_source`),
*inside* the retry loop (`handle_regenerated_from_source`), so every attempt returns after `min (dur k) t`
(trusted: the transport honours the context deadline). A cancelled back-off (`stop`) returns at once. -/

def attemptTime (timeout : Nat) (dur : Nat → Option Nat) (k : Nat) : Nat := min ((dur k).getD timeout) timeout

/-- wall-clock time of one run of the wrapped handler, ns -/
def elapsed (timeout : Nat) (dur : Nat → Option Nat) : List EventG → Int
  | [] => 0
  | .call k :: t => (attemptTime timeout dur k : Int) + elapsed timeout dur t
  | .sleep _ d :: t => d + elapsed timeout dur t
  | .stop _ :: t => elapsed timeout dur t

theorem attemptTime_le (timeout : Nat) (dur : Nat → Option Nat) (k : Nat) : attemptTime timeout dur k ≤ timeout :=
  Nat.min_le_right _ _

theorem elapsed_le (timeout : Nat) (dur : Nat → Option Nat) (evs : List EventG) :
    elapsed timeout dur evs ≤ (callCount evs * timeout : Nat) + sleepTotal evs := by
  induction evs with
  | nil => simp only [elapsed, callCount, sleepTotal, Nat.zero_mul, Nat.cast_zero, Int.add_zero, Int.le_refl]
  | cons e t ih =>
    cases e with
    | call k =>
      have h := attemptTime_le timeout dur k
      simp only [elapsed, callCount, sleepTotal, Nat.add_mul, Nat.one_mul]
      omega
    | sleep _ d => simp only [elapsed, callCount, sleepTotal]; omega
    | stop _ => simp only [elapsed, callCount, sleepTotal]; exact ih

/-- what C10 counts of a trace of C08's `circuitBreakerWrapper.Wrap` model: acquires, recorded flags, handler runs -/
def cbView (evs : List CircuitBreaker.Ev) : Nat × List Bool × Nat :=
  (evs.count .acquire, evs.filterMap (fun e => match e with | .record b => some b | _ => none), evs.count .handler)

/-- the outcome C08's wrapper sees when the wrapped (possibly retried) handler returned `err` -/
def outcomeOf (err : Option HErr) : CircuitBreaker.Outcome := if err.isSome then .err else .ok

/-- C08's wrapper around a handler that returns `err` (and does not panic): one acquire; if admitted, one
handler run and one record of `err != nil` -/
theorem cbView_wrap (permitted : Bool) (err : Option HErr) :
    cbView (CircuitBreaker.wrap permitted (outcomeOf err)).1 =
      (1, if permitted then [err.isSome] else [], if permitted then 1 else 0) := by
  cases permitted
  · rfl
  · cases err <;> rfl

theorem baseQ_eq (p : RetryPolicy) (k : Nat) : baseQ p k = (baseNum p k : Rat) / (baseDen p k : Rat) := by
  unfold baseQ baseNum baseDen
  cases p.exponential
  · simp only [Bool.false_eq_true, if_false, Nat.cast_one, div_one]
  · simp only [if_true, Nat.cast_mul, Nat.cast_pow, Nat.cast_ofNat, div_pow, mul_div_assoc]

theorem floor_natCast_div (n d : Nat) (hd : 0 < d) : ((n : Rat) / (d : Rat)).floor = ((n / d : Nat) : Int) := by
  have hdq : (0 : Rat) < (d : Rat) := Nat.cast_pos.mpr hd
  refine Int.le_antisymm (Int.lt_add_one_iff.mp (Rat.floor_lt_iff.mpr ?_)) (Rat.le_floor_iff.mpr ?_)
  · rw [div_lt_iff₀ hdq, Int.cast_add, Int.cast_one, Int.cast_natCast, ← Nat.cast_succ, ← Nat.cast_mul, Nat.cast_lt]
    exact Nat.lt_mul_of_div_lt (Nat.lt_succ_self _) hd
  · rw [le_div_iff₀ hdq, Int.cast_natCast, ← Nat.cast_mul, Nat.cast_le]
    exact Nat.div_mul_le_self n d

/-- `CreateWrapper` called `k` times on the same policy object (as `InjectResiliencePolicy` does when `k`
server pools name the policy): the value of `p.waitDuration` afterwards -/
def createWrapperTimes (ws : String) (parse : String → Int × Bool) : Nat → Int → Int
  | 0, wd => wd
  | k + 1, wd => createWrapperTimes ws parse k (createWrapperG wd ws parse)

theorem createWrapper_idem (x : Int) : createWrapper (createWrapper x) = createWrapper x := by
  unfold createWrapper
  split
  · rfl
  · rename_i h
    rw [Int.toNat_of_nonneg (Int.le_of_lt (Int.not_le.mp h)), if_neg h]

theorem createWrapperG_idem (wd0 : Int) (ws : String) (parse : String → Int × Bool) :
    createWrapperG (createWrapperG wd0 ws parse) ws parse = createWrapperG wd0 ws parse := by
  unfold createWrapperG
  split
  · rfl
  · exact congrArg Nat.cast (createWrapper_idem wd0)

theorem createWrapperTimes_succ (ws : String) (parse : String → Int × Bool) (wd0 : Int) :
    ∀ k, createWrapperTimes ws parse (k + 1) wd0 = createWrapperG wd0 ws parse
  | 0 => rfl
  | k + 1 => by
    have := createWrapperTimes_succ ws parse (createWrapperG wd0 ws parse) k
    simp only [createWrapperTimes] at this ⊢
    rw [this, createWrapperG_idem]

end EgVerif.Retry
