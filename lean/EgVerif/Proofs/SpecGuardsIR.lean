import EgVerif.Proofs.SpecGuards
import EgVerif.Gen.FactsC13IR
/-!
# C13: validation ⇒ no panic, with BOTH sides regenerated from the source (`Gen/FactsC13IR.lean`)

`validateIR_<Kind>` is the translated `Validate()` of the kind, `panicsIR_<Kind>` (or the translated pieces
it is composed of) the translated function that contains the panic site. Each theorem
`validate_no_panic_<Kind>` is about those two generated definitions, for every spec record (and request
context / oracle answer where the panic depends on one); `unrepaired_<Kind>` shows that the statement is
FALSE for the validation the code had before the corresponding `fix:` commit; `…_implies_validateIR`
(`mqttProxyValid_implies_no_panicIR`, `cbValid_implies_accepted`) connect the hand-written predicates over
document trees (`Model/SpecGuards.lean`, used by the judge) to the generated validations.
-/
namespace EgVerif.SpecGuards
open EgVerif.Gen.FactsC13IR

/-! ## ResponseAdaptor (fix 34c5ca9: `Spec.Validate` added) -/

/-- `Validate` rejects exactly the specs on which `Init` panics: the two bodies are the same chain of tests -/
theorem validate_iff_no_panic_ResponseAdaptor (s : RASpec) :
    validateIR_ResponseAdaptor s = !panicsIR_ResponseAdaptor s := by
  unfold validateIR_ResponseAdaptor panicsIR_ResponseAdaptor
  simp only [apply_ite Bool.not, Bool.not_false]

theorem validate_no_panic_ResponseAdaptor (s : RASpec) :
    validateIR_ResponseAdaptor s = true → panicsIR_ResponseAdaptor s = false := by
  intro h
  rwa [validate_iff_no_panic_ResponseAdaptor, Bool.not_eq_true'] at h

/-- before the fix the kind had no `Validate()` (everything the tags allow was accepted): `compress: zip`
made `Init` panic -/
theorem unrepaired_ResponseAdaptor : ∃ s : RASpec, panicsIR_ResponseAdaptor s = true :=
  ⟨⟨"zip", "", ""⟩, by decide⟩

theorem respAdaptorValid_implies_validateIR (j : J) :
    respAdaptorValid j = true → validateIR_ResponseAdaptor (RASpec.ofJ j) = true := by
  unfold respAdaptorValid adaptorGuardsOK
  intro h
  simp only [Bool.and_eq_true] at h
  -- each early return of `Validate` tests the negation of one conjunct of `adaptorGuardsOK`
  simp only [validateIR_ResponseAdaptor, RASpec.ofJ, bne, ← Bool.not_or, h, Bool.not_true, Bool.false_eq_true,
    if_false]

/-! ## RequestBuilder / ResponseBuilder (fix 3dbd6e1: `Validate` parses the template) -/

theorem validate_no_panic_Builder (s : BSpec) : validateIR_Builder s = true → panicsIR_Builder s = false := by
  unfold validateIR_Builder panicsIR_Builder
  by_cases h1 : s.sourceNamespace = ""
  · -- `reload` parses the template; `Validate` has parsed it too, since it is not empty
    by_cases h2 : s.template = ""
    · simp [h1, h2]
    · cases s.tmplOK <;> simp [h1, h2]
  · simp [h1]

/-- the `Validate` before the fix (the same without the parse test): a template that does not parse was
accepted and `template.Must` panicked -/
def validateUnrepaired_Builder (s : BSpec) : Bool :=
  !((s.sourceNamespace == "") && (s.template == "")) && !((s.sourceNamespace != "") && (s.template != ""))

theorem unrepaired_Builder : ∃ s : BSpec, validateUnrepaired_Builder s = true ∧ panicsIR_Builder s = true :=
  ⟨⟨"", "{{", false⟩, by decide⟩

theorem builderValid_implies_validateIR (o : Oracle) (j : J) :
    builderValid o j = true → validateIR_Builder (BSpec.ofJ o j) = true := by
  unfold builderValid validateIR_Builder BSpec.ofJ tmplOK
  intro h
  simp only [Bool.and_eq_true, Bool.or_eq_true, Bool.not_eq_true', beq_iff_eq] at h
  obtain ⟨⟨⟨_, h1⟩, h2⟩, h3⟩ := h
  simp only [h1, h2, Bool.false_eq_true, if_false]
  rcases h3 with h | h <;> simp [h]

/-! ## Fallback (fix 49d7036: comma-ok response lookup in `Handle`) — the panic depends on the request -/

theorem no_panic_Fallback (q : ReqCtx) : panicsIR_Fallback q = false := by
  unfold panicsIR_Fallback
  cases q.hasResponse <;> simp

/-- what the translator renders for the statement before the fix,
`resp := ctx.GetInputResponse().(*httpprot.Response)` (single-value assertion: partial): it panics exactly for
the contexts without a response — e.g. a pipeline `[Fallback]` behind an HTTPServer. -/
def panicsUnrepaired_Fallback (q : ReqCtx) : Bool :=
  if q.hasResponse then false else true

theorem unrepaired_Fallback : ∃ q : ReqCtx, panicsUnrepaired_Fallback q = true := ⟨⟨false⟩, by decide⟩

/-! ## RateLimiter policy (fix e912cc4: `Policy.Validate` requires a positive refresh period) -/

/-- `format=duration` on `limitRefreshPeriod` (regenerated tag, `spec_tags_as_modelled`): empty or parsable -/
def tagOK_RLPolicy (p : RLPolicy) : Bool := p.limitRefreshPeriod == "" || p.period.isSome

theorem validate_no_panic_RLPolicy (p : RLPolicy) :
    tagOK_RLPolicy p = true → validateIR_RLPolicy p = true → 0 < refreshPeriodIR_RLPolicy p := by
  unfold tagOK_RLPolicy validateIR_RLPolicy refreshPeriodIR_RLPolicy
  intro ht hv
  by_cases h1 : p.limitRefreshPeriod = ""
  · simp [h1]
  · -- the tag says the period parses, `Validate` that it is positive, and `createRateLimiter` hands it on
    cases hp : p.period with
    | none => simp [h1, hp] at ht
    | some d =>
      simp [h1, hp] at hv ⊢
      omega

/-- before the fix `Policy.Validate` did not exist: `limitRefreshPeriod: 0s` passed the tag and the limiter
divided by zero at the first request -/
theorem unrepaired_RLPolicy : ∃ p : RLPolicy, tagOK_RLPolicy p = true ∧ refreshPeriodIR_RLPolicy p = 0 :=
  ⟨⟨"0s", some 0⟩, by decide⟩

theorem rlPolicyOK_implies_validateIR (o : Oracle) (p : J) :
    rlPolicyOK o p = true → tagOK_RLPolicy (RLPolicy.ofJ o p) = true ∧ validateIR_RLPolicy (RLPolicy.ofJ o p) = true := by
  unfold rlPolicyOK durOK durNs
  intro h
  simp only [Bool.and_eq_true] at h
  refine ⟨h.1.1.2, ?_⟩
  by_cases he : p.sget "limitRefreshPeriod" = ""
  · simp [validateIR_RLPolicy, RLPolicy.ofJ, he]
  · have hpos : ¬ (o.dur (p.sget "limitRefreshPeriod")).getD 0 ≤ 0 := Int.not_le.mpr (by simpa [he] using h.2)
    simp [validateIR_RLPolicy, RLPolicy.ofJ, he, hpos]

/-! ## Validator signature (fix 4536822: `Validate` requires access keys) -/

/-- `Validator.reload` + `Validator.Handle` (wiring fact `validatorWiring`): the signer exists iff the spec
has a `signature`, and `Handle` calls `Verify` on it for every request that reaches it. -/
def panicsIR_Validator (s : VSpec) : Bool :=
  match s.signature with
  | none => false
  | some sp => verifyPanicsIR_Signer (storeSetIR_Signer sp)

theorem validate_no_panic_Validator (s : VSpec) :
    validateIR_Validator s = true → panicsIR_Validator s = false := by
  unfold validateIR_Validator panicsIR_Validator verifyPanicsIR_Signer storeSetIR_Signer
  cases s.signature with
  | none => intro _; rfl
  | some sp =>
    -- `Validate` rejects `len(AccessKeys) == 0`, `CreateFromSpec` sets the store when `len(AccessKeys) > 0`
    cases s.isZero
    · by_cases hk : sp.accessKeys = 0 <;> simp [hk]
    · simp

/-- the `Validate` before the fix (only the vacuous zero test): `signature: {}` was accepted and the first
request panicked in `Signer.Verify` -/
def validateUnrepaired_Validator (s : VSpec) : Bool := !s.isZero

theorem unrepaired_Validator : ∃ s : VSpec, validateUnrepaired_Validator s = true ∧ panicsIR_Validator s = true :=
  ⟨⟨false, some ⟨0⟩⟩, by decide⟩

theorem validatorValid_implies_validateIR (o : Oracle) (j : J) :
    validatorValid o j = true → validateIR_Validator (VSpec.ofJ j) = true := by
  unfold validatorValid signatureOK
  intro h
  simp only [Bool.and_eq_true, Bool.or_eq_true] at h
  -- `Validate` only tests the number of access keys of a present `signature`
  cases hs : j.has "signature"
  · simp [validateIR_Validator, VSpec.ofJ, hs]
  · have := h.2.resolve_left (by simp [hs])
    simp [validateIR_Validator, VSpec.ofJ, hs]
    simpa [List.isEmpty_iff] using this.2

theorem validator_wiring_as_modelled : validatorWiring = true := by decide

/-! ## MQTTProxy (fix 4f68600: `Spec.Validate` added) -/

/-- `newBroker` panics when `getPipelineMap` panics (nil dereference) or returns an error
(fact `newBrokerPanicsOnMapError`) -/
def panicsIR_MQTTProxy (s : MqttSpec) : Bool := getPipelineMapIR s != some false

theorem validateIR_MQTTProxy_loop (s : MqttSpec) : ∀ l : List (Option MqttRule),
    validateIR_MQTTProxy_loop1 s l = .inr () ∨ validateIR_MQTTProxy_loop1 s l = .inl false
  | [] => Or.inl rfl
  | r :: rest => by
    unfold validateIR_MQTTProxy_loop1
    split
    · right; rfl
    · exact validateIR_MQTTProxy_loop s rest

theorem validate_no_panic_MQTTProxy (s : MqttSpec) :
    validateIR_MQTTProxy s = true → panicsIR_MQTTProxy s = false := by
  unfold validateIR_MQTTProxy panicsIR_MQTTProxy
  rcases validateIR_MQTTProxy_loop s s.rules with h | h <;> rw [h] <;> simp

theorem new_broker_panics_on_map_error : newBrokerPanicsOnMapError = true := by decide

/-- before the fix there was no `Validate()`: each of the three rule defects reached `newBroker` -/
theorem unrepaired_MQTTProxy :
    panicsIR_MQTTProxy ⟨[some ⟨none, "p"⟩]⟩ = true ∧ getPipelineMapIR ⟨[some ⟨none, "p"⟩]⟩ = none ∧
    getPipelineMapIR ⟨[none]⟩ = none ∧
    getPipelineMapIR ⟨[some ⟨some ⟨"publish"⟩, "p"⟩]⟩ = some true ∧
    getPipelineMapIR ⟨[some ⟨some ⟨"Publish"⟩, "p"⟩, some ⟨some ⟨"Publish"⟩, "q"⟩]⟩ = some true ∧
    getPipelineMapIR ⟨[some ⟨some ⟨"Publish"⟩, "p"⟩, some ⟨some ⟨"Connect"⟩, "q"⟩]⟩ = some false := by
  decide +kernel

/-- the hand-written rule guard of the judge agrees with the translated `getPipelineMap` -/
theorem mqttRuleGuard_eq_getPipelineMapIR_loop (s : MqttSpec) : ∀ (rules : List J) (seen : List String)
    (ans : List (String × String)), (∀ t, seen.contains t = (ans.lookup t).isSome) →
    (mqttRuleGuard rules seen).isNone =
      (match getPipelineMapIR_loop1 s ans (rules.map MqttRule.ofJ) with | .inl _ => false | .inr _ => true)
  | [], _, _, _ => rfl
  | r :: rest, seen, ans, hrel => by
    -- the invariant (the packet types seen are the keys of the map built so far) survives a step
    have ih := mqttRuleGuard_eq_getPipelineMapIR_loop s rest ((r.get "when").sget "packetType" :: seen)
      (((r.get "when").sget "packetType", r.sget "pipeline") :: ans) fun t => by
        rw [List.contains_cons, List.lookup_cons, hrel t]
        cases t == (r.get "when").sget "packetType" <;> rfl
    unfold mqttRuleGuard
    rw [List.map_cons]
    unfold getPipelineMapIR_loop1
    cases hw : r.has "when"
    · simp [MqttRule.ofJ, hw]
    · by_cases hc : (r.get "when").sget "packetType" ∈ mqttPacketTypes
      · by_cases hs : (r.get "when").sget "packetType" ∈ seen
        · simp [MqttRule.ofJ, hw, hc, ← hrel, hs]
        · simp [MqttRule.ofJ, hw, hc, ← hrel, hs, ih]
      · simp [MqttRule.ofJ, hw, hc]

theorem mqttProxyValid_implies_no_panicIR (j : J) :
    mqttProxyValid j = true → panicsIR_MQTTProxy (MqttSpec.ofJ j) = false := by
  unfold mqttProxyValid mqttProxyInitOK panicsIR_MQTTProxy getPipelineMapIR MqttSpec.ofJ
  intro h
  rw [Bool.and_eq_true] at h
  have := mqttRuleGuard_eq_getPipelineMapIR_loop ⟨(j.aget "rules").map MqttRule.ofJ⟩ (j.aget "rules") [] [] fun _ => rfl
  rw [h.2] at this
  dsimp only
  generalize getPipelineMapIR_loop1 ⟨(j.aget "rules").map MqttRule.ofJ⟩ [] ((j.aget "rules").map MqttRule.ofJ) = x at this
  cases x with
  | inl v => simp at this
  | inr v => simp

/-! ## CircuitBreaker policy: the windows results are pushed into have at least one bucket

`CountBasedWindow.Push` indexes `bucket[bucketIdx]`; a window built with size 0 makes it panic (index out of
range) — an implicit panic site, not in the `panic(` table. The sizes are the translated arguments of the
constructor calls (`cbWindowSizesIR`), the admission test of the half-open state is `cbHalfOpenAdmitIR`. -/

/-- For every policy validation accepts: every window created in the closed state has ≥ 1 bucket; and whenever
a call is admitted in half-open state (only then can a result be pushed into the half-open window —
`cbPushSites`: RecordResult is the only pusher and it records results of the current state only), the
half-open window has ≥ 1 bucket. `permittedNumberOfCallsInHalfOpenState: 0` is accepted and creates a 0-bucket
window that never receives a result. -/
theorem cb_pushed_windows_have_buckets (p : CBLibPolicy) (h : p.accepted = true) :
    (∀ e ∈ cbWindowSizesIR p, e.1 = "Closed" → 1 ≤ e.2) ∧
    (∀ n : Int, 0 ≤ n → cbHalfOpenAdmitIR p n = true → ∀ e ∈ cbWindowSizesIR p, e.1 = "HalfOpen" → 1 ≤ e.2) ∧
    (∀ e ∈ cbWindowSizesIR p, e.1 = "Closed" ∨ e.1 = "HalfOpen") := by
  unfold CBLibPolicy.accepted at h
  simp only [Bool.and_eq_true, decide_eq_true_eq] at h
  -- the closed windows have `slidingWindowSize` buckets; the half-open one `permitted`, more than the calls admitted
  simp [cbWindowSizesIR, cbHalfOpenAdmitIR]
  exact ⟨h.1.1, fun n hn hlt => by omega⟩

theorem cb_push_sites_as_modelled : cbPushSites = 1 := by decide

/-- the seeded variant (`NewCountBasedWindow(min(minimumNumberOfCalls, permitted))` in half-open state) breaks
the statement: `minimumNumberOfCalls: 0` is accepted, a call is admitted, the window has no bucket -/
theorem cb_min_sized_window_violates :
    ∃ p : CBLibPolicy, p.accepted = true ∧ cbHalfOpenAdmitIR p 0 = true ∧ ¬ (1 ≤ min p.minCalls p.permitted) :=
  ⟨⟨1, 10, 0⟩, by decide⟩

/-- the judge's `cbValid` (document trees) implies `accepted` on the record `CreateWrapper` builds -/
theorem cbValid_implies_accepted (o : Oracle) (p : J) : cbValid o p = true → (CBLibPolicy.ofJ p).accepted = true := by
  unfold cbValid CBLibPolicy.accepted CBLibPolicy.ofJ
  intro h
  simp only [Bool.and_eq_true, decide_eq_true_eq] at h ⊢
  exact ⟨⟨h.1.1.1.1.1.2, h.1.1.1.1.2⟩, h.1.1.1.2⟩

/-! ## HTTPServer: the tracer of a new mux instance is never nil

`muxInstance.serveHTTP` and `mux.close` dereference `inst.tracer` (implicit panic sites). The selection in
`mux.reload` is translated (`tracerNonNilIR_mux`). -/

/-- whatever the tracing sections are (equal or not), whether `tracing.New` succeeds or fails — validation
accepts sections it rejects, e.g. a negative `sampleRate` — and even if the previous tracer were nil: the
instance gets a non-nil tracer (`tracing.New` error ⇒ `NoopTracer`). -/
theorem tracer_never_nil (sameSpec newOK oldNonNil : Bool) : tracerNonNilIR_mux sameSpec newOK oldNonNil = true := by
  cases sameSpec <;> cases newOK <;> cases oldNonNil <;> rfl

theorem tracing_new_nil_on_error : tracingNewNilOnError = true := by decide

/-- the seeded selection (`tracer := oldInst.tracer; if spec changed { tracer, err = tracing.New(…) }`) as the
translator renders it: nil when the section changed and `tracing.New` fails -/
def tracerSeeded_mux (sameSpec newOK oldNonNil : Bool) : Bool := if !sameSpec then newOK else oldNonNil

theorem tracer_seeded_can_be_nil : ∃ a b c, tracerSeeded_mux a b c = false := ⟨false, false, true, rfl⟩

end EgVerif.SpecGuards
