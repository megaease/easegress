import EgVerif.Proofs.Validator
/-!
Lemmas for the signer part of C06. Completeness (`Sign` → `Verify`): `initFromHeader` reads back the `Authorization`
header that `Sign` writes, and the canonical headers `Verify` rebuilds from the signed-header list are those `Sign`
hashed. Soundness (what an accepted signature determines): the LF-separated canonical request is injective in its
parts, given the parser contract `NoLF` — with collision-freeness of hash and MAC as a hypothesis, or with a collision
as the alternative.
-/
set_option linter.unusedSimpArgs false
namespace EgVerif.Signer
open EgVerif.Sha256 (Bytes)

theorem lookup_setKey_same (k : Bytes) (v : List Bytes) (h : Header) : lookup k (setKey k v h) = some v := by
  induction h with
  | nil => simp [setKey, lookup]
  | cons e r ih =>
    obtain ⟨k', v'⟩ := e
    simp only [setKey]
    by_cases hk : k' = k <;> simp [hk, lookup, ih]

theorem lookup_setKey_ne {k k' : Bytes} (v : List Bytes) (h : Header) (hne : k' ≠ k) :
    lookup k' (setKey k v h) = lookup k' h := by
  induction h with
  | nil => simp [setKey, lookup, Ne.symm hne]
  | cons e r ih =>
    obtain ⟨k0, v0⟩ := e
    simp only [setKey]
    by_cases hk : k0 = k
    · subst hk; simp [lookup, Ne.symm hne]
    · simp only [hk, if_false, lookup]
      by_cases hk' : k0 = k' <;> simp [hk', ih]

theorem keys_setKey (k : Bytes) (v : List Bytes) (h : Header) :
    (setKey k v h).map (·.1) = if k ∈ h.map (·.1) then h.map (·.1) else h.map (·.1) ++ [k] := by
  induction h with
  | nil => simp [setKey]
  | cons e r ih =>
    obtain ⟨k0, v0⟩ := e
    by_cases hk : k0 = k
    · simp [setKey, hk]
    · simp only [setKey, hk, if_false, List.map_cons, ih, List.mem_cons, Ne.symm hk, false_or]
      split <;> rfl

theorem nodup_keys_setKey (k : Bytes) (v : List Bytes) (h : Header) (hn : (h.map (·.1)).Nodup) :
    ((setKey k v h).map (·.1)).Nodup := by
  rw [keys_setKey]
  split
  · exact hn
  · rename_i hk
    refine List.nodup_append.mpr ⟨hn, by simp, ?_⟩
    intro a ha c hc
    rw [List.mem_singleton.mp hc]
    exact fun e => hk (e ▸ ha)

theorem keys_setKey_mem {k k' : Bytes} {v : List Bytes} {h : Header}
    (hm : k' ∈ (setKey k v h).map (·.1)) : k' = k ∨ k' ∈ h.map (·.1) := by
  rw [keys_setKey] at hm
  split at hm
  · exact Or.inr hm
  · simpa [or_comm] using hm

theorem lookup_of_mem {h : Header} (hn : (h.map (·.1)).Nodup) {k : Bytes} {v : List Bytes}
    (hm : (k, v) ∈ h) : lookup k h = some v := by
  induction h with
  | nil => simp at hm
  | cons e r ih =>
    obtain ⟨k0, v0⟩ := e
    simp only [List.map_cons, List.nodup_cons] at hn
    simp only [List.mem_cons, Prod.mk.injEq] at hm
    simp only [lookup]
    rcases hm with ⟨rfl, rfl⟩ | hm
    · simp
    · have : k0 ≠ k := by
        intro e; subst e
        exact hn.1 (List.mem_map.mpr ⟨(k0, v), hm, rfl⟩)
      simp [this, ih hn.2 hm]

theorem hget_hset_same (h : Header) (n v : Bytes) : hget (hset h n v) n = v := by
  simp [hget, hset, hvals, lookup_setKey_same]

theorem hget_hset_ne (h : Header) {n n' : Bytes} (v : Bytes) (hne : canonKey n' ≠ canonKey n) :
    hget (hset h n v) n' = hget h n' := by
  simp [hget, hset, hvals, lookup_setKey_ne _ _ hne]

theorem mem_insertBy {α : Type} (key : α → Bytes) (x y : α) (l : List α) : y ∈ insertBy key x l ↔ y = x ∨ y ∈ l := by
  induction l with
  | nil => simp [insertBy]
  | cons z r ih =>
    simp only [insertBy]
    split
    · simp
    · simp [ih]; constructor <;> (intro h; rcases h with h | h | h <;> simp [h])

theorem mem_sortBy {α : Type} (key : α → Bytes) (y : α) (l : List α) : y ∈ sortBy key l ↔ y ∈ l := by
  induction l with
  | nil => simp [sortBy]
  | cons z r ih => simp [sortBy, mem_insertBy, ih]

/-- free of the bytes at which `initFromHeader` splits what it reads: white space and `,` (the fields of the Authorization
header), `/` (the credential: key id and scope), `;` (the signed-header list) -/
def Clean (s : Bytes) : Prop := ∀ c ∈ s, isWs c = false ∧ c ≠ 44 ∧ c ≠ 47 ∧ c ≠ 59

/-- no white space, no comma: a field that `strings.Split(·, ",")` and `strings.TrimSpace` hand back as it was written -/
def Field (s : Bytes) : Prop := ∀ c ∈ s, isWs c = false ∧ c ≠ 44

theorem Clean.field {s : Bytes} (h : Clean s) : Field s := fun c hc => ⟨(h c hc).1, (h c hc).2.1⟩

theorem Field.append {x y : Bytes} (hx : Field x) (hy : Field y) : Field (x ++ y) :=
  fun c hc => (List.mem_append.mp hc).elim (hx c) (hy c)

theorem Field.cons {c : UInt8} {s : Bytes} (hs : Field s) (hc : isWs c = false ∧ c ≠ 44) : Field (c :: s) :=
  fun d hd => (List.mem_cons.mp hd).elim (fun e => e ▸ hc) (hs d)

theorem Field.ws {s : Bytes} (h : Field s) : ∀ c ∈ s, isWs c = false := fun c hc => (h c hc).1

theorem Field.comma {s : Bytes} (h : Field s) : (44 : UInt8) ∉ s := fun hm => (h 44 hm).2 rfl

theorem Field.space_comma {s : Bytes} (h : Field s) : (44 : UInt8) ∉ 32 :: s :=
  fun hm => (List.mem_cons.mp hm).elim (by decide) h.comma

theorem mem_joinB {sep c : UInt8} : ∀ {l : List Bytes}, c ∈ joinB sep l → c = sep ∨ ∃ s ∈ l, c ∈ s
  | [], h => by simp [joinB] at h
  | [a], h => by simp only [joinB] at h; exact Or.inr ⟨a, by simp, h⟩
  | a :: a' :: r, h => by
    simp only [joinB, List.mem_append, List.mem_cons] at h
    rcases h with h | h | h
    · exact Or.inr ⟨a, by simp, h⟩
    · exact Or.inl h
    · rcases mem_joinB (l := a' :: r) h with h1 | ⟨s, hs, hc⟩
      · exact Or.inl h1
      · exact Or.inr ⟨s, List.mem_cons_of_mem _ hs, hc⟩

theorem Field.joinB {sep : UInt8} {l : List Bytes} (hsep : isWs sep = false ∧ sep ≠ 44) (h : ∀ s ∈ l, Field s) :
    Field (joinB sep l) := by
  intro c hc
  rcases mem_joinB hc with rfl | ⟨s, hs, hcs⟩
  · exact hsep
  · exact h s hs c hcs

theorem credential_lit_field : Field (b "Credential=") := by unfold Field; decide +kernel
theorem signedHeaders_lit_field : Field (b "SignedHeaders=") := by unfold Field; decide +kernel
theorem signature_lit_field : Field (b "Signature=") := by unfold Field; decide +kernel

/-- `initFromHeader` recovers exactly what `Sign` put into the Authorization header. -/
theorem initFromHeader_fmtAuth (lit : Literal) (clock : Clock) (req : Req) (keyId : Bytes) (scopes : List Bytes)
    (sh sig : Bytes) (t t' : Int)
    (hauth : hget req.headers authHeader = fmtAuth lit keyId (scopeString lit clock t scopes) sh sig)
    (hdate : hget req.headers lit.date = clock.fmtTime t)
    (halg : 32 ∉ lit.algorithmValue)
    (hid : Clean keyId) (hsc : ∀ s ∈ scopes, Clean s) (hsuf : Clean lit.scopeSuffix) (hd : Clean (clock.fmtDate t))
    (hsh : Field sh) (hsig : Field sig)
    (hpre : hasPrefix (clock.fmtTime t) (clock.fmtDate t) = true)
    (hparse : clock.parseTime (clock.fmtTime t) = some t') :
    initFromHeader lit clock req = .ok ⟨false, keyId, scopes, sh, sig, t', 0⟩ := by
  have hparts : ∀ s ∈ clock.fmtDate t :: scopes ++ [lit.scopeSuffix], Clean s := by
    intro s hs
    simp at hs
    rcases hs with rfl | hs | rfl
    · exact hd
    · exact hsc s hs
    · exact hsuf
  have hscope : Field (scopeString lit clock t scopes) := Field.joinB (by decide) (fun s hs => (hparts s hs).field)
  have hP0 : Field (credPart keyId (scopeString lit clock t scopes)) :=
    credential_lit_field.append (hid.field.append (hscope.cons (by decide)))
  have hP1 := signedHeaders_lit_field.append hsh
  have hP2 := signature_lit_field.append hsig
  have nid : (47 : UInt8) ∉ keyId := fun h => (hid 47 h).2.2.1 rfl
  have e3 : splitOn 47 (keyId ++ 47 :: scopeString lit clock t scopes)
      = keyId :: (clock.fmtDate t :: scopes ++ [lit.scopeSuffix]) := by
    rw [splitOn_append _ nid]
    unfold scopeString
    rw [splitOn_joinB (by simp) (fun s hs h => (hparts s hs 47 h).2.2.1 rfl)]
  have hlen : ¬ (keyId :: (clock.fmtDate t :: scopes ++ [lit.scopeSuffix])).length < 3 := by
    simp only [List.length_cons, List.length_append, List.length_singleton]
    omega
  have hmid : midScopes (keyId :: (clock.fmtDate t :: scopes ++ [lit.scopeSuffix])) = scopes := by
    simp [midScopes]
  unfold initFromHeader
  rw [hauth]
  unfold fmtAuth
  -- `<alg> p0, p1, p2`: the split at the first space and at the commas gives back the three fields
  simp only [splitFirst_append _ halg, ne_eq, not_true_eq_false, if_false, splitOn_append _ hP0.comma,
    splitOn_append _ hP1.space_comma, splitOn_of_not_mem hP2.space_comma, trimSpace_clean hP0.ws,
    trimSpace_space_clean hP1.ws, trimSpace_space_clean hP2.ws]
  simp only [credPart, stripPrefix_append, e3, hlen, hdate, if_false, List.getD_cons_succ, List.getD_cons_zero, hpre,
    Bool.not_true, hparse, hmid, List.headD_cons]
  simp [hpre]

/-- what a successful `initFromHeader` has read: `<alg> p0,p1,p2` with the three `key=value` parts, and the date header -/
theorem initFromHeader_ok {lit : Literal} {clock : Clock} {req : Req} {ctx : Ctx} (h : initFromHeader lit clock req = .ok ctx) :
    ∃ alg rest p0 p1 p2 cred sig, splitFirst 32 (hget req.headers authHeader) = some (alg, rest) ∧ alg = lit.algorithmValue ∧
      splitOn 44 rest = [p0, p1, p2] ∧ stripPrefix (b "Credential=") (trimSpace p0) = some cred ∧
      stripPrefix (b "SignedHeaders=") (trimSpace p1) = some ctx.signedHeaders ∧
      stripPrefix (b "Signature=") (trimSpace p2) = some sig ∧
      hasPrefix (hget req.headers lit.date) ((splitOn 47 cred).getD 1 []) = true ∧
      clock.parseTime (hget req.headers lit.date) = some ctx.time ∧ ctx.keyId = (splitOn 47 cred).headD [] ∧
      ctx.presign = false := by
  unfold initFromHeader at h
  simp only at h
  split at h
  · cases h
  · rename_i alg rest hsf
    split at h
    · cases h
    · rename_i halg
      split at h
      · rename_i p0 p1 p2 hparts
        split at h
        · cases h
        · rename_i cred hcred
          split at h
          · cases h
          · split at h
            · cases h
            · rename_i sh hsh
              split at h
              · cases h
              · rename_i sig hsig
                split at h
                · cases h
                · rename_i hpre
                  split at h
                  · cases h
                  · rename_i t ht
                    cases h
                    exact ⟨alg, rest, p0, p1, p2, cred, sig, hsf, by simpa using halg, hparts, hcred, hsh, hsig,
                      by simpa using hpre, ht, rfl, rfl⟩
      · cases h

theorem initFromQuery_presign {lit : Literal} {clock : Clock} {req : Req} {ctx : Ctx} (h : initFromQuery lit clock req = .ok ctx) :
    ctx.presign = true := by
  unfold initFromQuery at h
  simp only at h
  repeat' split at h
  all_goals cases h
  rfl

theorem initFromSignedRequest_ok {lit : Literal} {clock : Clock} {req : Req} {ctx : Ctx}
    (h : initFromSignedRequest lit clock req = .ok ctx) :
    req.queryErr = false ∧
      (if hget req.headers authHeader ≠ [] then initFromHeader lit clock req else initFromQuery lit clock req) = .ok ctx := by
  unfold initFromSignedRequest initFromSignedRequestLax at h
  cases hq : req.queryErr with
  | true => simp [hq] at h
  | false => simpa [hq] using h

/-! ## canonical headers: verify side = sign side -/

/-- a header key as net/http produces it: canonical MIME form of a token, not `Host` -/
def KeyOK (k : Bytes) : Prop := canonKey (lower k) = k ∧ lower k ≠ hostHeader ∧ Clean (lower k)

/-- `http.Header` of a request read by net/http: distinct canonical keys -/
def HeaderOK (h : Header) : Prop := (h.map (·.1)).Nodup ∧ ∀ k ∈ h.map (·.1), KeyOK k

theorem HeaderOK_hset {h : Header} (n v : Bytes) (hok : HeaderOK h) (hn : KeyOK (canonKey n)) : HeaderOK (hset h n v) := by
  refine ⟨nodup_keys_setKey _ _ _ hok.1, ?_⟩
  intro k hk
  rcases keys_setKey_mem hk with rfl | hk
  · exact hn
  · exact hok.2 k hk

theorem canonKey_authHeader : canonKey authHeader = authHeader := by decide +kernel
theorem hostHeader_clean : Clean hostHeader := by unfold Clean; decide +kernel

theorem getHost_headers (req : Req) (h : Header) : getHost { req with headers := h } = getHost req := rfl

theorem signPairs_mem {cfg : Cfg} {req : Req} {p : Bytes × Bytes} (hp : p ∈ signPairs cfg req) :
    p = (hostHeader, getHost req) ∨
    ∃ k vs, (k, vs) ∈ req.headers ∧ isIgnored cfg k = false ∧ p = (lower k, canonValue vs) := by
  unfold signPairs at hp
  rw [mem_sortBy] at hp
  rcases List.mem_cons.mp hp with hp | hp
  · exact Or.inl hp
  · obtain ⟨e, he, rfl⟩ := List.mem_map.mp hp
    have := List.mem_filter.mp he
    exact Or.inr ⟨e.1, e.2, this.1, by simpa using this.2, rfl⟩

theorem host_mem_signPairs (cfg : Cfg) (req : Req) : (hostHeader, getHost req) ∈ signPairs cfg req := by
  unfold signPairs
  rw [mem_sortBy]
  exact List.mem_cons_self

theorem signPairs_names_clean {cfg : Cfg} {req : Req} (hok : HeaderOK req.headers) :
    ∀ p ∈ signPairs cfg req, Clean p.1 := by
  intro p hp
  rcases signPairs_mem hp with rfl | ⟨k, vs, hm, _, rfl⟩
  · exact hostHeader_clean
  · exact (hok.2 k (List.mem_map.mpr ⟨(k, vs), hm, rfl⟩)).2.2

theorem signedHeadersOf_clean {cfg : Cfg} {req : Req} (hok : HeaderOK req.headers) :
    Field (signedHeadersOf (signPairs cfg req)) := by
  refine Field.joinB (by decide) (fun s hs => ?_)
  obtain ⟨p, hp, rfl⟩ := List.mem_map.mp hs
  exact (signPairs_names_clean hok p hp).field

/-- What `Verify` rebuilds from the signed-header list of a request signed by `Sign` (Authorization header
added afterwards) is what `Sign` hashed. -/
theorem verifyLines_signPairs (cfg : Cfg) (req : Req) (v : Bytes) (hok : HeaderOK req.headers) :
    verifyLines { req with headers := hset req.headers authHeader v } (signedHeadersOf (signPairs cfg req))
      = (signPairs cfg req).map fun p => headerLine p.1 p.2 := by
  have hne : (signPairs cfg req).map (·.1) ≠ [] :=
    List.ne_nil_of_mem (List.mem_map_of_mem (host_mem_signPairs cfg req))
  have hsemi : ∀ s ∈ (signPairs cfg req).map (·.1), (59 : UInt8) ∉ s := by
    intro s hs h
    obtain ⟨p, hp, rfl⟩ := List.mem_map.mp hs
    exact (signPairs_names_clean hok p hp 59 h).2.2.2 rfl
  unfold verifyLines signedHeadersOf
  rw [splitOn_joinB hne hsemi, List.map_map]
  apply List.map_congr_left
  intro p hp
  simp only [Function.comp]
  rcases signPairs_mem hp with rfl | ⟨k, vs, hm, hig, rfl⟩
  · simp [getHost_headers]
  · have hk := hok.2 k (List.mem_map.mpr ⟨(k, vs), hm, rfl⟩)
    have hka : k ≠ authHeader := by
      intro e; subst e; simp [isIgnored] at hig
    simp only [hk.2.1, if_false, hk.1]
    congr 1
    simp only [hvals, hset, canonKey_authHeader, lookup_setKey_ne _ _ hka, lookup_of_mem hok.1 hm, Option.getD_some]

/-! ## hypotheses vocabulary of `verify_sign_complete` -/

/-- side conditions on the configured literals (all hold for `defaultLiteral`, see `defaultLiteral_ok`) -/
structure LitOK (lit : Literal) : Prop where
  alg : (32 : UInt8) ∉ lit.algorithmValue
  suffix : Clean lit.scopeSuffix
  date : KeyOK (canonKey lit.date)
  content : KeyOK (canonKey lit.contentSha256)
  dateNotAuth : canonKey lit.date ≠ authHeader

/-- contract of `time.Format` / `time.ParseInLocation` for the two layouts at signing time `t`:
the time string parses back to `t'` (= `t` truncated to the second), which formats identically;
the date string is a prefix of the time string and consists of digits. -/
structure ClockOK (clock : Clock) (t t' : Int) : Prop where
  parse : clock.parseTime (clock.fmtTime t) = some t'
  time : clock.fmtTime t' = clock.fmtTime t
  date : clock.fmtDate t' = clock.fmtDate t
  pre : hasPrefix (clock.fmtTime t) (clock.fmtDate t) = true
  clean : Clean (clock.fmtDate t)

theorem hashBodySign_spec (cfg : Cfg) (cr : Crypto) (h : Header) (body : Option Bytes)
    (hempty : cr.sha256hex [] = sha256Empty) (hnone : hget h cfg.lit.contentSha256 = [])
    (hok : HeaderOK h) (hl : KeyOK (canonKey cfg.lit.contentSha256)) :
    (hashBodySign cfg cr h body).1 = hashBodyVerify cfg cr (some (body.getD [])) ∧
    HeaderOK (hashBodySign cfg cr h body).2 := by
  unfold hashBodySign hashBodyVerify
  simp only [hnone, ne_eq, not_true_eq_false, if_false]
  by_cases he : cfg.excludeBody = true
  · simp [he, HeaderOK_hset _ _ hok hl]
  · cases body <;> simp [he, hok, hempty]

theorem fmtAuth_ne_nil (lit : Literal) (k s sh sig : Bytes) : fmtAuth lit k s sh sig ≠ [] := by
  simp [fmtAuth]

theorem canonQuery_none (lit : Literal) (clock : Clock) (t t' : Int) (s s' : Bytes) (q : Header) :
    canonQuery lit clock t s none q = canonQuery lit clock t' s' none q := rfl

theorem signature_congr (lit : Literal) (cr : Crypto) (clock : Clock) (secret : Bytes) (t t' : Int)
    (scopes : List Bytes) (creq : Bytes) (h1 : clock.fmtTime t' = clock.fmtTime t) (h2 : clock.fmtDate t' = clock.fmtDate t) :
    signature lit cr clock secret t' scopes creq = signature lit cr clock secret t scopes creq := by
  simp only [signature, deriveSigningKey, stringToSign, scopeString, h1, h2]

theorem verify_ok_iff (cfg : Cfg) (cr : Crypto) (clock : Clock) (now : Int) (req : Req) (body : Option Bytes) :
    verify cfg cr clock now req body = .ok () ↔
    ∃ ctx secret, initFromSignedRequest cfg.lit clock req = .ok ctx ∧
      (cfg.ttl > 0 → -cfg.ttl ≤ now - ctx.time ∧ now - ctx.time ≤ cfg.ttl) ∧
      (ctx.presign = true → now - ctx.time ≤ ctx.expire) ∧
      storeGet ctx.keyId cfg.store = some secret ∧
      ctx.signature = expectedSignature cfg cr clock ctx secret req body := by
  unfold verify
  cases hi : initFromSignedRequest cfg.lit clock req with
  | error e => simp
  | ok ctx =>
    simp only [Except.ok.injEq, exists_and_left, exists_eq_left']
    by_cases h1 : cfg.ttl > 0 ∧ (now - ctx.time < -cfg.ttl ∨ now - ctx.time > cfg.ttl)
    · rw [if_pos h1]
      refine ⟨fun h => (nomatch h), ?_⟩
      rintro ⟨h, _⟩
      have := h h1.1
      omega
    rw [if_neg h1]
    by_cases h2 : ctx.presign = true ∧ now - ctx.time > ctx.expire
    · rw [if_pos h2]
      refine ⟨fun h => (nomatch h), ?_⟩
      rintro ⟨_, h, _⟩
      have := h h2.1
      omega
    rw [if_neg h2]
    have a1 : cfg.ttl > 0 → -cfg.ttl ≤ now - ctx.time ∧ now - ctx.time ≤ cfg.ttl := by omega
    have a2 : ctx.presign = true → now - ctx.time ≤ ctx.expire := fun h => by
      have : ¬ (now - ctx.time > ctx.expire) := fun hc => h2 ⟨h, hc⟩
      omega
    cases hs : storeGet ctx.keyId cfg.store with
    | none => simp
    | some secret =>
      by_cases h3 : ctx.signature = expectedSignature cfg cr clock ctx secret req body
      · simpa [h3] using ⟨a1, a2⟩
      · simp [h3]

/-- a request whose Authorization header is `fmtAuth … sh sig`, with `sig` the signature that `Verify` recomputes, is accepted -/
theorem verify_of_fmtAuth (cfg : Cfg) (cr : Crypto) (clock : Clock) (now t t' : Int) (keyId secret : Bytes)
    (scopes : List Bytes) (req : Req) (body : Option Bytes) (sh sig : Bytes)
    (hstore : storeGet keyId cfg.store = some secret)
    (hclock : ClockOK clock t t') (hlit : LitOK cfg.lit)
    (httl : cfg.ttl > 0 → -cfg.ttl ≤ now - t' ∧ now - t' ≤ cfg.ttl)
    (hid : Clean keyId) (hsc : ∀ s ∈ scopes, Clean s)
    (hauth : hget req.headers authHeader = fmtAuth cfg.lit keyId (scopeString cfg.lit clock t scopes) sh sig)
    (hdate : hget req.headers cfg.lit.date = clock.fmtTime t)
    (hsh : Field sh) (hsig : Field sig)
    (hq : req.queryErr = false)
    (hexp : expectedSignature cfg cr clock ⟨false, keyId, scopes, sh, sig, t', 0⟩ secret req body = sig) :
    verify cfg cr clock now req body = .ok () := by
  have hinit := initFromHeader_fmtAuth cfg.lit clock req keyId scopes sh sig t t' hauth hdate hlit.alg hid hsc hlit.suffix
    hclock.clean hsh hsig hclock.pre hclock.parse
  refine (verify_ok_iff cfg cr clock now req body).mpr
    ⟨⟨false, keyId, scopes, sh, sig, t', 0⟩, secret, ?_, httl, ?_, hstore, hexp.symm⟩
  · unfold initFromSignedRequest initFromSignedRequestLax
    simp only [hq, Bool.false_eq_true, if_false, hauth, ne_eq, fmtAuth_ne_nil, not_false_eq_true, if_true, hinit]
  · intro h
    cases h

theorem verify_signWith (cfg : Cfg) (cr : Crypto) (clock : Clock) (now t t' : Int) (keyId secret : Bytes)
    (scopes : List Bytes) (req2 : Req) (body : Option Bytes)
    (hstore : storeGet keyId cfg.store = some secret)
    (hclock : ClockOK clock t t') (hlit : LitOK cfg.lit)
    (httl : cfg.ttl > 0 → -cfg.ttl ≤ now - t' ∧ now - t' ≤ cfg.ttl)
    (hid : Clean keyId) (hsc : ∀ s ∈ scopes, Clean s)
    (hok : HeaderOK req2.headers) (hdate : hget req2.headers cfg.lit.date = clock.fmtTime t)
    (hq : req2.queryErr = false) :
    verify cfg cr clock now (signWith cfg cr clock keyId secret t scopes req2 (hashBodyVerify cfg cr body)) body = .ok () := by
  generalize hcreq : canonicalRequest req2.method (canonURI req2.epath)
    (canonQuery cfg.lit clock t (scopeString cfg.lit clock t scopes) none req2.query).1
    (canonHeadersOf (signPairs cfg req2)) (signedHeadersOf (signPairs cfg req2)) (hashBodyVerify cfg cr body) = creq
  have hsigned : signWith cfg cr clock keyId secret t scopes req2 (hashBodyVerify cfg cr body) =
      { req2 with headers := hset req2.headers authHeader (fmtAuth cfg.lit keyId (scopeString cfg.lit clock t scopes)
        (signedHeadersOf (signPairs cfg req2)) (signature cfg.lit cr clock secret t scopes creq)) } := by
    simp only [signWith, hcreq]
  rw [hsigned]
  refine verify_of_fmtAuth cfg cr clock now t t' keyId secret scopes _ body _ _ hstore hclock hlit httl hid hsc
    (hget_hset_same _ _ _) ?_ (signedHeadersOf_clean hok) ?_ hq ?_
  · rw [hget_hset_ne _ _ (by rw [canonKey_authHeader]; exact hlit.dateNotAuth), hdate]
  · intro c hc
    have := Sha256.hex_clean _ c hc
    exact ⟨this.1, this.2.1⟩
  · -- what `Verify` rebuilds is what `Sign` hashed
    unfold expectedSignature
    simp only [Bool.false_eq_true, if_false]
    rw [verifyLines_signPairs cfg req2 _ hok, signature_congr _ _ _ _ _ _ _ _ hclock.time hclock.date,
      canonQuery_none cfg.lit clock t' t _ (scopeString cfg.lit clock t scopes)]
    unfold canonHeadersOf at hcreq
    rw [hcreq]

/-! ## LF-freeness of the canonical pieces, so that the LF-separated canonical request can be cut apart again -/

theorem hexUpper_fin : ∀ i : Fin 16, hexUpper i.val ≠ 10 := by decide +kernel

theorem pct_no_lf (c : UInt8) : (10 : UInt8) ∉ pct c := by
  have hc := c.toNat_lt
  simp only [pct, List.mem_cons, List.not_mem_nil, or_false, not_or]
  refine ⟨by decide, ?_, ?_⟩
  · exact fun h => hexUpper_fin ⟨c.toNat / 16, by omega⟩ h.symm
  · exact fun h => hexUpper_fin ⟨c.toNat % 16, by omega⟩ h.symm

theorem unreserved_ne_lf {c : UInt8} (h : isUnreserved c = true) : c ≠ 10 := by
  intro e; subst e; revert h; decide

theorem canonURI_no_lf (p : Bytes) : (10 : UInt8) ∉ canonURI p := by
  unfold canonURI
  split
  · decide
  · intro h
    obtain ⟨l, hl, hm⟩ := List.mem_flatten.mp h
    obtain ⟨c, _, rfl⟩ := List.mem_map.mp hl
    split at hm
    · rename_i hu
      simp only [List.mem_singleton] at hm
      subst hm
      revert hu; decide
    · exact pct_no_lf c hm

theorem queryEscape_no_lf (s : Bytes) : (10 : UInt8) ∉ queryEscape s := by
  unfold queryEscape
  intro h
  obtain ⟨l, hl, hm⟩ := List.mem_flatten.mp h
  obtain ⟨c, _, rfl⟩ := List.mem_map.mp hl
  split at hm
  · rename_i hu
    simp only [List.mem_singleton] at hm
    exact unreserved_ne_lf hu hm.symm
  · split at hm
    · simp at hm
    · exact pct_no_lf c hm

theorem encode_no_lf (q : Header) : (10 : UInt8) ∉ encode q := by
  unfold encode
  intro h
  rcases mem_joinB h with h | ⟨s, hs, hc⟩
  · exact absurd h (by decide)
  · obtain ⟨l, hl, hm⟩ := List.mem_flatten.mp hs
    obtain ⟨e, _, rfl⟩ := List.mem_map.mp hl
    obtain ⟨v, _, rfl⟩ := List.mem_map.mp hm
    rcases List.mem_append.mp hc with hc | hc
    · exact queryEscape_no_lf _ hc
    · rcases List.mem_cons.mp hc with hc | hc
      · exact absurd hc (by decide)
      · exact queryEscape_no_lf _ hc

theorem mem_trimLeft {p : UInt8 → Bool} {c : UInt8} : ∀ {s : Bytes}, c ∈ trimLeft p s → c ∈ s
  | [], h => by simp [trimLeft] at h
  | x :: r, h => by
    simp only [trimLeft] at h
    split at h
    · exact List.mem_cons_of_mem _ (mem_trimLeft h)
    · exact h

theorem mem_trimRight {p : UInt8 → Bool} {c : UInt8} {s : Bytes} (h : c ∈ trimRight p s) : c ∈ s := by
  unfold trimRight at h
  have := mem_trimLeft (List.mem_reverse.mp h)
  exact List.mem_reverse.mp this

theorem mem_collapse {c : UInt8} : ∀ {s : Bytes}, c ∈ collapse s → c ∈ s
  | [], h => by simp [collapse] at h
  | [x], h => by simpa [collapse] using h
  | x :: y :: r, h => by
    simp only [collapse] at h
    split at h
    · exact List.mem_cons_of_mem _ (mem_collapse h)
    · rcases List.mem_cons.mp h with h | h
      · simp [h]
      · exact List.mem_cons_of_mem _ (mem_collapse h)

theorem canonValue_no_lf {vs : List Bytes} (h : ∀ v ∈ vs, (10 : UInt8) ∉ v) : (10 : UInt8) ∉ canonValue vs := by
  unfold canonValue
  intro hm
  rcases mem_joinB hm with hm | ⟨s, hs, hc⟩
  · exact absurd hm (by decide)
  · obtain ⟨v, hv, rfl⟩ := List.mem_map.mp hs
    exact h v hv (mem_trimLeft (mem_trimRight (mem_collapse hc)))

theorem lookup_mem {k : Bytes} {vs : List Bytes} : ∀ {h : Header}, lookup k h = some vs → (k, vs) ∈ h
  | [], e => by simp [lookup] at e
  | (k0, v0) :: r, e => by
    simp only [lookup] at e
    split at e
    · rename_i hk; simp at e; subst hk; subst e; simp
    · exact List.mem_cons_of_mem _ (lookup_mem e)

theorem getHost_no_lf {req : Req} (h1 : (10 : UInt8) ∉ req.host) (h2 : (10 : UInt8) ∉ req.urlHost) :
    (10 : UInt8) ∉ getHost req := by
  unfold getHost
  have hh : (10 : UInt8) ∉ (if req.host = [] then req.urlHost else req.host) := by split <;> assumption
  generalize (if req.host = [] then req.urlHost else req.host) = host at hh
  simp only
  split
  · simp
  · split
    · split
      · exact fun h => hh (List.mem_of_mem_take h)
      · exact hh
    · exact hh

theorem mem_splitOn {c d : UInt8} : ∀ {x s : Bytes}, s ∈ splitOn c x → d ∈ s → d ∈ x
  | [], s, hs, hd => by simp [splitOn] at hs; subst hs; simp at hd
  | y :: r, s, hs, hd => by
    simp only [splitOn] at hs
    split at hs
    · rcases List.mem_cons.mp hs with hs | hs
      · subst hs; simp at hd
      · exact List.mem_cons_of_mem _ (mem_splitOn hs hd)
    · split at hs
      · simp at hs; subst hs; simp at hd; simp [hd]
      · rename_i hh tt heq
        rcases List.mem_cons.mp hs with hs | hs
        · subst hs
          rcases List.mem_cons.mp hd with hd | hd
          · simp [hd]
          · exact List.mem_cons_of_mem _ (mem_splitOn (x := r) (s := hh) (by rw [heq]; simp) hd)
        · exact List.mem_cons_of_mem _ (mem_splitOn (x := r) (s := s) (by rw [heq]; exact List.mem_cons_of_mem _ hs) hd)

/-- what net/http guarantees about a parsed request: no line feed in method, host and header values -/
structure NoLF (req : Req) : Prop where
  method : (10 : UInt8) ∉ req.method
  host : (10 : UInt8) ∉ req.host
  urlHost : (10 : UInt8) ∉ req.urlHost
  values : ∀ e ∈ req.headers, ∀ v ∈ e.2, (10 : UInt8) ∉ v

theorem lineBody_no_lf {req : Req} (h : NoLF req) {name : Bytes} (hn : (10 : UInt8) ∉ name) :
    (10 : UInt8) ∉ lineBody req name := by
  unfold lineBody
  intro hm
  rcases List.mem_append.mp hm with hm | hm
  · exact hn hm
  · rcases List.mem_cons.mp hm with hm | hm
    · exact absurd hm (by decide)
    · split at hm
      · exact getHost_no_lf h.host h.urlHost hm
      · refine canonValue_no_lf ?_ hm
        intro v hv
        unfold hvals at hv
        cases hl : lookup (canonKey name) req.headers with
        | none => simp [hl] at hv
        | some vs =>
          simp [hl] at hv
          exact h.values _ (lookup_mem hl) v hv

theorem append_lf_inj {a a' r r' : Bytes} (ha : (10 : UInt8) ∉ a) (ha' : (10 : UInt8) ∉ a')
    (h : a ++ 10 :: r = a' ++ 10 :: r') : a = a' ∧ r = r' := by
  have h1 := splitFirst_append (c := 10) r ha
  have h2 := splitFirst_append (c := 10) r' ha'
  rw [h] at h1
  rw [h1] at h2
  simpa using h2

theorem verifyLines_eq (req : Req) (sh : Bytes) :
    verifyLines req sh = ((splitOn 59 sh).map (lineBody req)).map (· ++ [10]) := by
  unfold verifyLines
  rw [List.map_map]
  apply List.map_congr_left
  intro n _
  simp [headerLine, lineBody]

/-- header lines: a block of LF-terminated, LF-free, non-empty lines followed by an empty line determines the lines -/
theorem bodies_inj : ∀ (L1 L2 : List Bytes) (x1 x2 : Bytes),
    (∀ l ∈ L1, (10 : UInt8) ∉ l ∧ l ≠ []) → (∀ l ∈ L2, (10 : UInt8) ∉ l ∧ l ≠ []) →
    (L1.map (· ++ [10])).flatten ++ 10 :: x1 = (L2.map (· ++ [10])).flatten ++ 10 :: x2 → L1 = L2 ∧ x1 = x2
  | [], [], x1, x2, _, _, h => by simpa using h
  | [], l :: L, x1, x2, _, h2, h => by
    simp only [List.map_nil, List.flatten_nil, List.nil_append, List.map_cons, List.flatten_cons, List.append_assoc,
      List.singleton_append] at h
    exact absurd (append_lf_inj (a := []) (by simp) (h2 l (by simp)).1 h).1.symm (h2 l (by simp)).2
  | l :: L, [], x1, x2, h1, _, h => by
    simp only [List.map_nil, List.flatten_nil, List.nil_append, List.map_cons, List.flatten_cons, List.append_assoc,
      List.singleton_append] at h
    exact absurd (append_lf_inj (a' := []) (h1 l (by simp)).1 (by simp) h).1 (h1 l (by simp)).2
  | l1 :: L1, l2 :: L2, x1, x2, h1, h2, h => by
    simp only [List.map_cons, List.flatten_cons, List.append_assoc, List.singleton_append] at h
    obtain ⟨e1, e2⟩ := append_lf_inj (h1 l1 (by simp)).1 (h2 l2 (by simp)).1 h
    obtain ⟨e3, e4⟩ := bodies_inj L1 L2 x1 x2 (fun l hl => h1 l (by simp [hl])) (fun l hl => h2 l (by simp [hl])) e2
    exact ⟨by rw [e1, e3], e4⟩

theorem lineBody_ne_nil (req : Req) (name : Bytes) : lineBody req name ≠ [] := by
  unfold lineBody
  intro h
  have := congrArg List.length h
  simp at this

/-- what two canonical requests built under possibly **different** signing contexts agree on -/
theorem canonical_injective_cross (r1 r2 : Req) (cq1 cq2 sh1 sh2 bh1 bh2 : Bytes)
    (n1 : NoLF r1) (n2 : NoLF r2) (q1 : (10 : UInt8) ∉ cq1) (q2 : (10 : UInt8) ∉ cq2)
    (s1 : (10 : UInt8) ∉ sh1) (s2 : (10 : UInt8) ∉ sh2)
    (h : canonicalRequest r1.method (canonURI r1.epath) cq1 (verifyLines r1 sh1).flatten sh1 bh1
       = canonicalRequest r2.method (canonURI r2.epath) cq2 (verifyLines r2 sh2).flatten sh2 bh2) :
    r1.method = r2.method ∧ canonURI r1.epath = canonURI r2.epath ∧ cq1 = cq2 ∧ sh1 = sh2 ∧
      (splitOn 59 sh1).map (lineBody r1) = (splitOn 59 sh1).map (lineBody r2) ∧ bh1 = bh2 := by
  unfold canonicalRequest at h
  obtain ⟨e1, h⟩ := append_lf_inj n1.method n2.method h
  obtain ⟨e2, h⟩ := append_lf_inj (canonURI_no_lf _) (canonURI_no_lf _) h
  obtain ⟨e3, h⟩ := append_lf_inj q1 q2 h
  rw [verifyLines_eq, verifyLines_eq] at h
  have hb : ∀ (r : Req) (n : NoLF r) (sh : Bytes), (10 : UInt8) ∉ sh →
      ∀ l ∈ (splitOn 59 sh).map (lineBody r), (10 : UInt8) ∉ l ∧ l ≠ [] := by
    intro r n sh hsh l hl
    obtain ⟨nm, hnm, rfl⟩ := List.mem_map.mp hl
    exact ⟨lineBody_no_lf n (fun hm => hsh (mem_splitOn hnm hm)), lineBody_ne_nil r nm⟩
  obtain ⟨e4, h⟩ := bodies_inj _ _ _ _ (hb r1 n1 sh1 s1) (hb r2 n2 sh2 s2) h
  obtain ⟨e5, e6⟩ := append_lf_inj s1 s2 h
  subst e5
  exact ⟨e1, e2, e3, rfl, e4, e6⟩

theorem covered_query_no_lf (cfg : Cfg) (clock : Clock) (ctx : Ctx) (req : Req) :
    (10 : UInt8) ∉ (covered cfg clock ctx req).2.2.1 :=
  encode_no_lf _

/-- the newline-separated canonical request determines method, canonical URI,
canonical query, every signed header line and the body hash, for requests without LF in method / host /
header values and an LF-free signed-header list. -/
theorem canonical_injective (cfg : Cfg) (clock : Clock) (ctx : Ctx) (r1 r2 : Req) (bh1 bh2 : Bytes)
    (n1 : NoLF r1) (n2 : NoLF r2) (hsh : (10 : UInt8) ∉ ctx.signedHeaders)
    (h : canonicalRequest r1.method (canonURI r1.epath) (covered cfg clock ctx r1).2.2.1
          (verifyLines r1 ctx.signedHeaders).flatten ctx.signedHeaders bh1
       = canonicalRequest r2.method (canonURI r2.epath) (covered cfg clock ctx r2).2.2.1
          (verifyLines r2 ctx.signedHeaders).flatten ctx.signedHeaders bh2) :
    covered cfg clock ctx r1 = covered cfg clock ctx r2 ∧ bh1 = bh2 := by
  obtain ⟨e1, e2, e3, _, e4, e5⟩ := canonical_injective_cross r1 r2 _ _ _ _ bh1 bh2 n1 n2
    (covered_query_no_lf cfg clock ctx r1) (covered_query_no_lf cfg clock ctx r2) hsh hsh h
  refine ⟨?_, e5⟩
  simp only [covered] at e3 ⊢
  rw [e1, e2, e3, e4]

/-- the canonical request that `Verify` rebuilds and hashes for a parsed signing context -/
abbrev verifyRequest (cfg : Cfg) (cr : Crypto) (clock : Clock) (ctx : Ctx) (req : Req) (body : Option Bytes) : Bytes :=
  canonicalRequest req.method (canonURI req.epath) (covered cfg clock ctx req).2.2.1
    (verifyLines req ctx.signedHeaders).flatten ctx.signedHeaders (hashBodyVerify cfg cr body)

theorem stringToSign_inj {lit : Literal} {clock : Clock} {t : Int} {s x y : Bytes}
    (h : stringToSign lit clock t s x = stringToSign lit clock t s y) : x = y := by
  unfold stringToSign at h
  have h := (List.cons.inj (List.append_cancel_left h)).2
  have h := (List.cons.inj (List.append_cancel_left h)).2
  exact (List.cons.inj (List.append_cancel_left h)).2

/-- two requests accepted under the same signing context have the same canonical request, given an
injective hash and HMAC (idealised collision-freeness, explicit hypotheses) -/
theorem expectedSignature_inj (cfg : Cfg) (cr : Crypto) (clock : Clock) (ctx : Ctx) (secret : Bytes) (r1 r2 : Req)
    (b1 b2 : Option Bytes)
    (hH : Function.Injective cr.sha256hex) (hM : ∀ k, Function.Injective (cr.hmac k))
    (h : expectedSignature cfg cr clock ctx secret r1 b1 = expectedSignature cfg cr clock ctx secret r2 b2) :
    verifyRequest cfg cr clock ctx r1 b1 = verifyRequest cfg cr clock ctx r2 b2 := by
  unfold expectedSignature signature at h
  exact hH (stringToSign_inj (hM _ (Sha256.hex_injective h)))

/-! ## collision-extraction form: no injectivity hypothesis

`Function.Injective sha256hex` is false for every real hash, so theorems that assume it say nothing about the judge's own
`leanCrypto`. The statements below conclude instead: *either* the covered parts agree *or* an explicit collision of the hash /
of the MAC exists — true for every `Crypto`, SHA-256 included, where exhibiting the collision is the (believed infeasible) task. -/

def ShaCollision (cr : Crypto) : Prop := ∃ x y, x ≠ y ∧ cr.sha256hex x = cr.sha256hex y

def HmacCollision (cr : Crypto) : Prop := ∃ k k' x y, (k ≠ k' ∨ x ≠ y) ∧ cr.hmac k x = cr.hmac k' y

theorem no_collision_of_injective (cr : Crypto) (hH : Function.Injective cr.sha256hex) : ¬ ShaCollision cr := by
  rintro ⟨x, y, hne, h⟩
  exact hne (hH h)

theorem sha_eq_or_collision (cr : Crypto) (x y : Bytes) (h : cr.sha256hex x = cr.sha256hex y) : x = y ∨ ShaCollision cr := by
  by_cases e : x = y
  · exact Or.inl e
  · exact Or.inr ⟨x, y, e, h⟩

theorem hmac_eq_or_collision (cr : Crypto) (k k' x y : Bytes) (h : cr.hmac k x = cr.hmac k' y) :
    (k = k' ∧ x = y) ∨ HmacCollision cr := by
  by_cases e : k = k' ∧ x = y
  · exact Or.inl e
  · refine Or.inr ⟨k, k', x, y, ?_, h⟩
    by_cases ek : k = k'
    · exact Or.inr (fun ex => e ⟨ek, ex⟩)
    · exact Or.inl ek

/-- equal recomputed signatures: equal signing keys and strings to sign, or two (key, message) pairs with the same MAC -/
theorem expectedSignature_eq_cases (cfg : Cfg) (cr : Crypto) (clock : Clock) (ctx1 ctx2 : Ctx) (sec1 sec2 : Bytes)
    (r1 r2 : Req) (b1 b2 : Option Bytes)
    (h : expectedSignature cfg cr clock ctx1 sec1 r1 b1 = expectedSignature cfg cr clock ctx2 sec2 r2 b2) :
    (deriveSigningKey cfg.lit cr clock sec1 ctx1.time ctx1.scopes = deriveSigningKey cfg.lit cr clock sec2 ctx2.time ctx2.scopes ∧
     stringToSign cfg.lit clock ctx1.time (scopeString cfg.lit clock ctx1.time ctx1.scopes)
        (cr.sha256hex (verifyRequest cfg cr clock ctx1 r1 b1)) =
      stringToSign cfg.lit clock ctx2.time (scopeString cfg.lit clock ctx2.time ctx2.scopes)
        (cr.sha256hex (verifyRequest cfg cr clock ctx2 r2 b2)))
    ∨ HmacCollision cr := by
  unfold expectedSignature signature at h
  exact hmac_eq_or_collision cr _ _ _ _ (Sha256.hex_injective h)

theorem expectedSignature_eq_or_collision (cfg : Cfg) (cr : Crypto) (clock : Clock) (ctx : Ctx) (secret : Bytes) (r1 r2 : Req)
    (b1 b2 : Option Bytes)
    (h : expectedSignature cfg cr clock ctx secret r1 b1 = expectedSignature cfg cr clock ctx secret r2 b2) :
    verifyRequest cfg cr clock ctx r1 b1 = verifyRequest cfg cr clock ctx r2 b2 ∨ ShaCollision cr ∨ HmacCollision cr := by
  rcases expectedSignature_eq_cases cfg cr clock ctx ctx secret secret r1 r2 b1 b2 h with ⟨_, hs⟩ | hc
  · rcases sha_eq_or_collision cr _ _ (stringToSign_inj hs) with e | hc
    · exact Or.inl e
    · exact Or.inr (Or.inl hc)
  · exact Or.inr (Or.inr hc)

/-- **different** signing contexts: equal recomputed signatures give equal time string, scope string, signing key and
canonical request — or a collision. `hclk`, `hs1`, `hs2`: the time string and the scope strings are LF-free (true for
`time.Format` with the layout `20060102T150405Z`; for the scope in header mode by `NoLF`). -/
theorem expectedSignature_cross_or_collision (cfg : Cfg) (cr : Crypto) (clock : Clock) (ctx1 ctx2 : Ctx) (sec1 sec2 : Bytes)
    (r1 r2 : Req) (b1 b2 : Option Bytes)
    (hclk : ∀ t, (10 : UInt8) ∉ clock.fmtTime t)
    (hs1 : (10 : UInt8) ∉ scopeString cfg.lit clock ctx1.time ctx1.scopes)
    (hs2 : (10 : UInt8) ∉ scopeString cfg.lit clock ctx2.time ctx2.scopes)
    (h : expectedSignature cfg cr clock ctx1 sec1 r1 b1 = expectedSignature cfg cr clock ctx2 sec2 r2 b2) :
    (clock.fmtTime ctx1.time = clock.fmtTime ctx2.time ∧
     scopeString cfg.lit clock ctx1.time ctx1.scopes = scopeString cfg.lit clock ctx2.time ctx2.scopes ∧
     deriveSigningKey cfg.lit cr clock sec1 ctx1.time ctx1.scopes = deriveSigningKey cfg.lit cr clock sec2 ctx2.time ctx2.scopes ∧
     verifyRequest cfg cr clock ctx1 r1 b1 = verifyRequest cfg cr clock ctx2 r2 b2)
    ∨ ShaCollision cr ∨ HmacCollision cr := by
  rcases expectedSignature_eq_cases cfg cr clock ctx1 ctx2 sec1 sec2 r1 r2 b1 b2 h with ⟨hk, hs⟩ | hc
  · unfold stringToSign at hs
    have hs := (List.cons.inj (List.append_cancel_left hs)).2
    obtain ⟨et, hs⟩ := append_lf_inj (hclk _) (hclk _) hs
    obtain ⟨es, hs⟩ := append_lf_inj hs1 hs2 hs
    rcases sha_eq_or_collision cr _ _ hs with e | hc
    · exact Or.inl ⟨et, es, hk, e⟩
    · exact Or.inr (Or.inl hc)
  · exact Or.inr (Or.inr hc)

/-! ## the parser contract `NoLF`: checked per case by the judge, and what it rests on -/

theorem splitOn_no_sep {c : UInt8} : ∀ {x s : Bytes}, s ∈ splitOn c x → c ∉ s
  | [], s, hs => by
    simp only [splitOn, List.mem_singleton] at hs
    subst hs; simp
  | y :: r, s, hs => by
    simp only [splitOn] at hs
    by_cases hy : y = c
    · simp only [hy, if_true, List.mem_cons] at hs
      rcases hs with rfl | hs
      · simp
      · exact splitOn_no_sep hs
    · simp only [hy, if_false] at hs
      cases heq : splitOn c r with
      | nil => exact absurd heq (splitOn_ne_nil c r)
      | cons hh t =>
        rw [heq] at hs
        simp only [List.mem_cons] at hs
        have hmem : hh ∈ splitOn c r := by rw [heq]; simp
        rcases hs with rfl | hs
        · intro hm
          rcases List.mem_cons.mp hm with e | hm
          · exact hy e.symm
          · exact splitOn_no_sep hmem hm
        · exact splitOn_no_sep (by rw [heq]; exact List.mem_cons_of_mem _ hs)

theorem mem_trimSpace {c : UInt8} {s : Bytes} (h : c ∈ trimSpace s) : c ∈ s :=
  mem_trimLeft (mem_trimRight h)

/-- header mode: the signed-header list is cut out of the Authorization header value, so it is LF-free for a `NoLF` request
(the hypothesis `hsh` of `tamper_rejected` is needed for presigned URLs only, where it is a URL-decoded query value) -/
theorem signedHeaders_no_lf_header_mode {lit : Literal} {clock : Clock} {req : Req} {ctx : Ctx}
    (h : initFromHeader lit clock req = .ok ctx) (n : NoLF req) : (10 : UInt8) ∉ ctx.signedHeaders := by
  have hv : (10 : UInt8) ∉ hget req.headers authHeader := by
    unfold hget hvals
    cases hl : lookup (canonKey authHeader) req.headers with
    | none => simp
    | some vs =>
      cases vs with
      | nil => simp
      | cons v r => simpa using n.values _ (lookup_mem hl) v (by simp)
  obtain ⟨alg, rest, p0, p1, p2, cred, sig, hsf, _, hparts, _, hsh, _⟩ := initFromHeader_ok h
  have hrest : (10 : UInt8) ∉ rest := by
    obtain ⟨e, _⟩ := splitFirst_eq_some.mp hsf
    intro hm
    exact hv (by rw [e]; simp [hm])
  have hp1 : (10 : UInt8) ∉ p1 := fun hm => hrest (mem_splitOn (by rw [hparts]; simp) hm)
  intro hm
  exact hp1 (mem_trimSpace (by rw [stripPrefix_eq_some.mp hsh]; exact List.mem_append_right _ hm))

end EgVerif.Signer
