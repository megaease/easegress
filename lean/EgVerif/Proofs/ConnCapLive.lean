import EgVerif.Proofs.ConnCap
/-!
# C17: a parked shrink is applied as soon as enough connections have closed

Two facts about the queue beyond `CapInv`: shrink adjustments parked in the weighted semaphore's queue have a
positive weight (`AdjPos`), and whoever is first in the queue does not fit (`HeadBlocked`). With them, a
non-empty queue means that the carved-out capacity is used up (`full_of_waiting`), which is what the snapshot
specification of the judges asks for.
-/
namespace EgVerif.ConnCap

def AdjPos (c : Cap) : Prop := ∀ w ∈ c.waiters, w.kind = WKind.adj → 0 < w.n

/-- x/sync's queue discipline: whoever is first in the queue does not fit (otherwise `notifyWaiters` /
the fast path would have granted it) -/
def HeadBlocked (c : Cap) : Prop := ∀ w rest, c.waiters = w :: rest → c.size - c.cur < w.n

theorem notify_headBlocked (ws : List Waiter) (c : Cap) : HeadBlocked (notify c ws) := by
  fun_induction notify c ws with
  | case1 => exact nofun
  | case2 c v r hno =>
    intro w rest h
    cases h
    exact hno
  | case3 c v r _ ih => exact ih

theorem semAcquire_queue {c : Cap} (h : AdjPos c ∧ HeadBlocked c) {v : Waiter} (hv : v.kind = WKind.adj → 0 < v.n) :
    AdjPos (semAcquire c v) ∧ HeadBlocked (semAcquire c v) := by
  refine ⟨fun w hw hk => ?_, ?_⟩
  · rcases semAcquire_waiters_sub c v w hw with h1 | h1
    · exact h.1 w h1 hk
    · exact h1 ▸ hv (h1 ▸ hk)
  · by_cases he : c.waiters = []
    · rw [semAcquire_of_nil he]; exact notify_headBlocked _ _
    · rw [semAcquire_of_ne he]
      -- the head of `c.waiters ++ [v]` is the head of `c.waiters`
      obtain ⟨u, r, hc⟩ := List.exists_cons_of_ne_nil he
      intro w rest hw
      change c.waiters ++ [v] = w :: rest at hw
      rw [hc, List.cons_append] at hw
      cases hw
      exact h.2 u r hc

theorem queue_step {c c' : Cap} {a : Act} (h : AdjPos c ∧ HeadBlocked c) (hs : Step c a c') :
    AdjPos c' ∧ HeadBlocked c' := by
  cases hs with
  | acquire id => exact semAcquire_queue h (fun hk => nomatch hk)
  | shrink id d rest _ hneg =>
    exact semAcquire_queue (c := { c with pending := rest }) h (fun _ => Int.neg_pos_of_neg hneg)
  | acceptFail | close | grow => exact ⟨fun w hw => h.1 w (notify_waiters_sub _ _ w hw), notify_headBlocked _ _⟩
  | acceptDone | reclose | halfClose | setMax | skip => exact h

theorem adjSum_le_cons {v : Waiter} (hv : v.kind = WKind.adj → 0 < v.n) (r : List Waiter) :
    adjSum r ≤ adjSum (v :: r) := by
  cases hk : v.kind with
  | unit => rw [adjSum_cons_unit hk]; exact Int.le_refl _
  | adj => rw [adjSum_cons_adj hk]; exact Int.le_add_of_nonneg_left (Int.le_of_lt (hv hk))

theorem adjSum_nonneg {ws : List Waiter} (hpos : ∀ w ∈ ws, w.kind = WKind.adj → 0 < w.n) : 0 ≤ adjSum ws := by
  induction ws with
  | nil => exact Int.le_refl 0
  | cons v r ih =>
    exact Int.le_trans (ih fun w hw => hpos w (List.mem_cons_of_mem _ hw))
      (adjSum_le_cons (hpos v (List.mem_cons_self ..)) r)

theorem le_adjSum_of_mem {ws : List Waiter} (hpos : ∀ w ∈ ws, w.kind = WKind.adj → 0 < w.n) {w : Waiter}
    (hw : w ∈ ws) (hk : w.kind = WKind.adj) : w.n ≤ adjSum ws := by
  induction ws with
  | nil => cases hw
  | cons v r ih =>
    have hr : ∀ x ∈ r, x.kind = WKind.adj → 0 < x.n := fun x hx => hpos x (List.mem_cons_of_mem _ hx)
    rcases List.mem_cons.mp hw with e | e
    · rw [← e, adjSum_cons_adj hk]
      exact Int.le_add_of_nonneg_right (adjSum_nonneg hr)
    · exact Int.le_trans (ih hr e) (adjSum_le_cons (hpos v (List.mem_cons_self ..)) r)

/-- `notify` only grants, and a grant only lowers the carved-out capacity (shrink weights are positive) -/
theorem notify_effCap_le (ws : List Waiter) (c : Cap) (hpos : ∀ w ∈ ws, w.kind = WKind.adj → 0 < w.n) :
    (notify c ws).effCap ≤ c.effCap := by
  fun_induction notify c ws with
  | case1 | case2 => exact Int.le_refl _
  | case3 c v r _ ih =>
    refine Int.le_trans (ih fun w hw => hpos w (List.mem_cons_of_mem _ hw)) ?_
    cases hk : v.kind with
    | unit => rw [grant_unit hk]; exact Int.le_refl _
    | adj => rw [grant_adj hk]; exact Int.sub_le_self _ (Int.le_of_lt (hpos v (List.mem_cons_self ..) hk))

/-- A non-empty queue means that the carved-out capacity is used up: its head does not fit, and the head is
a unit, or a shrink whose weight is part of the parked total. -/
theorem full_of_waiting {c : Cap} (hinv : CapInv c) (hpos : AdjPos c) (hhead : HeadBlocked c)
    (hne : c.waiters ≠ []) :
    c.effCap ≤ ((c.inAccept.length + c.opened.length : Nat) : Int) ∨
    c.effCap - adjSum c.waiters < ((c.inAccept.length + c.opened.length : Nat) : Int) := by
  obtain ⟨w0, rest, hc⟩ := List.exists_cons_of_ne_nil hne
  have hm : w0 ∈ c.waiters := hc ▸ List.mem_cons_self ..
  have hb := hhead w0 rest hc
  rw [room_eq hinv] at hb
  cases hk : w0.kind with
  | unit =>
    have := hinv.unit1 w0 hm hk
    left
    omega
  | adj =>
    have := le_adjSum_of_mem hpos hm hk
    right
    omega

/-- With every spawned adjustment executed (`pending = []`), a shrink that is still parked means that more
units are in use than the configured cap: as soon as the connections fit into the cap, no shrink is parked. -/
theorem parked_means_over_cap {c : Cap} (hinv : CapInv c) (hpos : AdjPos c) (hhead : HeadBlocked c)
    (hp : c.pending = []) (hex : ∃ w ∈ c.waiters, w.kind = WKind.adj) :
    c.realCap < ((c.inAccept.length + c.opened.length : Nat) : Int) := by
  obtain ⟨w, hw, hk⟩ := hex
  have hbook := book_of_pending_nil hinv hp
  have h1 := hpos w hw hk
  have h2 := le_adjSum_of_mem hpos hw hk
  rcases full_of_waiting hinv hpos hhead (List.ne_nil_of_mem hw) with h | h <;> omega

/-- "every change applied" persists until the next `SetMaxCount` -/
theorem quiet_stable {c c' : Cap} {a : Act} (hq : quiet c = true) (hs : step c a = some c')
    (hn : ∀ n, a ≠ Act.setMax n) : quiet c' = true ∧ c'.realCap = c.realCap := by
  have hs := step_sound hs
  refine ⟨?_, (step_realCap hs).resolve_right fun ⟨n, e, _⟩ => hn n e⟩
  obtain ⟨hp, hw⟩ := (quiet_iff c).mp hq
  rw [quiet_iff]
  cases hs with
  | setMax n => exact absurd rfl (hn n)
  | grow _ _ _ ht | shrink _ _ _ ht | skip _ _ ht => rw [hp] at ht; cases ht
  | acquire id =>
    refine ⟨(semAcquire_frame frame_pending ..).trans hp, fun w hw' => ?_⟩
    rcases semAcquire_waiters_sub _ _ w hw' with h1 | h1
    · exact hw w h1
    · rw [h1]; exact nofun
  | acceptFail | close =>
    exact ⟨(semRelease_frame frame_pending ..).trans hp, fun w hw' => hw w (notify_waiters_sub _ _ w hw')⟩
  | acceptDone | reclose | halfClose => exact ⟨hp, hw⟩

theorem obsViolation_eq_none {o : Obs} (hs : o.settled = true) (hcur : o.cur ≤ M)
    (hquiet : o.parked = 0 → o.unitsHeld ≤ o.capNow ∧ o.cur = M - o.capNow + o.unitsHeld ∧
      (o.unitWaiting = true → o.capNow ≤ o.unitsHeld))
    (hparked : 0 < o.parked → o.capNow < o.unitsHeld) : obsViolation o = none := by
  unfold obsViolation
  rw [hs, if_neg (by decide), if_neg (Int.not_lt.mpr hcur)]
  by_cases hz : o.parked = 0
  · -- the two clauses about the cap by `h1`, `h2`, the clause about a parked shrink by `hz`, the last by `h3`
    obtain ⟨h1, h2, h3⟩ := hquiet hz
    simp only [hz, h2, Int.not_lt.mpr h1, Nat.lt_irrefl, beq_self_eq_true, Bool.true_and, decide_false, ne_eq,
      not_true_eq_false, Bool.false_eq_true, if_false, Bool.false_and, Bool.and_eq_true, decide_eq_true_eq,
      ite_eq_right_iff, reduceCtorEq, imp_false, not_and, Int.not_lt]
    exact h3
  · -- every clause but the one about a parked shrink asks for `parked = 0`
    have h := hparked (Nat.pos_of_ne_zero hz)
    simp only [beq_false_of_ne hz, Bool.false_and, Bool.false_eq_true, if_false, Int.not_le.mpr h, decide_false,
      Bool.and_false]

/-- The executable snapshot specification accepts every settled model state that satisfies the invariants
(all reachable ones: `Props/C17.lean: spec_accepts_model`). -/
theorem obsViolation_none_of_inv {c : Cap} (hinv : CapInv c) (hpos : AdjPos c) (hhead : HeadBlocked c)
    (hp : c.pending = []) : obsViolation (obsOf c) = none := by
  have hheld : held c = ((c.inAccept.length + c.opened.length : Nat) : Int) := (Int.natCast_add ..).symm
  refine obsViolation_eq_none rfl hinv.le (fun hz => ?_) (fun hz => ?_)
  · -- nothing parked: the carved-out capacity is the configured one
    have hno : ∀ w ∈ c.waiters, w.kind ≠ WKind.adj := fun w hw hk =>
      List.filter_eq_nil_iff.mp (List.eq_nil_of_length_eq_zero hz) w hw (beq_iff_eq.mpr hk)
    show held c ≤ c.realCap ∧ c.cur = M - c.realCap + held c ∧
      (c.waiters.any (·.kind == WKind.unit) = true → c.realCap ≤ held c)
    rw [realCap_eq_effCap hinv hp hno, hheld]
    refine ⟨held_le_effCap hinv, hinv.count, fun hany => ?_⟩
    have hne : c.waiters ≠ [] := fun e => by rw [e] at hany; cases hany
    rcases full_of_waiting hinv hpos hhead hne with h | h
    · exact h
    · rw [adjSum_eq_zero hno, Int.sub_zero] at h
      exact Int.le_of_lt h
  · -- a shrink is parked: more units in use than the cap
    obtain ⟨w, hw⟩ := List.exists_mem_of_length_pos hz
    have hw' := List.mem_filter.mp hw
    show c.realCap < held c
    rw [hheld]
    exact parked_means_over_cap hinv hpos hhead hp ⟨w, hw'.1, beq_iff_eq.mp hw'.2⟩

/-! ## The capacity budget (`Props/C17.lean: guards_enabled`) -/

/-- total of the shrink amounts among the spawned, not yet executed adjustments -/
def pendingShrink : List (Nat × Int) → Int
  | [] => 0
  | p :: r => (if p.2 < 0 then -p.2 else 0) + pendingShrink r

theorem pendSum_ge_neg_shrink (l : List (Nat × Int)) : -pendingShrink l ≤ pendSum l := by
  induction l with
  | nil => exact Int.le_refl _
  | cons p r ih => simp only [pendingShrink, pendSum]; split <;> omega

/-- what the configured capacity plus all outstanding shrinks (spawned or parked) amounts to: the largest
capacity the semaphore may still be asked to carve out -/
def budget (c : Cap) : Int := c.realCap + pendingShrink c.pending + adjSum c.waiters

end EgVerif.ConnCap
