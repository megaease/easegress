import EgVerif.Proofs.RateLimiterFilter
import EgVerif.Gen.FactsC09IRr
/-!
Regenerated tie by translation for the RateLimiter filter's `reload`: the nested
loops with the labelled `continue OuterLoop`, the hand-over `url.rl = prev.rl` and the two nil-dereference
sites, re-translated from the source on every run, equal `Model/RateLimiterFilter.reload`.
-/
namespace EgVerif.RateLimiterFilter
open EgVerif.RateLimiter EgVerif.Gen.FactsC09IRr

theorem foldl_panicked (s : Spec) (us : List URLRule) (st : ReloadSt) (h : st.panicked = true) :
    us.foldl (fun st u => if st.panicked then st else createFor s u st) st = st := by
  induction us with
  | nil => rfl
  | cons u t ih => simp [List.foldl_cons, h, ih]

/-- the `Init` loop -/
theorem reload_regenerated_from_source_loop1 (s : Spec) (pgen : Option Gen) (h0 : Heap) (n0 : Nat) (cur : Option Nat) :
    ∀ (us : List URLRule) (rls : List (Option Nat)) (heap : Heap) (next : Nat),
      (match reloadIR_loop1 s pgen h0 n0 rls heap next false cur us with
        | .inl r => r
        | .inr (a, b, c) => ⟨a, b, c, false⟩) =
        us.foldl (fun st u => if st.panicked then st else createFor s u st) ⟨rls, heap, next, false⟩ := by
  intro us
  induction us with
  | nil => intro rls heap next; simp [reloadIR_loop1]
  | cons u t ih =>
    intro rls heap next
    simp only [reloadIR_loop1, List.foldl_cons, Bool.false_eq_true, if_false]
    cases hb : bindPolicy s u with
    | none =>
      rw [createFor_none _ hb]
      simp [foldl_panicked]
    | some p =>
      rw [createFor_some _ hb]
      simp only [Option.isSome_some, if_true]
      exact ih _ _ _

/-- the inner loop: `claim` -/
theorem reload_regenerated_from_source_loop3 (s : Spec) (g : Gen) (h0 : Heap) (n0 : Nat)
    (rls : List (Option Nat)) (heap : Heap) (next : Nat) (url : URLRule) :
    ∀ (pus : List URLRule) (pls : List (Option Nat)) (cur : Option Nat),
      reloadIR_loop3 s (some g) h0 n0 rls heap next false cur url (pus.zip pls) =
        match claim s g.spec url pus pls with
        | none => .inr (rls, cur)
        | some (some id) => .inl (.inr (rls ++ [some id], some id))
        | some none => .inl (.inl ⟨rls, heap, next, true⟩) := by
  intro pus
  induction pus with
  | nil => intro pls cur; simp [reloadIR_loop3, claim]
  | cons pu t ih =>
    intro pls cur
    cases pls with
    | nil => simp [reloadIR_loop3, claim]
    | cons pl tl =>
      simp only [List.zip_cons_cons, reloadIR_loop3, claim, Option.getD_some]
      by_cases he : url = pu
      · subst he
        by_cases hp : isSamePolicy s g.spec url.policyRef = true
        · cases pl <;> simp [hp]
        · simp only [Bool.not_eq_true] at hp
          simp [hp, ih]
      · have : (url == pu) = false := by simpa using he
        simp [this, he, ih]

/-- result of the outer loop's `Sum` -/
def finR : Sum ReloadSt (List (Option Nat) × Heap × Nat × Option Nat) → ReloadSt
  | .inl r => r
  | .inr (a, b, c, _) => ⟨a, b, c, false⟩

/-- the outer loop: `reloadLoop` -/
theorem reload_regenerated_from_source_loop2 (s : Spec) (g : Gen) (h0 : Heap) (n0 : Nat) :
    ∀ (us : List URLRule) (rls : List (Option Nat)) (heap : Heap) (next : Nat) (cur : Option Nat),
      finR (reloadIR_loop2 s (some g) h0 n0 rls heap next false cur us) =
        reloadLoop s g.spec g.rls us ⟨rls, heap, next, false⟩ := by
  intro us
  induction us with
  | nil => intro rls heap next cur; simp [reloadIR_loop2, reloadLoop, finR]
  | cons u t ih =>
    intro rls heap next cur
    simp only [reloadIR_loop2, reloadLoop, Option.getD_some, Bool.false_eq_true, if_false,
      reload_regenerated_from_source_loop3]
    cases hc : claim s g.spec u g.spec.urls g.rls with
    | none =>
      simp only
      cases hb : bindPolicy s u with
      | none =>
        rw [createFor_none _ hb]
        simp [finR, reloadLoop_panicked]
      | some p =>
        rw [createFor_some _ hb]
        simp only [Option.isSome_some, if_true]
        exact ih _ _ _ _
    | some o =>
      cases o with
      | none => simp [finR]
      | some id => simp only; exact ih _ _ _ _

/-- **The filter's `reload`, regenerated from the source, is the model's `reload`**: `Init` creates a fresh
limiter per rule; `Inherit` gives every new rule the limiter object of the *first* previous rule that is
`DeepEqual` with an unchanged policy (the previous generation keeps its pointer), a fresh limiter otherwise. -/
theorem reload_regenerated_from_source (s : Spec) (prev : Option Gen) (heap : Heap) (next : Nat) :
    reloadIR s prev heap next = reload s prev heap next := by
  -- the `match` on the loop's `Sum` in `reloadIR` is `finR` unfolded
  cases prev with
  | none => exact reload_regenerated_from_source_loop1 s none heap next none s.urls [] heap next
  | some g => exact reload_regenerated_from_source_loop2 s g heap next s.urls [] heap next none

theorem isSamePolicy_regenerated_from_source_loops (s1 s2 : Spec) (n : String) (p1 p2 : Option Pol) (l : List Pol) :
    isSamePolicyIR_loop1 s1 s2 n p1 p2 l = .inr ((l.find? (fun p => p.name == n)).or p1) ∧
    isSamePolicyIR_loop2 s1 s2 n p1 p2 l = .inr ((l.find? (fun p => p.name == n)).or p2) ∧
    isSamePolicyIR_loop3 s1 s2 n p1 p2 l = .inr ((l.find? (fun p => p.name == n)).or p1) ∧
    isSamePolicyIR_loop4 s1 s2 n p1 p2 l = .inr ((l.find? (fun p => p.name == n)).or p2) := by
  induction l with
  | nil => simp [isSamePolicyIR_loop1, isSamePolicyIR_loop2, isSamePolicyIR_loop3, isSamePolicyIR_loop4]
  | cons a t ih =>
    obtain ⟨i1, i2, i3, i4⟩ := ih
    simp only [isSamePolicyIR_loop1, isSamePolicyIR_loop2, isSamePolicyIR_loop3, isSamePolicyIR_loop4,
      List.find?_cons, i1, i2, i3, i4]
    cases h : a.name == n <;> simp

/-- **`isSamePolicy`, regenerated from the source**: with an empty policy name both specs must name the
same default policy, which is then the one compared; the first policy of that name in each spec (or none)
must have equal configured fields. -/
theorem isSamePolicy_regenerated_from_source (s1 s2 : Spec) (n : String) :
    isSamePolicyIR s1 s2 n = isSamePolicy s1 s2 n := by
  unfold isSamePolicyIR isSamePolicy findPolicy
  by_cases hn : n = ""
  · by_cases hd : s1.defaultRef = s2.defaultRef
    · simp [hn, hd, (isSamePolicy_regenerated_from_source_loops _ _ _ _ _ _).1,
        (isSamePolicy_regenerated_from_source_loops _ _ _ _ _ _).2.1]
    · simp [hn, hd]
  · simp [hn, (isSamePolicy_regenerated_from_source_loops _ _ _ _ _ _).2.2.1,
      (isSamePolicy_regenerated_from_source_loops _ _ _ _ _ _).2.2.2]

theorem bindPolicy_regenerated_from_source_loop (s : Spec) (u : URLRule) (cur : Option Pol) (n : String) (l : List Pol) :
    bindPolicyIR_loop1 s u cur n l = .inr ((l.find? (fun p => p.name == n)).or cur) := by
  induction l with
  | nil => simp [bindPolicyIR_loop1]
  | cons a t ih =>
    simp only [bindPolicyIR_loop1, List.find?_cons, ih]
    cases h : a.name == n <;> simp

/-- **`bindPolicyToURL`, regenerated from the source**: the rule's own `policyRef`, else the default one;
the first policy of that name. -/
theorem bindPolicy_regenerated_from_source (s : Spec) (u : URLRule) : bindPolicyIR s u = bindPolicy s u := by
  unfold bindPolicyIR bindPolicy findPolicy
  by_cases h : u.policyRef = "" <;> simp [h, bindPolicy_regenerated_from_source_loop]

end EgVerif.RateLimiterFilter
