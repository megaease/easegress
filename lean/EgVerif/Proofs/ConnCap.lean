import EgVerif.Spec.ConnCap
/-!
# Lemmas about the connection-cap model (`Model/ConnCap.lean`) and its safety invariant `CapInv`

A proof that starts from `step c a = some c'` goes through the relation `Step` (one constructor per branch of
`step`), and a proof about the semaphore operations through three facts: `semRelease` is `notify`, `semAcquire`
on an empty queue is `notify` on the one-element queue, and on a non-empty queue it only appends.
-/
namespace EgVerif.ConnCap

def pendSum : List (Nat × Int) → Int
  | [] => 0
  | p :: r => p.2 + pendSum r

/-- total weight of the shrink adjustments parked in the semaphore's queue -/
def adjSum : List Waiter → Int
  | [] => 0
  | w :: r => (if w.kind = WKind.adj then w.n else 0) + adjSum r

theorem pendSum_snoc (l : List (Nat × Int)) (p : Nat × Int) : pendSum (l ++ [p]) = pendSum l + p.2 := by
  induction l with
  | nil => exact Int.add_comm p.2 0
  | cons q r ih => simp only [List.cons_append, pendSum, ih, Int.add_assoc]

theorem adjSum_cons_unit {w : Waiter} (hk : w.kind = WKind.unit) (r : List Waiter) : adjSum (w :: r) = adjSum r := by
  simp only [adjSum, hk, reduceCtorEq, if_false, Int.zero_add]

theorem adjSum_cons_adj {w : Waiter} (hk : w.kind = WKind.adj) (r : List Waiter) :
    adjSum (w :: r) = w.n + adjSum r := by
  simp only [adjSum, hk, if_true]

theorem adjSum_snoc (ws : List Waiter) (v : Waiter) :
    adjSum (ws ++ [v]) = adjSum ws + if v.kind = WKind.adj then v.n else 0 := by
  induction ws with
  | nil => exact Int.add_comm _ 0
  | cons w r ih => simp only [List.cons_append, adjSum, ih, Int.add_assoc]

theorem adjSum_eq_zero {ws : List Waiter} (h : ∀ w ∈ ws, w.kind ≠ WKind.adj) : adjSum ws = 0 := by
  induction ws with
  | nil => rfl
  | cons w r ih =>
    rw [adjSum, if_neg (h w (List.mem_cons_self ..)), ih fun x hx => h x (List.mem_cons_of_mem _ hx)]
    rfl

theorem pendSum_nonneg_of_all_grow (l : List (Nat × Int)) (h : ∀ p ∈ l, 0 ≤ p.2) : 0 ≤ pendSum l := by
  induction l with
  | nil => exact Int.le_refl 0
  | cons p r ih =>
    exact Int.add_nonneg (h p (List.mem_cons_self ..)) (ih fun q hq => h q (List.mem_cons_of_mem _ hq))

/-- `takeAdj` removes one entry `(id, d)`: a quantity `F` summed entry by entry loses the share `g d` of
that entry. -/
theorem takeAdj_sum_of {F : List (Nat × Int) → Int} {g : Int → Int} (hF : ∀ p r, F (p :: r) = g p.2 + F r)
    {id : Nat} {l l' : List (Nat × Int)} {d : Int} (h : takeAdj id l = some (d, l')) : F l = g d + F l' := by
  induction l generalizing l' with
  | nil => cases h
  | cons p r ih =>
    rw [takeAdj] at h
    split at h
    · cases h; exact hF p r
    · split at h
      · next d' r' hr =>
        cases h
        rw [hF, hF, ih hr]; omega
      · cases h

theorem takeAdj_sum {id : Nat} {l l' : List (Nat × Int)} {d : Int} (h : takeAdj id l = some (d, l')) :
    pendSum l = d + pendSum l' :=
  takeAdj_sum_of (F := pendSum) (g := fun x => x) (fun _ _ => rfl) h

theorem quiet_iff (c : Cap) : quiet c = true ↔ c.pending = [] ∧ ∀ w ∈ c.waiters, w.kind ≠ WKind.adj := by
  simp only [quiet, Bool.and_eq_true, List.isEmpty_iff, List.all_eq_true, bne_iff_ne, ne_eq]

theorem setMaxCount_le_max (realCap n : Int) : (setMaxCount realCap n).1 ≤ M := by
  show (if n > M then M else n) ≤ M
  split
  · exact Int.le_refl M
  · next h => exact Int.not_lt.mp h

/-- `step c a = some c'`, one constructor per branch of `step` with the guards that were passed
(`step_sound`); guards on which nothing rests are left out. -/
inductive Step (c : Cap) : Act → Cap → Prop
  | acquire (id : Nat) : Step c (.acquire id) (semAcquire c ⟨id, 1, .unit⟩)
  | acceptDone (id : Nat) : id ∈ c.inAccept → id ∉ c.opened →
      Step c (.acceptDone id) { c with inAccept := c.inAccept.erase id, opened := id :: c.opened }
  | acceptFail (id : Nat) : id ∈ c.inAccept →
      Step c (.acceptFail id) (semRelease { c with inAccept := c.inAccept.erase id } 1)
  | close (id : Nat) : id ∈ c.opened →
      Step c (.connClose id) (semRelease { c with opened := c.opened.erase id, closed := id :: c.closed } 1)
  | reclose (id : Nat) : id ∉ c.opened → id ∈ c.closed → Step c (.connClose id) c
  | halfClose (id : Nat) : id ∈ c.opened → Step c (.peerHalfClose id) c
  | setMax (n : Int) :
      Step c (.setMax n) { c with realCap := (setMaxCount c.realCap n).1,
                                  pending := c.pending ++ [(c.nextAdj, (setMaxCount c.realCap n).1 - c.realCap)],
                                  nextAdj := c.nextAdj + 1 }
  | grow (id : Nat) (d : Int) (rest : List (Nat × Int)) : takeAdj id c.pending = some (d, rest) → 0 < d →
      Step c (.adjust id) (semRelease { c with pending := rest, effCap := c.effCap + d } d)
  | shrink (id : Nat) (d : Int) (rest : List (Nat × Int)) : takeAdj id c.pending = some (d, rest) → d < 0 →
      Step c (.adjust id) (semAcquire { c with pending := rest } ⟨id, -d, .adj⟩)
  | skip (id : Nat) (rest : List (Nat × Int)) : takeAdj id c.pending = some (0, rest) →
      Step c (.adjust id) { c with pending := rest }

theorem step_sound {c c' : Cap} {a : Act} (hs : step c a = some c') : Step c a c' := by
  cases a with
  | acquire id =>
    rw [step, Option.ite_none_left_eq_some, Option.some_inj] at hs
    exact hs.2 ▸ .acquire id
  | acceptDone id =>
    rw [step, Option.ite_some_none_eq_some] at hs
    exact hs.2 ▸ .acceptDone id hs.1.1 hs.1.2
  | acceptFail id =>
    rw [step, Option.ite_none_right_eq_some, Option.ite_some_none_eq_some] at hs
    exact hs.2.2 ▸ .acceptFail id hs.1
  | connClose id =>
    rw [step] at hs
    by_cases hm : id ∈ c.opened
    · rw [if_pos hm, Option.ite_some_none_eq_some] at hs
      exact hs.2 ▸ .close id hm
    · rw [if_neg hm, Option.ite_some_none_eq_some] at hs
      exact hs.2 ▸ .reclose id hm hs.1
  | peerHalfClose id =>
    rw [step, Option.ite_some_none_eq_some] at hs
    exact hs.2 ▸ .halfClose id hs.1
  | setMax n =>
    rw [step, Option.ite_some_none_eq_some] at hs
    exact hs.2 ▸ .setMax n
  | adjust id =>
    rw [step] at hs
    split at hs
    · cases hs
    · next d rest ht =>
      dsimp only at hs
      by_cases hd : d > 0
      · rw [if_pos hd, Option.ite_some_none_eq_some] at hs
        exact hs.2 ▸ .grow id d rest ht hd
      · rw [if_neg hd] at hs
        by_cases hd' : d < 0
        · rw [if_pos hd', Option.some_inj] at hs
          exact hs ▸ .shrink id d rest ht hd'
        · rw [if_neg hd', Option.some_inj] at hs
          obtain rfl : d = 0 := Int.le_antisymm (Int.not_lt.mp hd) (Int.not_lt.mp hd')
          exact hs ▸ .skip id rest ht

/-- `sync.Once`: closing a closed connection does nothing -/
theorem step_connClose_closed {c : Cap} {id : Nat} (hno : id ∉ c.opened) (hcl : id ∈ c.closed) :
    step c (.connClose id) = some c := by
  rw [step, if_neg hno, if_pos hcl]

theorem run_ind {P : Cap → Prop} {acts : List Act}
    (hstep : ∀ c a c', a ∈ acts → P c → step c a = some c' → P c') {c : Cap} (h : P c) : P (run c acts) := by
  induction acts generalizing c with
  | nil => exact h
  | cons a rest ih =>
    have ih' := @ih fun c b c' hb => hstep c b c' (List.mem_cons_of_mem _ hb)
    rw [run]
    cases hs : step c a with
    | none => exact ih' h
    | some c' => exact ih' (hstep c a c' (List.mem_cons_self ..) h hs)

theorem grant_unit {w : Waiter} (hk : w.kind = WKind.unit) (c : Cap) :
    grant c w = { c with cur := c.cur + w.n, inAccept := w.id :: c.inAccept } := by
  rw [grant, hk]

theorem grant_adj {w : Waiter} (hk : w.kind = WKind.adj) (c : Cap) :
    grant c w = { c with cur := c.cur + w.n, effCap := c.effCap - w.n } := by
  rw [grant, hk]

/-- x/sync's `Acquire` on an empty queue: the same as queueing and being woken at once if the weight fits -/
theorem semAcquire_of_nil {c : Cap} (he : c.waiters = []) (w : Waiter) : semAcquire c w = notify c [w] := by
  obtain ⟨size, cur, waiters, realCap, effCap, pending, nextAdj, inAccept, opened, closed⟩ := c
  cases he
  unfold semAcquire notify notify
  by_cases hfit : w.n ≤ size - cur
  · rw [if_pos ⟨hfit, rfl⟩, if_neg (Int.not_lt.mpr hfit)]
    unfold grant; split <;> rfl
  · rw [if_neg (fun h => hfit h.1), if_pos (Int.not_le.mp hfit)]
    rfl

theorem semAcquire_of_ne {c : Cap} (hne : c.waiters ≠ []) (w : Waiter) :
    semAcquire c w = { c with waiters := c.waiters ++ [w] } := by
  rw [semAcquire, if_neg fun h => hne h.2]

theorem notify_waiters_sub (ws : List Waiter) (c : Cap) : ∀ w ∈ (notify c ws).waiters, w ∈ ws := by
  fun_induction notify c ws with
  | case1 | case2 => exact fun w hw => hw
  | case3 c v r _ ih => exact fun w hw => List.mem_cons_of_mem _ (ih w hw)

theorem semAcquire_waiters_sub (c : Cap) (v : Waiter) : ∀ w ∈ (semAcquire c v).waiters, w ∈ c.waiters ∨ w = v := by
  intro w hw
  by_cases he : c.waiters = []
  · rw [semAcquire_of_nil he] at hw
    exact Or.inr (List.mem_singleton.mp (notify_waiters_sub _ _ w hw))
  · rw [semAcquire_of_ne he] at hw
    exact (List.mem_append.mp hw).imp_right List.mem_singleton.mp

theorem notify_inAccept_sub (ws : List Waiter) (c : Cap) {x : Nat} (hx : x ∈ c.inAccept) :
    x ∈ (notify c ws).inAccept := by
  fun_induction notify c ws with
  | case1 | case2 => exact hx
  | case3 c v r _ ih =>
    apply ih
    unfold grant
    split
    · exact List.mem_cons_of_mem _ hx
    · exact hx

/-- `f` reads none of the fields the semaphore operations write -/
def Frame {α : Type} (f : Cap → α) : Prop :=
  ∀ (c : Cap) (cur : Int) (ws : List Waiter) (eff : Int) (acc : List Nat),
    f { c with cur := cur, waiters := ws, effCap := eff, inAccept := acc } = f c

theorem frame_realCap : Frame Cap.realCap := fun _ _ _ _ _ => rfl
theorem frame_pending : Frame Cap.pending := fun _ _ _ _ _ => rfl
theorem frame_opened : Frame Cap.opened := fun _ _ _ _ _ => rfl
theorem frame_closed : Frame Cap.closed := fun _ _ _ _ _ => rfl

theorem notify_frame {α : Type} {f : Cap → α} (hf : Frame f) (ws : List Waiter) (c : Cap) :
    f (notify c ws) = f c := by
  fun_induction notify c ws with
  | case1 | case2 => exact hf ..
  | case3 c w r _ ih =>
    refine ih.trans ?_
    unfold grant
    split
    · exact hf ..
    · exact hf ..

theorem semRelease_frame {α : Type} {f : Cap → α} (hf : Frame f) (c : Cap) (n : Int) : f (semRelease c n) = f c :=
  (notify_frame hf ..).trans (hf ..)

theorem semAcquire_frame {α : Type} {f : Cap → α} (hf : Frame f) (c : Cap) (w : Waiter) :
    f (semAcquire c w) = f c := by
  by_cases he : c.waiters = []
  · rw [semAcquire_of_nil he]; exact notify_frame hf ..
  · rw [semAcquire_of_ne he]; exact hf ..

theorem step_realCap {c c' : Cap} {a : Act} (hs : Step c a c') :
    c'.realCap = c.realCap ∨ ∃ n, a = .setMax n ∧ c'.realCap = (setMaxCount c.realCap n).1 := by
  cases hs with
  | setMax n => exact Or.inr ⟨n, rfl, rfl⟩
  | acquire | shrink => exact Or.inl (semAcquire_frame frame_realCap ..)
  | acceptFail | close | grow => exact Or.inl (semRelease_frame frame_realCap ..)
  | acceptDone | reclose | halfClose | skip => exact Or.inl rfl

/-- the part of the invariant that talks about semaphore, capacity and connection counts -/
structure CapInv (c : Cap) : Prop where
  size : c.size = M
  count : c.cur = M - c.effCap + (c.inAccept.length + c.opened.length : Nat)
  le : c.cur ≤ M
  book : c.realCap = c.effCap + pendSum c.pending - adjSum c.waiters
  unit1 : ∀ w ∈ c.waiters, w.kind = WKind.unit → w.n = 1
  nodup : c.opened.Nodup

/-- once every spawned adjustment has run, configured and carved-out capacity differ by the parked shrinks -/
theorem book_of_pending_nil {c : Cap} (h : CapInv c) (hp : c.pending = []) :
    c.realCap = c.effCap - adjSum c.waiters := by
  have hb := h.book
  rw [hp] at hb
  exact hb.trans (congrArg (· - adjSum c.waiters) (Int.add_zero _))

theorem realCap_eq_effCap {c : Cap} (h : CapInv c) (hp : c.pending = []) (hw : ∀ w ∈ c.waiters, w.kind ≠ WKind.adj) :
    c.realCap = c.effCap := by
  rw [book_of_pending_nil h hp, adjSum_eq_zero hw, Int.sub_zero]

theorem held_le_effCap {c : Cap} (h : CapInv c) : ((c.inAccept.length + c.opened.length : Nat) : Int) ≤ c.effCap := by
  have := h.count
  have := h.le
  omega

theorem room_eq {c : Cap} (h : CapInv c) :
    c.size - c.cur = c.effCap - ((c.inAccept.length + c.opened.length : Nat) : Int) := by
  have := h.count
  have := h.size
  omega

theorem capInv_new (n : Int) (h : 0 ≤ n) : CapInv (newCap n) :=
  ⟨rfl, (Int.add_zero (M - n)).symm, Int.sub_le_self M h,
   (by show n = n + 0 - 0; rw [Int.add_zero, Int.sub_zero]), fun _ hw => (nomatch hw), List.nodup_nil⟩

/-- invariant without the queue-dependent fields, for a state whose `waiters` field is being
rebuilt by `notify` from the list `ws` -/
structure Core (c : Cap) (ws : List Waiter) : Prop where
  size : c.size = M
  count : c.cur = M - c.effCap + (c.inAccept.length + c.opened.length : Nat)
  le : c.cur ≤ M
  book : c.realCap = c.effCap + pendSum c.pending - adjSum ws
  unit1 : ∀ w ∈ ws, w.kind = WKind.unit → w.n = 1
  nodup : c.opened.Nodup

theorem core_of_inv {c : Cap} (h : CapInv c) : Core c c.waiters :=
  ⟨h.size, h.count, h.le, h.book, h.unit1, h.nodup⟩

theorem inv_of_core {c : Cap} {ws : List Waiter} (h : Core c ws) : CapInv { c with waiters := ws } :=
  ⟨h.size, h.count, h.le, h.book, h.unit1, h.nodup⟩

/-- waking the head of the queue: a unit moves one unit of `cur` into `inAccept`, a shrink moves its weight
from `effCap` (and from the parked total) into `cur` -/
theorem grant_core {c : Cap} {w : Waiter} {rest : List Waiter} (h : Core c (w :: rest))
    (hfit : w.n ≤ c.size - c.cur) : Core (grant c w) rest := by
  have hu : ∀ x ∈ rest, x.kind = WKind.unit → x.n = 1 := fun x hx => h.unit1 x (List.mem_cons_of_mem _ hx)
  have hle : c.cur + w.n ≤ M := h.size ▸ Int.add_le_of_le_sub_left hfit
  have hc := h.count
  have hb := h.book
  cases hk : w.kind with
  | unit =>
    have h1 : w.n = 1 := h.unit1 w (List.mem_cons_self ..) hk
    rw [grant_unit hk]
    refine ⟨h.size, ?_, hle, adjSum_cons_unit hk rest ▸ hb, hu, h.nodup⟩
    dsimp only
    rw [List.length_cons]
    omega
  | adj =>
    rw [adjSum_cons_adj hk] at hb
    rw [grant_adj hk]
    refine ⟨h.size, ?_, hle, ?_, hu, h.nodup⟩
    · dsimp only
      omega
    · dsimp only
      omega

theorem notify_inv {ws : List Waiter} {c : Cap} (h : Core c ws) : CapInv (notify c ws) := by
  fun_induction notify c ws with
  | case1 | case2 => exact inv_of_core h
  | case3 c w rest hfit ih => exact ih (grant_core h (Int.not_lt.mp hfit))

theorem semAcquire_inv {c : Cap} {w : Waiter} (h : Core c (c.waiters ++ [w])) : CapInv (semAcquire c w) := by
  by_cases he : c.waiters = []
  · rw [semAcquire_of_nil he]
    rw [he] at h
    exact notify_inv h
  · rw [semAcquire_of_ne he]
    exact inv_of_core h

theorem length_erase_succ {l : List Nat} {a : Nat} (h : a ∈ l) : (l.erase a).length + 1 = l.length := by
  have := List.length_pos_of_mem h
  rw [List.length_erase_of_mem h]; omega

theorem unit1_enqueue {ws : List Waiter} (h : ∀ w ∈ ws, w.kind = WKind.unit → w.n = 1) {v : Waiter}
    (hv : v.kind = WKind.unit → v.n = 1) : ∀ w ∈ ws ++ [v], w.kind = WKind.unit → w.n = 1 := by
  intro x hx
  rcases List.mem_append.mp hx with hx | hx
  · exact h x hx
  · exact List.mem_singleton.mp hx ▸ hv

/-- giving back one unit held by a connection -/
theorem count_pred {cur eff : Int} {k k' : Nat} (hc : cur = M - eff + (k : Int)) (hk : k' + 1 = k) :
    cur - 1 = M - eff + (k' : Int) := by
  omega

theorem sub_le_M {c : Cap} (h : CapInv c) {n : Int} (hn : 0 ≤ n) : c.cur - n ≤ M :=
  Int.le_trans (Int.sub_le_self _ hn) h.le

theorem capInv_step {c c' : Cap} {a : Act} (h : CapInv c) (hs : Step c a c') : CapInv c' := by
  have hc := h.count
  have hb := h.book
  cases hs with
  | acquire id =>
    refine semAcquire_inv ⟨h.size, hc, h.le, ?_, unit1_enqueue h.unit1 fun _ => rfl, h.nodup⟩
    rw [adjSum_snoc, if_neg nofun, Int.add_zero]
    exact hb
  | acceptDone id hm hno =>
    refine ⟨h.size, ?_, h.le, hb, h.unit1, List.nodup_cons.mpr ⟨hno, h.nodup⟩⟩
    dsimp only
    rw [List.length_cons, ← Nat.add_assoc, Nat.add_right_comm, length_erase_succ hm]
    exact hc
  | acceptFail id hm =>
    exact notify_inv ⟨h.size, count_pred hc (by rw [Nat.add_right_comm, length_erase_succ hm]),
      sub_le_M h (by decide), hb, h.unit1, h.nodup⟩
  | close id hm =>
    exact notify_inv ⟨h.size, count_pred hc (by rw [Nat.add_assoc, length_erase_succ hm]),
      sub_le_M h (by decide), hb, h.unit1, h.nodup.erase _⟩
  | reclose | halfClose => exact h
  | setMax n =>
    refine ⟨h.size, hc, h.le, ?_, h.unit1, h.nodup⟩
    dsimp only
    rw [pendSum_snoc]
    omega
  | grow id d rest ht hd =>
    have := takeAdj_sum ht
    refine notify_inv ⟨h.size, ?_, sub_le_M h (Int.le_of_lt hd), ?_, h.unit1, h.nodup⟩
    · dsimp only
      omega
    · dsimp only
      omega
  | shrink id d rest ht =>
    have := takeAdj_sum ht
    refine semAcquire_inv ⟨h.size, hc, h.le, ?_, unit1_enqueue h.unit1 nofun, h.nodup⟩
    rw [adjSum_snoc, if_pos rfl]
    dsimp only
    omega
  | skip id rest ht =>
    have := takeAdj_sum ht
    refine ⟨h.size, hc, h.le, ?_, h.unit1, h.nodup⟩
    dsimp only
    omega

/-- the bound on the registered clients is kept because a new client id is registered only below the cap -/
theorem mstep_clients {m m' : Mq} {a : MAct} {o : MOut} (hs : mstep m a = some (m', o))
    (h : 0 < m.cap → m.clients.length ≤ m.cap) : m'.cap = m.cap ∧ (0 < m'.cap → m'.clients.length ≤ m'.cap) := by
  cases a <;> simp only [mstep] at hs
  case early conn cid =>
    split at hs
    · cases hs
    · split at hs <;> cases hs <;> exact ⟨rfl, h⟩
  case locked conn =>
    split at hs
    · cases hs
    · split at hs
      · cases hs; exact ⟨rfl, h⟩
      · split at hs <;> cases hs
        · exact ⟨rfl, h⟩
        · next hat =>
          refine ⟨rfl, fun hcap => ?_⟩
          simp only [atCap, Bool.and_eq_true, decide_eq_true_eq, not_and, Nat.not_le] at hat
          exact hat hcap
  case remove cid =>
    split at hs <;> cases hs
    exact ⟨rfl, fun hcap => Nat.le_trans (List.length_erase_le ..) (h hcap)⟩

end EgVerif.ConnCap
