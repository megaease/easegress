import EgVerif.Spec.IPFilter
/-!
Helper lemmas for C05: prefix arithmetic (`x / 2^(w-k)` compares exactly the `k` most significant
of `w` bits). Core Lean only.
-/
namespace EgVerif.IPFilter

theorem div_eq_iff_prefixAgree {w k x y : Nat} (hk : k ≤ w) (hx : x < 2 ^ w) (hy : y < 2 ^ w) :
    x / 2 ^ (w - k) = y / 2 ^ (w - k) ↔ prefixAgree w k x y := by
  obtain ⟨s, rfl⟩ := Nat.exists_eq_add_of_le hk
  rw [Nat.add_sub_cancel_left]
  -- bit `j` of the quotient is bit `j + s` of the number, which `prefixAgree` calls bit `k + s - 1 - i`
  have idx : ∀ i j, k = i + 1 + j → k + s - 1 - i = j + s := by
    intro i j e
    rw [Nat.sub_sub, e, Nat.add_comm 1 i, Nat.add_assoc, Nat.add_sub_cancel_left]
  constructor
  · intro h i hi _
    obtain ⟨j, e⟩ := Nat.exists_eq_add_of_le (Nat.succ_le_of_lt hi)
    rw [idx i j e, ← Nat.testBit_div_two_pow, ← Nat.testBit_div_two_pow, h]
  · intro h
    apply Nat.eq_of_testBit_eq
    intro j
    rw [Nat.testBit_div_two_pow, Nat.testBit_div_two_pow]
    by_cases hj : j < k
    · obtain ⟨i, e⟩ := Nat.exists_eq_add_of_le (Nat.succ_le_of_lt hj)
      have e' : k = i + 1 + j := by rw [e, Nat.add_comm]; exact Nat.add_right_comm i j 1
      have hi : i < k := by rw [e']; exact Nat.lt_add_right j (Nat.lt_succ_self i)
      have := h i hi (Nat.lt_add_right s hi)
      rwa [idx i j e'] at this
    · have hp : 2 ^ (k + s) ≤ 2 ^ (j + s) :=
        Nat.pow_le_pow_right (by decide) (Nat.add_le_add_right (Nat.le_of_not_lt hj) s)
      rw [Nat.testBit_lt_two_pow (Nat.lt_of_lt_of_le hx hp), Nat.testBit_lt_two_pow (Nat.lt_of_lt_of_le hy hp)]

theorem sameFam_width {a b : Addr} (h : a.sameFam b = true) : a.width = b.width := by
  cases a <;> cases b <;> simp [Addr.sameFam] at h <;> rfl

theorem sameFam_val_eq {a b : Addr} (h : a.sameFam b = true) (hv : a.val = b.val) : a = b := by
  cases a <;> cases b <;> simp [Addr.sameFam] at h <;> simp [Addr.val] at hv <;> rw [hv]

end EgVerif.IPFilter
