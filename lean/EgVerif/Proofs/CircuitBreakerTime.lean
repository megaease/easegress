import EgVerif.Proofs.CircuitBreaker
import EgVerif.Proofs.CircuitBreakerIR
/-! Time-based window: the ring of one-second buckets refines "the results of the last `N` seconds".
The abstract window is a list of (second index, result), oldest first, as in `AWin.time`; the property
theorem `timewin_refines` is in `Props/C08.lean`. -/
namespace EgVerif.CircuitBreaker

def tally (l : List Res) : Bucket :=
  { total := l.length, slow := l.count Res.slow, failure := l.count Res.failure }

def atSec (w : List (Int × Res)) (s : Int) : List Res := (w.filter (fun e => e.1 == s)).map (·.2)

/-- what the bucket of second `s` must hold -/
def countsAt (w : List (Int × Res)) (s : Int) : Bucket := tally (atSec w s)

theorem tally_nil : tally [] = Bucket.zero := rfl

theorem atSec_filter_ge (w : List (Int × Res)) (b s : Int) (hs : b ≤ s) :
    atSec (w.filter (fun e => decide (b ≤ e.1))) s = atSec w s := by
  unfold atSec
  rw [List.filter_filter]
  congr 1
  exact List.filter_congr fun e _ => by simp; omega

theorem atSec_nil_of_lt (w : List (Int × Res)) (s : Int) (h : ∀ e ∈ w, e.1 < s) : atSec w s = [] := by
  unfold atSec
  rw [List.map_eq_nil_iff, List.filter_eq_nil_iff]
  intro e he
  have := h e he
  simp; omega

/-- a window whose entries are all `≥ b`, split into second `b` and the rest -/
theorem tally_split (w : List (Int × Res)) (b : Int) (h : ∀ e ∈ w, b ≤ e.1) :
    tally (w.map (·.2)) =
      { total := (countsAt w b).total + (tally ((w.filter (fun e => decide (b + 1 ≤ e.1))).map (·.2))).total,
        slow := (countsAt w b).slow + (tally ((w.filter (fun e => decide (b + 1 ≤ e.1))).map (·.2))).slow,
        failure := (countsAt w b).failure +
          (tally ((w.filter (fun e => decide (b + 1 ≤ e.1))).map (·.2))).failure } := by
  induction w with
  | nil => rfl
  | cons x xs ih =>
    have hx := h x (by simp)
    have ih := ih (fun e he => h e (by simp [he]))
    simp only [tally, countsAt, atSec, Bucket.mk.injEq] at ih ⊢
    by_cases hb : x.1 = b
    · subst hb
      have h2 : ¬ x.1 + 1 ≤ x.1 := by omega
      simp only [List.map_cons, List.filter_cons, h2, beq_self_eq_true, decide_false, if_true,
        Bool.false_eq_true, if_false, List.length_cons, List.count_cons]
      omega
    · have h2 : b + 1 ≤ x.1 := by omega
      simp only [List.map_cons, List.filter_cons, beq_iff_eq, hb, h2, decide_true, if_true, if_false,
        List.length_cons, List.count_cons]
      omega

/-- the relation maintained by the eviction loop (it does not mention `beginAt`): read from
`firstBucket`, the ring holds the tallies of seconds `B, B+1, …, B+N-1` -/
structure RingRel (N : Nat) (t : TimeWin) (w : List (Int × Res)) (B : Int) : Prop where
  len : t.bucket.length = N
  first : t.first < N
  ring : Ring.rot t.bucket t.first = (List.range N).map (fun (k : Nat) => countsAt w (B + (k : Int)))
  lo : ∀ e ∈ w, B ≤ e.1
  hi : ∀ e ∈ w, e.1 < B + N
  total : t.total = (tally (w.map (·.2))).total
  slow : t.slow = (tally (w.map (·.2))).slow
  failure : t.failure = (tally (w.map (·.2))).failure

theorem RingRel.filter_self {N : Nat} {t : TimeWin} {w : List (Int × Res)} {B c : Int} (h : RingRel N t w B)
    (hc : c ≤ B) : w.filter (fun e => decide (c ≤ e.1)) = w :=
  List.filter_eq_self.mpr fun e he => decide_eq_true (le_trans hc (h.lo e he))

theorem RingRel.filter_nil {N : Nat} {t : TimeWin} {w : List (Int × Res)} {B c : Int} (h : RingRel N t w B)
    (hc : B + N ≤ c) : w.filter (fun e => decide (c ≤ e.1)) = [] :=
  List.filter_eq_nil_iff.mpr fun e he => by have := h.hi e he; simp; omega

theorem evictLoop_succ (n : Nat) (t : TimeWin) :
    TimeWin.evictLoop (n + 1) t = TimeWin.evictLoop n (TimeWin.evictLoop 1 t) := rfl

theorem ringRel_evictOne {N : Nat} {t : TimeWin} {w : List (Int × Res)} {B : Int} (h : RingRel N t w B) :
    RingRel N (TimeWin.evictLoop 1 t) (w.filter (fun e => decide (B + 1 ≤ e.1))) (B + 1) := by
  obtain ⟨hlen, hfirst, hring, hlo, hhi, htot, hslow, hfail⟩ := h
  have hi : t.first < t.bucket.length := by omega
  obtain ⟨n, rfl⟩ : ∃ n, N = n + 1 := ⟨N - 1, by omega⟩
  have hadv := Ring.rot_set_advance t.bucket t.first Bucket.zero hi
  rw [← Ring.mod_succ_eq t.first t.bucket.length hi] at hadv
  -- head and tail of the logical ring
  rw [Ring.rot_eq_cons t.bucket t.first Bucket.zero hi, List.range_succ_eq_map, List.map_cons, List.map_map]
    at hring
  obtain ⟨hhead, htail⟩ := List.cons.inj hring
  simp only [Nat.cast_zero, add_zero] at hhead
  rw [tally_split w B hlo] at htot hslow hfail
  refine ⟨by simp [TimeWin.evictLoop, hlen], ?_, ?_, ?_, ?_, ?_, ?_, ?_⟩
  · simp only [TimeWin.evictLoop]; rw [hlen]; exact Nat.mod_lt _ (by omega)
  · simp only [TimeWin.evictLoop]
    rw [hadv, htail, List.range_succ, List.map_append, List.map_singleton]
    congr 1
    · apply List.map_congr_left
      intro k _
      simp only [Function.comp, countsAt]
      rw [atSec_filter_ge w (B + 1) _ (by omega)]
      congr 2
      push_cast; omega
    · have : atSec (w.filter (fun e => decide (B + 1 ≤ e.1))) (B + 1 + (n : Int)) = [] := by
        apply atSec_nil_of_lt
        intro e he
        have := hhi e (List.mem_filter.mp he).1
        push_cast at this; omega
      simp [countsAt, this, tally_nil]
  · intro e he
    simpa using (List.mem_filter.mp he).2
  · intro e he
    have := hhi e (List.mem_filter.mp he).1
    omega
  · simp only [TimeWin.evictLoop, hhead, htot]; omega
  · simp only [TimeWin.evictLoop, hhead, hslow]; omega
  · simp only [TimeWin.evictLoop, hhead, hfail]; omega

theorem filter_ge_filter_ge (w : List (Int × Res)) (a b : Int) (h : a ≤ b) :
    (w.filter (fun e => decide (a ≤ e.1))).filter (fun e => decide (b ≤ e.1)) = w.filter (fun e => decide (b ≤ e.1)) := by
  rw [List.filter_filter]
  exact List.filter_congr fun e _ => by simp; omega

theorem ringRel_evictLoop {N : Nat} : ∀ (m : Nat) {t : TimeWin} {w : List (Int × Res)} {B : Int},
    RingRel N t w B → RingRel N (TimeWin.evictLoop m t) (w.filter (fun e => decide (B + (m : Int) ≤ e.1))) (B + m)
  | 0, t, w, B, h => by
    rw [h.filter_self (by simp)]
    simpa [TimeWin.evictLoop] using h
  | m + 1, t, w, B, h => by
    rw [evictLoop_succ]
    have ih := ringRel_evictLoop m (ringRel_evictOne h)
    rw [filter_ge_filter_ge w (B + 1) (B + 1 + (m : Int)) (by omega)] at ih
    have e1 : B + 1 + (m : Int) = B + ((m + 1 : Nat) : Int) := by push_cast; omega
    rw [e1] at ih
    exact ih

theorem ringRel_empty_rebase {N : Nat} {t : TimeWin} {B : Int} (h : RingRel N t [] B) (B' : Int) :
    RingRel N t [] B' := by
  refine ⟨h.len, h.first, ?_, by simp, by simp, h.total, h.slow, h.failure⟩
  rw [h.ring]
  apply List.map_congr_left
  intro k _
  simp [countsAt, atSec]

/-- the refinement relation of the time-based window: the ring represents the abstract window `w`
(second index, result; oldest first) whose base second is `beginAt`; `hi` bounds the seconds
recorded so far (time is non-decreasing) -/
structure TimeRel (N : Nat) (t : TimeWin) (w : List (Int × Res)) (hi : Int) : Prop where
  aligned : t.beginAt % sec = 0
  ring : RingRel N t w (t.beginAt / sec)
  up : ∀ e ∈ w, e.1 ≤ hi
  begin_le : t.beginAt / sec ≤ hi
  hi_lt : hi < t.beginAt / sec + N

/-! Seconds. Nothing below depends on the value of `sec` beyond `0 < sec`: a window start is `B * sec` for its
base second `B`. -/

theorem sec_ne : sec ≠ 0 := by decide

theorem mul_sec_le {B now : Int} (h : B ≤ secIdx now) : B * sec ≤ now :=
  le_trans (Int.mul_le_mul_of_nonneg_right h (by decide)) (Int.ediv_mul_le now sec_ne)

/-- Go's truncating `int(now.Sub(beginAt) / time.Second)` is the floor `secIdx now - B` because the window
start is not after `now`. -/
theorem tdiv_since {B now : Int} (h : B ≤ secIdx now) : Int.tdiv (now - B * sec) sec = secIdx now - B := by
  rw [Int.tdiv_eq_ediv_of_nonneg (Int.sub_nonneg.mpr (mul_sec_le h)), Int.sub_eq_add_neg, ← Int.neg_mul,
    Int.add_mul_ediv_right _ _ sec_ne]
  rfl

theorem TimeRel.base {N : Nat} {t : TimeWin} {w : List (Int × Res)} {hi : Int} (h : TimeRel N t w hi) :
    t.beginAt = t.beginAt / sec * sec :=
  (Int.ediv_mul_cancel (Int.dvd_of_emod_eq_zero h.aligned)).symm

theorem TimeRel.of_base {N : Nat} {t : TimeWin} {w : List (Int × Res)} {hi B : Int} (hb : t.beginAt = B * sec)
    (hr : RingRel N t w B) (up : ∀ e ∈ w, e.1 ≤ hi) (h1 : B ≤ hi) (h2 : hi < B + N) : TimeRel N t w hi := by
  have hB : t.beginAt / sec = B := by rw [hb, Int.mul_ediv_cancel _ sec_ne]
  refine ⟨by rw [hb, Int.mul_emod_left], ?_, up, ?_, ?_⟩ <;> rw [hB] <;> assumption

theorem TimeRel.beginAt_le {N : Nat} {t : TimeWin} {w : List (Int × Res)} {hi now : Int} (h : TimeRel N t w hi)
    (hle : hi ≤ secIdx now) : t.beginAt ≤ now := by
  rw [h.base]
  exact mul_sec_le (le_trans h.begin_le hle)

theorem timeRel_new (N : Nat) (hN : 0 < N) (now : Int) : TimeRel N (newTimeWin N now) [] (secIdx now) := by
  have hb : (newTimeWin N now).beginAt = secIdx now * sec := by
    show now - now % sec = now / sec * sec
    rw [Int.emod_def, Int.sub_sub_self, Int.mul_comm]
  refine .of_base hb ⟨by simp [newTimeWin], by simpa [newTimeWin] using hN, ?_, by simp, by simp, rfl, rfl, rfl⟩
    (by simp) (le_refl _) (by omega)
  simp only [newTimeWin, Ring.rot, List.drop_zero, List.take_zero, List.append_nil]
  apply List.ext_getElem
  · simp
  · intro i h1 h2
    simp [countsAt, atSec, tally, Bucket.zero]

theorem filter_gt_eq_ge (w : List (Int × Res)) (a : Int) :
    w.filter (fun e => decide (e.1 > a)) = w.filter (fun e => decide (a + 1 ≤ e.1)) :=
  List.filter_congr fun e _ => by simp only [gt_iff_lt, Int.lt_iff_add_one_le]

/-- The abstract side is the filter of `AWin.push`; `hmono` says that the clock has not gone back. -/
theorem timeRel_evict {N : Nat} {t : TimeWin} {w : List (Int × Res)} {hi : Int} (h : TimeRel N t w hi)
    (now : Int) (hmono : hi ≤ secIdx now) :
    TimeRel N (t.evict now) (w.filter (fun e => decide (e.1 > secIdx now - N))) (secIdx now) := by
  have hb := h.base
  obtain ⟨-, hring, hup, hble, hhilt⟩ := h
  generalize t.beginAt / sec = B at *
  rw [filter_gt_eq_ge]
  unfold TimeWin.evict
  simp only [hb, tdiv_since (le_trans hble hmono), hring.len]
  generalize secIdx now = S at *
  split
  · rw [hring.filter_self (by omega)]
    exact .of_base hb hring (fun e he => le_trans (hup e he) hmono) (by omega) (by omega)
  · -- `beginAt` moves to second `S - N + 1`; the loop runs `min (S - B - N + 1) N` times
    have hb' : B * sec + (S - B - N + 1) * sec = (S - N + 1) * sec := by
      rw [← Int.add_mul]; congr 1; omega
    have hring1 : RingRel N { t with beginAt := B * sec + (S - B - N + 1) * sec } w B :=
      ⟨hring.len, hring.first, hring.ring, hring.lo, hring.hi, hring.total, hring.slow, hring.failure⟩
    refine .of_base (B := S - N + 1) (by rw [evictLoop_beginAt]; exact hb') ?_
      (fun e he => le_trans (hup e (List.mem_filter.mp he).1) hmono) (by omega) (by omega)
    split
    · -- everything is older than the window
      have hl := ringRel_evictLoop N hring1
      rw [hring.filter_nil (le_refl _)] at hl
      rw [hring.filter_nil (by omega), Int.toNat_natCast]
      exact ringRel_empty_rebase hl _
    · obtain ⟨m, hm⟩ := Int.eq_ofNat_of_zero_le (show 0 ≤ S - B - N + 1 by omega)
      have hl := ringRel_evictLoop m hring1
      rw [show B + (m : Int) = S - N + 1 by omega] at hl
      rw [show (S - B - N + 1).toNat = m by omega]
      exact hl

/-- the bucket update `b1` of `TimeWin.push` -/
def Bucket.add (b : Bucket) (r : Res) : Bucket :=
  if r = Res.slow then { total := b.total + 1, slow := b.slow + 1, failure := b.failure }
  else if r = Res.failure then { total := b.total + 1, slow := b.slow, failure := b.failure + 1 }
  else { total := b.total + 1, slow := b.slow, failure := b.failure }

theorem tally_append_one (l : List Res) (r : Res) : tally (l ++ [r]) = (tally l).add r := by
  unfold tally Bucket.add
  cases r <;> simp [List.count_append]

theorem countsAt_append (w : List (Int × Res)) (S : Int) (r : Res) (s : Int) :
    countsAt (w ++ [(S, r)]) s = if s = S then (countsAt w s).add r else countsAt w s := by
  unfold countsAt atSec
  rw [List.filter_append]
  by_cases h : s = S
  · subst h
    simp only [List.filter_cons, beq_self_eq_true, if_true, List.filter_nil, List.map_append, List.map_cons,
      List.map_nil]
    exact tally_append_one _ r
  · have : (S == s) = false := by simpa using fun e => h e.symm
    simp [this, h]

/-- The abstract side is the `.time` case of `AWin.push`. -/
theorem timeRel_push {N : Nat} {t : TimeWin} {w : List (Int × Res)} {hi : Int} (h : TimeRel N t w hi)
    (now : Int) (hmono : hi ≤ secIdx now) (r : Res) :
    TimeRel N (t.push now r)
      (w.filter (fun e => decide (e.1 > secIdx now - N)) ++ [(secIdx now, r)]) (secIdx now) := by
  have h := timeRel_evict h now hmono
  simp only [TimeWin.push]
  generalize t.evict now = t, w.filter _ = w at h ⊢
  have hb := h.base
  obtain ⟨-, ⟨hlen, hfirst, hrot, hlo, hhi, htot, hslow, hfail⟩, hup, hble, hhilt⟩ := h
  generalize t.beginAt / sec = B at *
  have hsec := tdiv_since hble
  generalize secIdx now = S at *
  obtain ⟨k, hk⟩ := Int.eq_ofNat_of_zero_le (show 0 ≤ S - B by omega)
  have hkl : k < t.bucket.length := by omega
  have hfl : t.first < t.bucket.length := by omega
  have hidx : (Int.tdiv (now - t.beginAt) sec).toNat = k := by rw [hb, hsec, hk]; rfl
  have hSk : B + (k : Int) = S := by omega
  -- the bucket of the current second
  have hget : t.bucket.getD ((t.first + k) % t.bucket.length) Bucket.zero = countsAt w S := by
    rw [← Ring.rot_getD t.bucket t.first k Bucket.zero hfl hkl, hrot, List.getD_eq_getElem?_getD,
      List.getElem?_map, List.getElem?_range (by omega)]
    simp [hSk]
  rw [hidx, hget]
  have hring' : Ring.rot (t.bucket.set ((t.first + k) % t.bucket.length) ((countsAt w S).add r)) t.first =
      (List.range N).map (fun (j : Nat) => countsAt (w ++ [(S, r)]) (B + (j : Int))) := by
    rw [Ring.rot_set t.bucket t.first k _ hfl hkl, hrot]
    apply List.ext_getElem
    · simp
    · intro i h1 h2
      rw [List.getElem_set]
      simp only [List.getElem_map, List.getElem_range, countsAt_append]
      by_cases hki : k = i
      · subst hki; simp [hSk]
      · have : ¬ B + (i : Int) = S := by omega
        simp [hki, this]
  have hmem : ∀ {q : Int × Res → Prop}, (∀ e ∈ w, q e) → q (S, r) → ∀ e ∈ w ++ [(S, r)], q e := by
    intro q h1 h2 e he
    rcases List.mem_append.mp he with h | h
    · exact h1 e h
    · exact List.mem_singleton.mp h ▸ h2
  refine .of_base (B := B) hb ⟨by simp [hlen], hfirst, hring', hmem hlo (by omega), hmem hhi (by omega),
    ?_, ?_, ?_⟩ (hmem hup (le_refl _)) hble hhilt
  · simp only [htot, List.map_append, List.map_cons, List.map_nil, tally_append_one]
    unfold Bucket.add; split_ifs <;> rfl
  · simp only [hslow, List.map_append, List.map_cons, List.map_nil, tally_append_one]
    unfold Bucket.add; cases r <;> simp
  · simp only [hfail, List.map_append, List.map_cons, List.map_nil, tally_append_one]
    unfold Bucket.add; cases r <;> simp

end EgVerif.CircuitBreaker
