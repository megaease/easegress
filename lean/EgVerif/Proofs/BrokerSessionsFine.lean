import EgVerif.Proofs.BrokerSessions
/-!
# The fine-grained C16 model (`FSt`, `FAct`, `fstep` in `Model/BrokerSessions.lean`): its invariants

`FInv` = the unconditional part of the invariant (ownership of the session-map entry, open
session, no double close, what the broker-lock holder has established). `FRt` = the routing part
(`topics ⊆ TopicManager`), which holds only for histories in which no SUBSCRIBE/UNSUBSCRIBE packet
in flight is finished after its connection was superseded (`straddles`). `coarse_refines`: a coarse
step is the run of its fine steps (`expandF`) from a state with nothing in flight.
-/
namespace EgVerif.BrokerSessions

/-- in or past the read loop -/
def Pc.past : Pc → Bool
  | .running | .ended | .cleaned | .closed | .done => true
  | _ => false

/-- what the holder of the broker lock has established so far -/
def LockOk (s : FSt) : Prop :=
  match s.lock with
  | .free => True
  | .connGet k _ => s.base.client = some k ∧ (s.base.conn k).pc = Pc.new
  | .connSnap k _ r => s.base.client = some k ∧ (s.base.conn k).pc = Pc.new ∧ s.base.sessMap = some r
  | .connUnsub k _ r _ => s.base.client = some k ∧ (s.base.conn k).pc = Pc.new ∧ s.base.sessMap = some r
  | .tdSnap k w => (s.base.client = none ∨ s.base.client = some k) ∧ s.base.sessMap = none ∧
      (if w then (s.fc k).wl = true else (s.base.conn k).pc = Pc.ended)
  | .tdUnsub k w _ => (s.base.client = none ∨ s.base.client = some k) ∧ s.base.sessMap = none ∧
      (if w then (s.fc k).wl = true else (s.base.conn k).pc = Pc.ended)

/-- any holder of the broker lock -/
def Lk.holder : Lk → Option Nat
  | .free => none
  | .connGet k _ | .connSnap k _ _ | .connUnsub k _ _ _ | .tdSnap k _ | .tdUnsub k _ _ => some k

structure FInv (s : FSt) : Prop where
  /-- the registered live connection's session is the one in the session map -/
  owns : ∀ k, s.base.client = some k → (s.base.conn k).disc = false → (s.fc k).wl = false →
    (s.base.conn k).pc.active = true → s.base.sessMap = some (s.base.conn k).sess
  /-- the session in the map is open and allocated -/
  openS : ∀ r, s.base.sessMap = some r → (s.base.sess r).closed = false ∧ r < s.base.nextSess
  noDouble : s.base.doubleClose = false
  lockOk : LockOk s
  pendRun : ∀ k, (s.fc k).pend ≠ none → (s.base.conn k).pc = Pc.running
  wlPast : ∀ k, (s.fc k).wl = true → (s.base.conn k).pc.past = true
  snapStored : ∀ k, (s.fc k).snap ≠ none → (s.base.conn k).pc = Pc.stored

theorem finv_init : FInv finit := by
  constructor <;> simp [finit, init, fconn0, LockOk]

/-- A step that registers nobody, leaves session map, `closed` flags, allocation and
`doubleClose` alone, moves connections only forward and keeps what the lock holder relies on. -/
theorem finv_frame {s s' : FSt} (h : FInv s)
    (hcl : ∀ k, s'.base.client = some k → s.base.client = some k) (hsm : s'.base.sessMap = s.base.sessMap)
    (hclosed : ∀ r, (s'.base.sess r).closed = (s.base.sess r).closed)
    (hn : s'.base.nextSess = s.base.nextSess) (hd : s'.base.doubleClose = s.base.doubleClose)
    (hlk : LockOk s')
    (hconn : ∀ k, (s'.base.conn k).sess = (s.base.conn k).sess ∧
      (((s'.base.conn k).disc = false ∧ (s'.fc k).wl = false) → ((s.base.conn k).disc = false ∧ (s.fc k).wl = false)) ∧
      ((s'.base.conn k).pc.active = true → (s.base.conn k).pc.active = true) ∧
      ((s'.fc k).pend ≠ none → (s'.base.conn k).pc = Pc.running) ∧
      ((s'.fc k).wl = true → (s'.base.conn k).pc.past = true) ∧
      ((s'.fc k).snap ≠ none → (s'.base.conn k).pc = Pc.stored)) : FInv s' := by
  constructor
  · intro k hc hdsc hwl hact
    obtain ⟨e, d, a, _⟩ := hconn k
    obtain ⟨d1, d2⟩ := d ⟨hdsc, hwl⟩
    rw [hsm, e]; exact h.owns k (hcl k hc) d1 d2 (a hact)
  · intro r hr; rw [hclosed, hn]; exact h.openS r (hsm ▸ hr)
  · rw [hd]; exact h.noDouble
  · exact hlk
  · intro k hk; exact (hconn k).2.2.2.1 hk
  · intro k hk; exact (hconn k).2.2.2.2.1 hk
  · intro k hk; exact (hconn k).2.2.2.2.2 hk

/-- `LockOk` only looks at the lock, the registration, the session map and the holder's record. -/
theorem lockOk_frame {s s' : FSt} (h : LockOk s) (hl : s'.lock = s.lock)
    (hcl : s'.base.client = s.base.client) (hsm : s'.base.sessMap = s.base.sessMap)
    (hk : ∀ k, s.lock.holder = some k →
      ((s.base.conn k).pc = Pc.new → (s'.base.conn k).pc = Pc.new) ∧
      ((s.base.conn k).pc = Pc.ended → (s'.base.conn k).pc = Pc.ended) ∧
      (s.lock.wHolder = some k → (s.fc k).wl = true → (s'.fc k).wl = true)) : LockOk s' := by
  unfold LockOk at h ⊢
  rw [hl]
  cases hlk : s.lock with
  | free => trivial
  | connGet k c =>
    rw [hlk] at h; obtain ⟨a, b, _⟩ := hk k (by simp [hlk, Lk.holder])
    exact ⟨hcl ▸ h.1, a h.2⟩
  | connSnap k c r | connUnsub k c r ts =>
    rw [hlk] at h; obtain ⟨a, b, _⟩ := hk k (by simp [hlk, Lk.holder])
    exact ⟨hcl ▸ h.1, a h.2.1, hsm ▸ h.2.2⟩
  | tdSnap k w | tdUnsub k w ts =>
    rw [hlk] at h; obtain ⟨a, b, c⟩ := hk k (by simp [hlk, Lk.holder])
    refine ⟨hcl ▸ h.1, hsm ▸ h.2.1, ?_⟩
    cases w <;> simp at h ⊢
    · exact b h.2.2
    · exact c (by simp [hlk, Lk.wHolder]) h.2.2

/-! ### every fine step preserves `FInv` -/

@[simp] theorem sessTopics_conn (s : St) (r : Nat) (ts : List Nat) : (sessTopics s r ts).conn = s.conn := rfl
@[simp] theorem sessTopics_client (s : St) (r : Nat) (ts : List Nat) : (sessTopics s r ts).client = s.client := rfl
@[simp] theorem sessTopics_sessMap (s : St) (r : Nat) (ts : List Nat) : (sessTopics s r ts).sessMap = s.sessMap := rfl
@[simp] theorem sessTopics_topicMgr (s : St) (r : Nat) (ts : List Nat) : (sessTopics s r ts).topicMgr = s.topicMgr := rfl

theorem sessTopics_closed (s : St) (r : Nat) (ts : List Nat) (q : Nat) :
    ((sessTopics s r ts).sess q).closed = (s.sess q).closed := by
  by_cases e : q = r
  · subst e; simp [sessTopics]
  · simp [sessTopics, upd_other _ _ e]

/-- A step that replaces the two records of connection `k` by `c` and `f` and changes nothing else
that `FInv` reads (the `rfl` arguments): what has to be checked about `c` and `f`. -/
theorem finv_touch_lk {s s' : FSt} (h : FInv s) (k : Nat) (c : Conn) (f : FConn)
    (hconn : s'.base.conn = upd s.base.conn k c) (hfc : s'.fc = upd s.fc k f)
    (hlk : LockOk s')
    (hsess : c.sess = (s.base.conn k).sess)
    (hlive : c.disc = false → f.wl = false → (s.base.conn k).disc = false ∧ (s.fc k).wl = false)
    (hact : c.pc.active = true → (s.base.conn k).pc.active = true)
    (hpend : f.pend ≠ none → c.pc = Pc.running) (hwl : f.wl = true → c.pc.past = true)
    (hsnap : f.snap ≠ none → c.pc = Pc.stored)
    (hcl : ∀ j, s'.base.client = some j → s.base.client = some j := by exact fun _ => id)
    (hsm : s'.base.sessMap = s.base.sessMap := by rfl)
    (hclosed : ∀ r, (s'.base.sess r).closed = (s.base.sess r).closed := by intro _; rfl)
    (hn : s'.base.nextSess = s.base.nextSess := by rfl)
    (hd : s'.base.doubleClose = s.base.doubleClose := by rfl) : FInv s' := by
  refine finv_frame h hcl hsm hclosed hn hd hlk ?_
  intro j
  by_cases e : j = k
  · subst e; rw [hconn, hfc, upd_same, upd_same]
    exact ⟨hsess, fun ⟨a, b⟩ => hlive a b, hact, hpend, hwl, hsnap⟩
  · rw [hconn, hfc, upd_other _ _ e, upd_other _ _ e]
    exact ⟨rfl, id, id, h.pendRun j, h.wlPast j, h.snapStored j⟩

/-- …when the lock stays as well: `hhold` is what the lock holder relies on, if it is `k` -/
theorem finv_touch {s s' : FSt} (h : FInv s) (k : Nat) (c : Conn) (f : FConn)
    (hconn : s'.base.conn = upd s.base.conn k c) (hfc : s'.fc = upd s.fc k f)
    (hhold : s.lock.holder = some k →
      ((s.base.conn k).pc = Pc.new → c.pc = Pc.new) ∧ ((s.base.conn k).pc = Pc.ended → c.pc = Pc.ended) ∧
      (s.lock.wHolder = some k → (s.fc k).wl = true → f.wl = true))
    (hsess : c.sess = (s.base.conn k).sess)
    (hlive : c.disc = false → f.wl = false → (s.base.conn k).disc = false ∧ (s.fc k).wl = false)
    (hact : c.pc.active = true → (s.base.conn k).pc.active = true)
    (hpend : f.pend ≠ none → c.pc = Pc.running) (hwl : f.wl = true → c.pc.past = true)
    (hsnap : f.snap ≠ none → c.pc = Pc.stored)
    (hl : s'.lock = s.lock := by rfl)
    (hcl : s'.base.client = s.base.client := by rfl) (hsm : s'.base.sessMap = s.base.sessMap := by rfl)
    (hclosed : ∀ r, (s'.base.sess r).closed = (s.base.sess r).closed := by intro _; rfl)
    (hn : s'.base.nextSess = s.base.nextSess := by rfl)
    (hd : s'.base.doubleClose = s.base.doubleClose := by rfl) : FInv s' := by
  refine finv_touch_lk h k c f hconn hfc (lockOk_frame h.lockOk hl hcl hsm ?_) hsess hlive hact hpend hwl hsnap
    (fun _ e => hcl ▸ e) hsm hclosed hn hd
  intro j hj
  by_cases e : j = k
  · subst e; rw [hconn, hfc, upd_same, upd_same]; exact hhold hj
  · rw [hconn, hfc, upd_other _ _ e, upd_other _ _ e]; exact ⟨id, id, fun _ => id⟩

theorem lockOk_of_free {s : FSt} (h : s.lock = Lk.free) : LockOk s := by
  unfold LockOk; rw [h]; trivial

/-- a connection that holds the broker lock outside `handleConn` is in or past its read loop -/
theorem holder_td {s : FSt} (h : FInv s) {k : Nat} (hh : s.lock.holder = some k)
    (hc : s.lock.connHolder ≠ some k) : (s.base.conn k).pc.past = true := by
  have hl := h.lockOk
  unfold LockOk at hl
  cases hlk : s.lock with
  | free => simp [hlk, Lk.holder] at hh
  | connGet k' c | connSnap k' c r | connUnsub k' c r ts =>
    simp [hlk, Lk.holder, Lk.connHolder] at hh hc; exact absurd hh hc
  | tdSnap k' w | tdUnsub k' w ts =>
    rw [hlk] at hl; simp [hlk, Lk.holder] at hh; subst hh
    cases w <;> simp at hl
    · rw [hl.2.2]; rfl
    · exact h.wlPast _ hl.2.2

theorem fc_of_new {s : FSt} (h : FInv s) {k : Nat} (hpc : (s.base.conn k).pc = Pc.new) :
    (s.fc k).pend = none ∧ (s.fc k).wl = false ∧ (s.fc k).snap = none := by
  refine ⟨?_, ?_, ?_⟩
  · cases e : (s.fc k).pend with
    | none => rfl
    | some v => have := h.pendRun k (by simp [e]); rw [hpc] at this; cases this
  · cases e : (s.fc k).wl with
    | false => rfl
    | true => have := h.wlPast k e; rw [hpc] at this; cases this
  · cases e : (s.fc k).snap with
    | none => rfl
    | some v => have := h.snapStored k (by simp [e]); rw [hpc] at this; cases this

/-- the state right after the locked section of `handleConn` has let connection `k` in -/
theorem finv_of_registered {s s' : FSt} {k : Nat} {clean : Bool} (h : FInv s)
    (hpc : (s.base.conn k).pc = Pc.new) (r : Registered s'.base k clean)
    (hd : s'.base.doubleClose = false) (hl : s'.lock = Lk.free) (hfc : s'.fc = s.fc)
    (hconn : ∀ j, j ≠ k → s'.base.conn j = s.base.conn j) : FInv s' := by
  obtain ⟨hpend, hwl, hsnap⟩ := fc_of_new h hpc
  constructor
  · intro j hj _ _ _
    cases eq_of_client r.client hj; exact r.sessMap
  · intro q hq
    rw [r.sessMap] at hq; cases hq; exact ⟨r.opened, r.alloc⟩
  · exact hd
  · exact lockOk_of_free hl
  · intro j hj
    rw [hfc] at hj
    by_cases e : j = k
    · subst e; exact absurd hpend hj
    · rw [hconn j e]; exact h.pendRun j hj
  · intro j hj
    rw [hfc] at hj
    by_cases e : j = k
    · subst e; rw [hwl] at hj; cases hj
    · rw [hconn j e]; exact h.wlPast j hj
  · intro j hj
    rw [hfc] at hj
    by_cases e : j = k
    · subst e; exact absurd hsnap hj
    · rw [hconn j e]; exact h.snapStored j hj

theorem teardownHead_spec (s : St) (k : Nat) :
    (teardownHead s k).client = s.client ∧ (teardownHead s k).conn = s.conn ∧
    (teardownHead s k).sessMap = none ∧ (teardownHead s k).nextSess = s.nextSess ∧
    (teardownHead s k).topicMgr = s.topicMgr ∧
    (∀ q, ((teardownHead s k).sess q).topics = (s.sess q).topics ∧ ((teardownHead s k).sess q).clean = (s.sess q).clean) ∧
    ((teardownHead s k).doubleClose = false ↔
      (s.doubleClose = false ∧ ∀ r, s.sessMap = some r → (s.sess r).closed = false)) := by
  unfold teardownHead
  cases hsm : s.sessMap with
  | none => by_cases hcl : (s.sess (s.conn k).sess).clean = true <;> simp [hcl, hsm]
  | some r =>
    by_cases hcl : (s.sess (s.conn k).sess).clean = true <;> simp [hcl, closeSess] <;>
      exact fun q => by simpa [closeSess] using closeSess_sess s r q

theorem fstep_remove {s s' : FSt} {k : Nat} (hs : fstep s (.remove k) = some s') :
    (s.base.conn k).pc = Pc.closed ∧ s.lock = Lk.free ∧
    ∃ cl, s' = { s with base := setPc { s.base with client := cl } k Pc.done } ∧
      (cl = s.base.client ∨ (cl = none ∧ ∃ o, s.base.client = some o ∧ (s.base.conn o).disc = true)) := by
  simp only [fstep] at hs
  split at hs <;> cases hs
  rename_i hc
  refine ⟨hc.1, hc.2, ?_⟩
  split
  · split
    · exact ⟨none, rfl, Or.inr ⟨rfl, _, by assumption, by assumption⟩⟩
    · exact ⟨_, rfl, Or.inl rfl⟩
  · exact ⟨_, rfl, Or.inl rfl⟩

/-- `closeAndDelSession` of a connection that is not superseded, up to `delDB` (`w`: called from the write
loop): afterwards nobody but `k` can be registered, and `k` is past its read loop or being torn down -/
theorem finv_teardownHead {s : FSt} (h : FInv s) (k : Nat) (w : Bool) (hsup : ¬ superseded s.base k = true)
    (hw : if w then (s.fc k).wl = true else (s.base.conn k).pc = Pc.ended) :
    FInv { s with base := teardownHead s.base k, lock := Lk.tdSnap k w } := by
  obtain ⟨tcl, tconn, tsm, tn, _, _, td⟩ := teardownHead_spec s.base k
  have hcl := not_superseded hsup
  constructor
  · intro j hj _ hwl hact
    simp only [tcl] at hj
    cases eq_of_owner hcl hj
    cases w
    · rw [if_neg nofun] at hw
      simp [tconn, hw, Pc.active] at hact
    · rw [if_pos rfl] at hw; rw [hw] at hwl; cases hwl
  · intro q hq; simp [tsm] at hq
  · exact td.mpr ⟨h.noDouble, fun r hr => (h.openS r hr).1⟩
  · simp only [LockOk, tcl, tsm, tconn]; exact ⟨hcl, trivial, hw⟩
  · intro j hj; simp only [tconn]; exact h.pendRun j hj
  · intro j hj; simp only [tconn]; exact h.wlPast j hj
  · intro j hj; simp only [tconn]; exact h.snapStored j hj

theorem finv_step {s s' : FSt} {a : FAct} (h : FInv s) (hs : fstep s a = some s') : FInv s' := by
  have same : ∀ {s' : FSt}, s'.base.conn = s.base.conn → s'.fc = s.fc → ∀ j, (s'.base.conn j).sess = (s.base.conn j).sess ∧
      (((s'.base.conn j).disc = false ∧ (s'.fc j).wl = false) → ((s.base.conn j).disc = false ∧ (s.fc j).wl = false)) ∧
      ((s'.base.conn j).pc.active = true → (s.base.conn j).pc.active = true) ∧
      ((s'.fc j).pend ≠ none → (s'.base.conn j).pc = Pc.running) ∧
      ((s'.fc j).wl = true → (s'.base.conn j).pc.past = true) ∧
      ((s'.fc j).snap ≠ none → (s'.base.conn j).pc = Pc.stored) := by
    intro s' e1 e2 j; rw [e1, e2]; exact ⟨rfl, id, id, h.pendRun j, h.wlPast j, h.snapStored j⟩
  cases a
  case remove k =>
    obtain ⟨hpc, hfree, cl, rfl, hcl⟩ := fstep_remove hs
    exact finv_touch_lk h k _ (s.fc k) rfl (upd_self _ _).symm (lockOk_of_free hfree) rfl (fun a b => ⟨a, b⟩) nofun
      (fun hp => by simpa [hpc] using h.pendRun k hp) (fun _ => rfl)
      (fun hp => by simpa [hpc] using h.snapStored k hp) (hcl := unreg_sub hcl)
  all_goals simp only [fstep] at hs
  case refuse k =>
    split at hs <;> cases hs
    rename_i hc
    refine finv_touch h k _ (s.fc k) rfl (upd_self _ _).symm ?_ rfl (fun a b => ⟨a, b⟩) nofun
      (fun hp => by simpa [hc.1] using h.pendRun k hp) (fun _ => rfl)
      (fun hp => by simpa [hc.1] using h.snapStored k hp)
    -- before its locked section a connection can hold the lock only as `connHolder`
    intro hh
    have := holder_td h hh hc.2
    rw [hc.1] at this; cases this
  case connackFail k =>
    split at hs <;> cases hs
    rename_i hc
    exact finv_touch h k _ (s.fc k) rfl (upd_self _ _).symm (fun _ => by simp [hc]) rfl (fun a b => ⟨a, b⟩) nofun
      (fun hp => by simpa [hc] using h.pendRun k hp) (fun _ => rfl)
      (fun hp => by simpa [hc] using h.snapStored k hp)
  case storeSess k =>
    split at hs <;> cases hs
    rename_i hc
    exact finv_touch h k _ (s.fc k) rfl (upd_self _ _).symm (fun _ => by simp [hc]) rfl (fun a b => ⟨a, b⟩)
      (fun _ => by rw [hc]; rfl) (fun hp => by simpa [hc] using h.pendRun k hp)
      (fun hw => by simpa [hc, Pc.past] using h.wlPast k hw) (fun _ => rfl)
  case doStore i =>
    split at hs <;> cases hs
    exact finv_frame h (fun _ => id) rfl (fun _ => rfl) rfl rfl
      (lockOk_frame h.lockOk rfl rfl rfl (fun _ _ => ⟨id, id, fun _ => id⟩)) (same rfl rfl)
  case resubSnap k =>
    split at hs <;> cases hs
    rename_i hc
    exact finv_touch h k (s.base.conn k) _ (upd_self _ _).symm rfl (fun _ => ⟨id, id, fun _ => id⟩) rfl
      (fun a b => ⟨a, b⟩) id (h.pendRun k) (h.wlPast k) (fun _ => hc.1)
  case noticeEnd k =>
    split at hs <;> cases hs
    rename_i hc
    exact finv_touch h k _ (s.fc k) rfl (upd_self _ _).symm (fun _ => by simp [hc.1]) rfl (fun a b => ⟨a, b⟩) nofun
      (fun hp => absurd hc.2 hp) (fun _ => rfl) (fun hp => by simpa [hc.1] using h.snapStored k hp)
  case close k =>
    split at hs <;> cases hs
    rename_i hc
    exact finv_touch h k { s.base.conn k with pc := Pc.closed, disc := true, closeReq := false } (s.fc k)
      (by simp [setPc, setConn, markDisc, upd_upd]) (upd_self _ _).symm (fun _ => by simp [hc]) rfl nofun nofun
      (fun hp => by simpa [hc] using h.pendRun k hp) (fun _ => rfl)
      (fun hp => by simpa [hc] using h.snapStored k hp)
  case asyncClose k =>
    split at hs <;> cases hs
    exact finv_touch h k _ (s.fc k) rfl (upd_self _ _).symm (fun _ => ⟨id, id, fun _ => id⟩) rfl nofun id
      (h.pendRun k) (h.wlPast k) (h.snapStored k)
  case adminDelete =>
    cases hs
    exact finv_frame h (fun _ => id) rfl (fun _ => rfl) rfl rfl
      (lockOk_frame h.lockOk rfl rfl rfl (fun _ _ => ⟨id, id, fun _ => id⟩)) (same rfl rfl)
  case wClose k =>
    split at hs <;> cases hs
    rename_i hc
    exact finv_touch h k _ _ rfl rfl (fun _ => ⟨id, id, fun hw => absurd hw hc.2⟩) rfl nofun id
      (h.pendRun k) nofun (h.snapStored k)
  case lkSnap k | tdSnap k =>
    -- the holder only takes its snapshot: `LockOk` asks the same before and after
    split at hs
    · rename_i hlk
      split at hs <;> cases hs
      rename_i hk; subst hk
      have hl := h.lockOk
      unfold LockOk at hl; rw [hlk] at hl
      exact finv_frame h (fun _ => id) rfl (fun _ => rfl) rfl rfl (by unfold LockOk; exact hl) (same rfl rfl)
    · cases hs
  case resubIns k =>
    split at hs
    · rename_i hc
      split at hs <;> cases hs
      exact finv_touch h k _ _ rfl rfl (fun _ => by simp [hc]) rfl (fun a b => ⟨a, b⟩) (fun _ => by rw [hc]; rfl)
        (fun _ => rfl) (fun _ => rfl) (fun e => absurd rfl e)
    · cases hs
  case subTM k f | unsubTM k f =>
    split at hs <;> cases hs
    rename_i hc
    exact finv_touch h k (s.base.conn k) _ (upd_self _ _).symm rfl (fun _ => ⟨id, id, fun _ => id⟩) rfl
      (fun a b => ⟨a, b⟩) id (fun _ => (isCur_iff.mp hc.1).2.2) (h.wlPast k) (h.snapStored k)
  case subSess k | unsubSess k =>
    split at hs
    · cases hs
      exact finv_touch h k (s.base.conn k) _ (upd_self _ _).symm rfl (fun _ => ⟨id, id, fun _ => id⟩) rfl
        (fun a b => ⟨a, b⟩) id (fun e => absurd rfl e) (h.wlPast k) (h.snapStored k)
        (hclosed := fun q => sessTopics_closed _ _ _ q)
    · cases hs
  case tdUnsub k =>
    split at hs
    · rename_i k' w ts hlk
      split at hs <;> cases hs
      rename_i hk; subst hk
      have hl := h.lockOk
      unfold LockOk at hl; rw [hlk] at hl
      cases w
      · simp only [Bool.false_eq_true, if_false] at hl ⊢
        exact finv_touch_lk h k' _ (s.fc k') rfl (upd_self _ _).symm (lockOk_of_free rfl) rfl (fun a b => ⟨a, b⟩) nofun
          (fun hp => by simpa [hl.2.2] using h.pendRun k' hp) (fun _ => rfl)
          (fun hp => by simpa [hl.2.2] using h.snapStored k' hp)
      · exact finv_frame h (fun _ => id) rfl (fun _ => rfl) rfl rfl (lockOk_of_free rfl) (same rfl rfl)
    · cases hs
  case lockConn k clean =>
    split at hs <;> cases hs
    rename_i hc
    obtain ⟨hpc, hfree⟩ := hc
    obtain ⟨tsm, tse, tn, td, _, _, _⟩ := takeoverMark_rest s.base
    have tpc := fun j => (takeoverMark_conn s.base j).1
    constructor
    · intro j hj _ _ hact
      cases eq_of_client hj rfl
      simp only [tpc, hpc] at hact; cases hact
    · intro q hq; simp only [tsm, tse, tn] at hq ⊢; exact h.openS q hq
    · simp only [td]; exact h.noDouble
    · simp only [LockOk, tpc, hpc, and_self]
    · intro j hj; simp only [tpc]; exact h.pendRun j hj
    · intro j hj; simp only [tpc]; exact h.wlPast j hj
    · intro j hj; simp only [tpc]; exact h.snapStored j hj
  case lkGet k =>
    split at hs
    · rename_i k' clean hlk
      split at hs
      · rename_i hk; subst hk
        have hl := h.lockOk
        unfold LockOk at hl; rw [hlk] at hl
        obtain ⟨hcl, hpc⟩ := hl
        obtain ⟨gcl, gconn, gd, _, gsome, gnone⟩ := getSess_spec h.openS
        generalize getSess s.base = g at *
        obtain ⟨g1, g2⟩ := g
        simp only at hs gcl gconn gd gsome gnone
        cases g2 with
        | none =>
          simp only at hs; cases hs
          refine finv_of_registered h hpc ((newSession_registered _ _ _).mpr (gcl.trans hcl)) ?_ rfl rfl ?_
          · simp [newSession, gd, h.noDouble]
          · intro j hj; simp [newSession, upd_other _ _ hj, gconn]
        | some r =>
          obtain ⟨hsm, hop, hlt⟩ := gsome r rfl
          simp only at hs
          split at hs <;> cases hs
          · rename_i hre
            simp only [Bool.and_eq_true, Bool.not_eq_true'] at hre
            refine finv_of_registered (clean := clean) h hpc ?_ ?_ rfl rfl ?_
            · refine ⟨?_, ?_, ?_, ?_, ?_, ?_⟩ <;> simp [setConn, gcl, hcl, hsm, hop, hlt, hre.1]
            · simp [setConn, gd, h.noDouble]
            · intro j hj; simp [setConn, upd_other _ _ hj, gconn]
          · constructor
            · intro j hj _ _ hact
              cases eq_of_client hj (gcl.trans hcl)
              simp only [gconn, hpc] at hact; cases hact
            · intro q hq
              simp only [hsm] at hq; cases hq; exact ⟨hop, hlt⟩
            · simp only [gd]; exact h.noDouble
            · simp only [LockOk, gcl, hcl, gconn, hpc, hsm, and_self]
            · intro j hj; simp only [gconn]; exact h.pendRun j hj
            · intro j hj; simp only [gconn]; exact h.wlPast j hj
            · intro j hj; simp only [gconn]; exact h.snapStored j hj
      · cases hs
    · cases hs
  case lkUnsub k =>
    split at hs
    · rename_i k' clean r ts hlk
      split at hs <;> cases hs
      rename_i hk; subst hk
      have hl := h.lockOk
      unfold LockOk at hl; rw [hlk] at hl
      obtain ⟨hcl, hpc, hsm⟩ := hl
      refine finv_of_registered h hpc ((newSession_registered _ _ _).mpr ?_) ?_ rfl rfl ?_
      · simp [closeSess, hcl]
      · simp [newSession, closeSess, h.noDouble, (h.openS r hsm).1]
      · intro j hj; simp [newSession, closeSess, upd_other _ _ hj]
    · cases hs
  case tdHead k =>
    split at hs
    · rename_i hc
      obtain ⟨hpc, hfree⟩ := hc
      split at hs <;> cases hs
      · exact finv_touch h k _ (s.fc k) rfl (upd_self _ _).symm (fun e => by rw [hfree] at e; cases e) rfl
          (fun a b => ⟨a, b⟩) nofun (fun hp => by simpa [hpc] using h.pendRun k hp) (fun _ => rfl)
          (fun hp => by simpa [hpc] using h.snapStored k hp)
      · rename_i hsup
        exact finv_teardownHead h k false hsup hpc
    · cases hs
  case wErrHead k =>
    split at hs
    · rename_i hc
      obtain ⟨hpc, hwl, hfree⟩ := hc
      have h1 : FInv (setFc s k { s.fc k with wl := true }) :=
        finv_touch h k (s.base.conn k) _ (upd_self _ _).symm rfl (fun e => by rw [hfree] at e; cases e) rfl
          nofun id (h.pendRun k) (fun _ => by rw [hpc]; rfl) (h.snapStored k)
      split at hs <;> cases hs
      · exact h1
      · rename_i hsup
        exact finv_teardownHead h1 k true hsup (by simp [setFc])
    · cases hs
  case watchFires =>
    split at hs <;> cases hs
    rename_i hc
    cases hcl : s.base.client with
    | none =>
      have : deleteSession s.base = s.base := by simp [deleteSession, hcl]
      rw [this]
      exact finv_frame h (fun _ => id) rfl (fun _ => rfl) rfl rfl (lockOk_of_free hc.2) (same rfl rfl)
    | some o =>
      simp only [deleteSession, hcl]
      exact finv_touch_lk h o _ (s.fc o) rfl (upd_self _ _).symm (lockOk_of_free hc.2) rfl nofun id
        (h.pendRun o) (h.wlPast o) (h.snapStored o) (hcl := nofun)

/-! ### teardown steps of a superseded connection: frame -/

/-- the fine teardown-side steps of connection `j` -/
def IsTeardownOfF (j : Nat) : FAct → Prop
  | .noticeEnd k | .tdHead k | .tdSnap k | .tdUnsub k | .close k | .remove k | .wErrHead k | .wClose k
  | .asyncClose k => k = j
  | _ => False

structure SameForCurrentF (s s' : FSt) (k : Nat) : Prop where
  base : SameForCurrent s.base s'.base k
  fc : s'.fc k = s.fc k
  storeQ : s'.storeQ = s.storeQ
  lock : s'.lock = s.lock

theorem superseded_of {s : St} {k j : Nat} (hc : s.client = some k) (hj : j ≠ k) : superseded s j = true := by
  simp [superseded, hc, bne_iff_ne]; exact fun e => hj e.symm

theorem superseded_frame_fine {s s' : FSt} {k j : Nat} {a : FAct} (h : FInv s)
    (hc : s.base.client = some k) (hj : j ≠ k) (hlive : (s.base.conn k).disc = false)
    (ha : IsTeardownOfF j a) (hs : fstep s a = some s') : SameForCurrentF s s' k := by
  have hkj : k ≠ j := fun e => hj e.symm
  have hsup := superseded_of hc hj
  have hl := h.lockOk
  unfold LockOk at hl
  cases a <;> simp only [IsTeardownOfF] at ha <;> subst ha
  case remove =>
    obtain ⟨_, _, cl, rfl, hcl⟩ := fstep_remove hs
    rcases hcl with rfl | ⟨_, o, ho, hd⟩
    · exact ⟨sameForCurrent_upd hkj rfl, rfl, rfl, rfl⟩
    · cases eq_of_client ho hc; rw [hlive] at hd; cases hd
  all_goals simp only [fstep] at hs
  case noticeEnd | asyncClose =>
    split at hs <;> cases hs
    exact ⟨sameForCurrent_upd hkj rfl, rfl, rfl, rfl⟩
  case tdHead =>
    split at hs
    · cases hs
      exact ⟨sameForCurrent_upd hkj rfl, rfl, rfl, rfl⟩
    · cases hs
  case tdSnap | tdUnsub =>
    -- `j` would hold the lock inside `closeAndDelSession`, past the ownership check that a superseded connection fails
    split at hs
    · rename_i hlk
      split at hs <;> cases hs
      rename_i e; subst e
      rw [hlk] at hl
      exact absurd (eq_of_owner hl.1 hc).symm hj
    · cases hs
  case close =>
    split at hs <;> cases hs
    exact ⟨sameForCurrent_trans (sameForCurrent_upd hkj rfl) (sameForCurrent_upd hkj rfl), rfl, rfl, rfl⟩
  case wErrHead =>
    split at hs
    · cases hs
      exact ⟨sameForCurrent_refl _ _, upd_other _ _ hkj, rfl, rfl⟩
    · cases hs
  case wClose =>
    split at hs <;> cases hs
    exact ⟨sameForCurrent_upd hkj rfl, upd_other _ _ hkj, rfl, rfl⟩

theorem runAllF_cons_eq_some {s s' : FSt} {a : FAct} {l : List FAct} :
    runAllF s (a :: l) = some s' ↔ ∃ s1, fstep s a = some s1 ∧ runAllF s1 l = some s' := by
  simp only [runAllF]
  cases fstep s a <;> simp

theorem runAllF_append_eq_some {s s' : FSt} {l₁ l₂ : List FAct} :
    runAllF s (l₁ ++ l₂) = some s' ↔ ∃ s1, runAllF s l₁ = some s1 ∧ runAllF s1 l₂ = some s' := by
  induction l₁ generalizing s with
  | nil => simp [runAllF]
  | cons a r ih =>
    simp only [List.cons_append, runAllF_cons_eq_some, ih]
    constructor
    · rintro ⟨s1, h1, s2, h2, h3⟩; exact ⟨s2, ⟨s1, h1, h2⟩, h3⟩
    · rintro ⟨s2, ⟨s1, h1, h2⟩, h3⟩; exact ⟨s1, h1, s2, h2, h3⟩

theorem finv_runAllF {s s' : FSt} {l : List FAct} (h : FInv s) (hr : runAllF s l = some s') : FInv s' := by
  induction l generalizing s with
  | nil => simp [runAllF] at hr; subst hr; exact h
  | cons a rest ih =>
    obtain ⟨s1, h1, h2⟩ := runAllF_cons_eq_some.mp hr
    exact ih (finv_step h h1) h2

def OthersTeardownF (k : Nat) (l : List FAct) : Prop := ∀ a ∈ l, ∃ j, j ≠ k ∧ IsTeardownOfF j a

theorem frame_run_fine {k : Nat} {l : List FAct} (hl : OthersTeardownF k l) {s s' : FSt} (hi : FInv s)
    (hc : s.base.client = some k) (hlive : (s.base.conn k).disc = false) (h : runAllF s l = some s') :
    SameForCurrentF s s' k := by
  induction l generalizing s with
  | nil =>
    simp [runAllF] at h; subst h
    exact ⟨sameForCurrent_refl _ _, rfl, rfl, rfl⟩
  | cons a rest ih =>
    obtain ⟨s1, hs, hr⟩ := runAllF_cons_eq_some.mp h
    obtain ⟨j, hj, ha⟩ := hl a (List.mem_cons_self ..)
    have f1 := superseded_frame_fine hi hc hj hlive ha hs
    have f2 := ih (fun b hb => hl b (List.mem_cons_of_mem _ hb)) (finv_step hi hs) (f1.base.client.trans hc)
      (by rw [f1.base.conn]; exact hlive) hr
    exact ⟨sameForCurrent_trans f1.base f2.base, f2.fc.trans f1.fc, f2.storeQ.trans f1.storeQ, f2.lock.trans f1.lock⟩

/-! ### reconnect at fine granularity -/

/-- the session a CONNECT finds: the one in the local map, else the persisted copy -/
def storedSess (s : St) : Option (List Nat × Bool) :=
  match s.sessMap with
  | some r => some ((s.sess r).topics, (s.sess r).clean)
  | none => s.db

theorem storedSess_congr {s s' : St} (hsm : s'.sessMap = s.sessMap) (hse : s'.sess = s.sess) (hdb : s'.db = s.db) :
    storedSess s' = storedSess s := by
  unfold storedSess; rw [hsm, hse, hdb]

/-- connection `k` is registered, live, and holds session `r` with topics `F`, which is the open
session in the session map -/
structure Holds (s : St) (k r : Nat) (F : List Nat) : Prop where
  client : s.client = some k
  live : (s.conn k).disc = false
  mine : (s.conn k).sess = r
  inMap : s.sessMap = some r
  topics : (s.sess r).topics = F
  opened : (s.sess r).closed = false

theorem holds_congr {s s' : St} {k r : Nat} {F : List Nat} (g : Holds s k r F) (hcl : s'.client = s.client)
    (hsm : s'.sessMap = s.sessMap) (hse : s'.sess = s.sess) (hd : (s'.conn k).disc = (s.conn k).disc)
    (hm : (s'.conn k).sess = (s.conn k).sess) : Holds s' k r F :=
  ⟨hcl.trans g.client, hd.trans g.live, hm.trans g.mine, hsm.trans g.inMap, hse ▸ g.topics, hse ▸ g.opened⟩

theorem holds_frame {s s' : St} {k r : Nat} {F : List Nat} (g : Holds s k r F) (f : SameForCurrent s s' k) :
    Holds s' k r F :=
  holds_congr g f.client f.sessMap f.sess (congrArg _ f.conn) (congrArg _ f.conn)

theorem holds_run_fine {k r : Nat} {F : List Nat} {l : List FAct} (hl : OthersTeardownF k l) {s s' : FSt}
    (hi : FInv s) (g : Holds s.base k r F) (h : runAllF s l = some s') :
    FInv s' ∧ Holds s'.base k r F ∧ SameForCurrentF s s' k :=
  have f := frame_run_fine hl hi g.client g.live h
  ⟨finv_runAllF hi h, holds_frame g f.base, f⟩

/-- `lockConn k clean; t₁`: `k` is registered and holds the lock before `sessMgr.get`; session map,
session objects, persisted copy and TopicManager are as before -/
theorem lockConn_frame {s s1 s2 : FSt} (hi : FInv s) {k : Nat} {clean : Bool} {t₁ : List FAct}
    (hfresh : (s.base.conn k).disc = false) (h₁ : OthersTeardownF k t₁)
    (hs1 : fstep s (FAct.lockConn k clean) = some s1) (hr1 : runAllF s1 t₁ = some s2) :
    FInv s2 ∧ s2.lock = Lk.connGet k clean ∧ s2.base.client = some k ∧ (s2.base.conn k).disc = false ∧
    s2.base.sessMap = s.base.sessMap ∧ s2.base.sess = s.base.sess ∧ s2.base.db = s.base.db ∧
    s2.base.topicMgr = s.base.topicMgr := by
  have hi1 := finv_step hi hs1
  simp only [fstep] at hs1
  split at hs1 <;> cases hs1
  obtain ⟨tsm, tse, _, _, tdb, ttm, _⟩ := takeoverMark_rest s.base
  have hd1 := (takeoverMark_conn s.base k).2.2.1.trans hfresh
  have f1 := frame_run_fine h₁ hi1 rfl hd1 hr1
  exact ⟨finv_runAllF hi1 hr1, f1.lock, f1.base.client, (congrArg Conn.disc f1.base.conn).trans hd1,
    f1.base.sessMap.trans tsm, f1.base.sess.trans tse, f1.base.db.trans tdb, f1.base.topicMgr.trans ttm⟩

/-! ### the routing clause (`topics ⊆ TopicManager`) under the no-straddle hypothesis -/

/-- the step finishes a SUBSCRIBE/UNSUBSCRIBE packet of a connection that has been superseded
since the packet's TopicManager part ran -/
def straddles (s : FSt) : FAct → Bool
  | .subSess k | .unsubSess k => superseded s.base k
  | _ => false

structure FRt (s : FSt) : Prop where
  /-- every topic of the current connection's session is routed, or is being unsubscribed by it -/
  routed : ∀ k, s.base.client = some k → (s.base.conn k).disc = false → (s.fc k).wl = false →
    (s.base.conn k).pc = Pc.running →
    ∀ f ∈ (s.base.sess (s.base.conn k).sess).topics, f ∈ s.base.topicMgr ∨ (s.fc k).pend = some (false, f)
  /-- the TopicManager part of the current connection's SUBSCRIBE in flight is still there -/
  subPend : ∀ k f, s.base.client = some k → (s.base.conn k).disc = false → (s.fc k).wl = false →
    (s.fc k).pend = some (true, f) → f ∈ s.base.topicMgr
  /-- the topic snapshot of the registered connection still covers its session -/
  snapOk : ∀ k ts, s.base.client = some k → (s.fc k).snap = some ts →
    ∀ f ∈ (s.base.sess (s.base.conn k).sess).topics, f ∈ ts ∨ f ∈ s.base.topicMgr

theorem frt_init : FRt finit := by
  constructor <;> simp [finit, init]

theorem frt_unreg {s' : FSt} (hcl : s'.base.client = none) : FRt s' := by
  constructor <;> intro k <;> simp [hcl]

/-- a step that registers nobody, keeps every session's topics, takes nothing out of the TopicManager,
moves connections only forward and keeps what is in flight -/
theorem frt_frame {s s' : FSt} (h : FRt s) (hcl : ∀ k, s'.base.client = some k → s.base.client = some k)
    (hse : ∀ q, (s'.base.sess q).topics = (s.base.sess q).topics)
    (htm : ∀ f, f ∈ s.base.topicMgr → f ∈ s'.base.topicMgr)
    (hconn : ∀ k, (s'.base.conn k).sess = (s.base.conn k).sess ∧
      (((s'.base.conn k).disc = false ∧ (s'.fc k).wl = false) → ((s.base.conn k).disc = false ∧ (s.fc k).wl = false)) ∧
      ((s'.base.conn k).pc = Pc.running → (s.base.conn k).pc = Pc.running) ∧
      (s'.fc k).pend = (s.fc k).pend ∧ (s'.fc k).snap = (s.fc k).snap) : FRt s' := by
  constructor
  · intro k hc hd hw hr f hf
    obtain ⟨e, d, r, p, _⟩ := hconn k
    obtain ⟨d1, d2⟩ := d ⟨hd, hw⟩
    rw [e, hse] at hf; rw [p]
    rcases h.routed k (hcl k hc) d1 d2 (r hr) f hf with h1 | h1
    · exact Or.inl (htm f h1)
    · exact Or.inr h1
  · intro k f hc hd hw hp
    obtain ⟨e, d, r, p, _⟩ := hconn k
    obtain ⟨d1, d2⟩ := d ⟨hd, hw⟩
    rw [p] at hp
    exact htm f (h.subPend k f (hcl k hc) d1 d2 hp)
  · intro k ts hc hsn f hf
    obtain ⟨e, _, _, _, sn⟩ := hconn k
    rw [sn] at hsn; rw [e, hse] at hf
    rcases h.snapOk k ts (hcl k hc) hsn f hf with h1 | h1
    · exact Or.inl h1
    · exact Or.inr (htm f h1)

/-- `frt_frame` for a step that replaces the two records of connection `k` by `c` and `f`, keeping
what is in flight for `k` -/
theorem frt_touch {s s' : FSt} (h : FRt s) (k : Nat) (c : Conn) (f : FConn)
    (hconn : s'.base.conn = upd s.base.conn k c) (hfc : s'.fc = upd s.fc k f)
    (hsess : c.sess = (s.base.conn k).sess)
    (hlive : c.disc = false → f.wl = false → (s.base.conn k).disc = false ∧ (s.fc k).wl = false)
    (hrun : c.pc = Pc.running → (s.base.conn k).pc = Pc.running)
    (hpend : f.pend = (s.fc k).pend := by rfl) (hsnap : f.snap = (s.fc k).snap := by rfl)
    (hcl : ∀ j, s'.base.client = some j → s.base.client = some j := by exact fun _ => id)
    (hse : ∀ q, (s'.base.sess q).topics = (s.base.sess q).topics := by intro _; rfl)
    (htm : ∀ x, x ∈ s.base.topicMgr → x ∈ s'.base.topicMgr := by exact fun _ => id) : FRt s' := by
  refine frt_frame h hcl hse htm ?_
  intro j
  by_cases e : j = k
  · subst e; rw [hconn, hfc, upd_same, upd_same]
    exact ⟨hsess, fun ⟨a, b⟩ => hlive a b, hrun, hpend, hsnap⟩
  · rw [hconn, hfc, upd_other _ _ e, upd_other _ _ e]
    exact ⟨rfl, id, id, rfl, rfl⟩

/-- `FRt` says nothing about a registered connection that is neither re-subscribing nor in its read
loop, or whose write loop is tearing it down: nothing of such a connection can be in flight (`FInv`) -/
theorem frt_of_idle {s' : FSt} (hi' : FInv s')
    (h : ∀ k, s'.base.client = some k → (s'.base.conn k).pc ≠ Pc.stored ∧
      ((s'.base.conn k).pc ≠ Pc.running ∨ (s'.fc k).wl = true)) : FRt s' := by
  have live : ∀ k, s'.base.client = some k → (s'.fc k).wl = false → (s'.base.conn k).pc ≠ Pc.running := by
    intro k hc hw
    rcases (h k hc).2 with e | e
    · exact e
    · rw [hw] at e; cases e
  constructor
  · intro k hc _ hw hr; exact absurd hr (live k hc hw)
  · intro k f hc _ hw hp; exact absurd (hi'.pendRun k (by simp [hp])) (live k hc hw)
  · intro k ts hc hsn; exact absurd (hi'.snapStored k (by simp [hsn])) (h k hc).1

/-- while the broker lock is held, the only connection that can be registered is its holder, which is
before its registration, past its read loop, or being torn down by its write loop -/
theorem frt_of_locked {s' : FSt} (hi' : FInv s') (hl : s'.lock ≠ Lk.free) : FRt s' := by
  refine frt_of_idle hi' fun k hc => ?_
  have ok := hi'.lockOk
  unfold LockOk at ok
  have new : ∀ j, s'.base.client = some j → (s'.base.conn j).pc = Pc.new →
      (s'.base.conn k).pc ≠ Pc.stored ∧ ((s'.base.conn k).pc ≠ Pc.running ∨ (s'.fc k).wl = true) := fun j hj hp => by
    cases eq_of_client hc hj; rw [hp]; exact ⟨nofun, Or.inl nofun⟩
  have td : ∀ j (w : Bool), (s'.base.client = none ∨ s'.base.client = some j) →
      (if w then (s'.fc j).wl = true else (s'.base.conn j).pc = Pc.ended) →
      (s'.base.conn k).pc ≠ Pc.stored ∧ ((s'.base.conn k).pc ≠ Pc.running ∨ (s'.fc k).wl = true) := fun j w hj hw => by
    cases eq_of_owner hj hc
    cases w
    · rw [if_neg nofun] at hw; rw [hw]; exact ⟨nofun, Or.inl nofun⟩
    · rw [if_pos rfl] at hw
      have hp := hi'.wlPast k hw
      refine ⟨fun e => ?_, Or.inr hw⟩
      rw [e] at hp; cases hp
  cases hlk : s'.lock with
  | free => exact absurd hlk hl
  | connGet j _ => rw [hlk] at ok; exact new j ok.1 ok.2
  | connSnap j _ _ | connUnsub j _ _ _ => rw [hlk] at ok; exact new j ok.1 ok.2.1
  | tdSnap j w | tdUnsub j w _ => rw [hlk] at ok; exact td j w ok.1 ok.2.2

/-- `FRt` when only `k` can be registered and `k` is in its read loop: no snapshot is in flight, so only
`routed` and `subPend` for `k` are to be shown -/
theorem frt_of_running {s' : FSt} (hi' : FInv s') {k : Nat} (honly : ∀ j, s'.base.client = some j → j = k)
    (hrun : (s'.base.conn k).pc = Pc.running)
    (routed : s'.base.client = some k → (s'.base.conn k).disc = false → (s'.fc k).wl = false →
      ∀ x ∈ (s'.base.sess (s'.base.conn k).sess).topics, x ∈ s'.base.topicMgr ∨ (s'.fc k).pend = some (false, x))
    (subPend : ∀ x, s'.base.client = some k → (s'.base.conn k).disc = false → (s'.fc k).wl = false →
      (s'.fc k).pend = some (true, x) → x ∈ s'.base.topicMgr) : FRt s' := by
  constructor
  · intro j hc hd hw _; cases honly j hc; exact routed hc hd hw
  · intro j x hc hd hw hp; cases honly j hc; exact subPend x hc hd hw hp
  · intro j ts hc hsn; cases honly j hc
    have := hi'.snapStored k (by simp [hsn]); rw [hrun] at this; cases this

theorem registered_of_not_superseded {s : St} {k j : Nat} (h : superseded s k = false) (hj : s.client = some j) :
    j = k := by
  simpa [superseded, hj] using h

theorem frt_step {s s' : FSt} {a : FAct} (hi : FInv s) (h : FRt s) (hs : fstep s a = some s')
    (hns : straddles s a = false) : FRt s' := by
  have hi' := finv_step hi hs
  cases a
  case remove k =>
    obtain ⟨hpc, hfree, cl, rfl, hcl⟩ := fstep_remove hs
    exact frt_touch h k _ (s.fc k) rfl (upd_self _ _).symm rfl (fun a b => ⟨a, b⟩) nofun
      (hcl := unreg_sub hcl)
  all_goals simp only [fstep] at hs
  case refuse k | connackFail k | storeSess k | noticeEnd k =>
    split at hs <;> cases hs
    exact frt_touch h k _ (s.fc k) rfl (upd_self _ _).symm rfl (fun a b => ⟨a, b⟩) nofun
  case doStore i =>
    split at hs <;> cases hs
    exact frt_frame h (fun _ => id) (fun _ => rfl) (fun _ => id) (fun _ => ⟨rfl, id, id, rfl, rfl⟩)
  case close k =>
    split at hs <;> cases hs
    exact frt_touch h k { s.base.conn k with pc := Pc.closed, disc := true, closeReq := false } (s.fc k)
      (by simp [setPc, setConn, markDisc, upd_upd]) (upd_self _ _).symm rfl nofun nofun
  case asyncClose k =>
    split at hs <;> cases hs
    exact frt_touch h k _ (s.fc k) rfl (upd_self _ _).symm rfl nofun id
  case adminDelete =>
    cases hs
    exact frt_frame h (fun _ => id) (fun _ => rfl) (fun _ => id) (fun _ => ⟨rfl, id, id, rfl, rfl⟩)
  case wClose k =>
    split at hs <;> cases hs
    exact frt_touch h k _ _ rfl rfl rfl nofun id
  case lkSnap k | tdSnap k =>
    split at hs
    · split at hs <;> cases hs
      exact frt_of_locked hi' nofun
    · cases hs
  case lockConn k clean =>
    split at hs <;> cases hs
    exact frt_of_locked hi' nofun
  case lkGet k =>
    split at hs
    · rename_i k' clean hlk
      have ok := hi.lockOk
      unfold LockOk at ok; rw [hlk] at ok
      split at hs
      · rename_i hk; subst hk
        obtain ⟨gcl, _⟩ := getSess_spec hi.openS
        generalize getSess s.base = g at *
        obtain ⟨g1, g2⟩ := g
        simp only at hs gcl
        cases g2 with
        | none =>
          simp only at hs; cases hs
          refine frt_of_idle hi' fun j hj => ?_
          cases eq_of_client hj (gcl.trans ok.1)
          simp [newSession]
        | some r =>
          simp only at hs
          split at hs <;> cases hs
          · refine frt_of_idle hi' fun j hj => ?_
            cases eq_of_client hj (gcl.trans ok.1)
            simp [setConn]
          · exact frt_of_locked hi' nofun
      · cases hs
    · cases hs
  case lkUnsub k =>
    split at hs
    · rename_i k' clean r ts hlk
      have ok := hi.lockOk
      unfold LockOk at ok; rw [hlk] at ok
      split at hs <;> cases hs
      rename_i hk; subst hk
      refine frt_of_idle hi' fun j hj => ?_
      cases eq_of_client hj ok.1
      simp [newSession]
    · cases hs
  case tdHead k =>
    split at hs
    · split at hs <;> cases hs
      · exact frt_touch h k _ (s.fc k) rfl (upd_self _ _).symm rfl (fun a b => ⟨a, b⟩) nofun
      · exact frt_of_locked hi' nofun
    · cases hs
  case wErrHead k =>
    split at hs
    · split at hs <;> cases hs
      · exact frt_touch h k (s.base.conn k) _ (upd_self _ _).symm rfl rfl nofun id
      · exact frt_of_locked hi' nofun
    · cases hs
  case watchFires =>
    split at hs <;> cases hs
    exact frt_unreg (by cases hcl : s.base.client <;> simp [deleteSession, hcl, markDisc, setConn])
  case resubSnap k =>
    split at hs <;> cases hs
    constructor
    · intro j hc hd hw hr f hf
      by_cases e : j = k
      · subst e; simp only [setFc, upd_same] at hw ⊢; exact h.routed j hc hd hw hr f hf
      · simp only [setFc, upd_other _ _ e] at hw ⊢; exact h.routed j hc hd hw hr f hf
    · intro j f hc hd hw hp
      by_cases e : j = k
      · subst e; simp only [setFc, upd_same] at hw hp; exact h.subPend j f hc hd hw hp
      · simp only [setFc, upd_other _ _ e] at hw hp; exact h.subPend j f hc hd hw hp
    · intro j ts hc hsn f hf
      by_cases e : j = k
      · subst e; simp only [setFc, upd_same, Option.some.injEq] at hsn; subst hsn; exact Or.inl hf
      · simp only [setFc, upd_other _ _ e] at hsn; exact h.snapOk j ts hc hsn f hf
  case resubIns k =>
    split at hs
    · rename_i hpc
      split at hs <;> cases hs
      rename_i ts hsn
      constructor
      · intro j hc hd hw hr f hf
        by_cases e : j = k
        · subst e
          simp only [setPc, setConn, setFc, upd_same] at hf ⊢
          rcases h.snapOk j ts hc hsn f hf with h1 | h1
          · exact Or.inl (mem_addAll.mpr (Or.inr h1))
          · exact Or.inl (mem_addAll.mpr (Or.inl h1))
        · simp only [setPc, setConn, setFc, upd_other _ _ e] at hd hw hr hf ⊢
          rcases h.routed j hc hd hw hr f hf with h1 | h1
          · exact Or.inl (mem_addAll.mpr (Or.inl h1))
          · exact Or.inr h1
      · intro j f hc hd hw hp
        by_cases e : j = k
        · subst e
          simp only [setFc, upd_same] at hp
          have := hi.pendRun j (by simp [hp]); rw [hpc] at this; cases this
        · simp only [setPc, setConn, setFc, upd_other _ _ e] at hd hw hp ⊢
          exact mem_addAll.mpr (Or.inl (h.subPend j f hc hd hw hp))
      · intro j ts' hc hsn' f hf
        by_cases e : j = k
        · subst e; simp [setFc] at hsn'
        · simp only [setPc, setConn, setFc, upd_other _ _ e] at hsn' hf ⊢
          rcases h.snapOk j ts' hc hsn' f hf with h1 | h1
          · exact Or.inl h1
          · exact Or.inr (mem_addAll.mpr (Or.inl h1))
    · cases hs
  case subTM k f =>
    split at hs <;> cases hs
    rename_i hc
    obtain ⟨hcl, _, hrun⟩ := isCur_iff.mp hc.1
    refine frt_of_running hi' (fun j hj => eq_of_client hj hcl) hrun (fun hc' hd hw x hx => ?_) (fun x _ _ _ hp => ?_)
    · simp only [setFc, upd_same] at hw ⊢
      rcases h.routed k hc' hd hw hrun x hx with h1 | h1
      · exact Or.inl (mem_addT.mpr (Or.inl h1))
      · rw [hc.2] at h1; cases h1
    · simp only [setFc, upd_same, Option.some.injEq, Prod.mk.injEq, true_and] at hp
      exact mem_addT.mpr (Or.inr hp.symm)
  case unsubTM k f =>
    split at hs <;> cases hs
    rename_i hc
    obtain ⟨hcl, _, hrun⟩ := isCur_iff.mp hc.1
    refine frt_of_running hi' (fun j hj => eq_of_client hj hcl) hrun (fun hc' hd hw x hx => ?_) (fun x _ _ _ hp => ?_)
    · simp only [setFc, upd_same] at hw ⊢
      rcases h.routed k hc' hd hw hrun x hx with h1 | h1
      · by_cases e : x = f
        · subst e; exact Or.inr rfl
        · exact Or.inl (mem_delT.mpr ⟨h1, e⟩)
      · rw [hc.2] at h1; cases h1
    · simp [setFc] at hp
  case subSess k =>
    split at hs
    · rename_i f hpd
      cases hs
      have hrun := hi.pendRun k (by simp [hpd])
      refine frt_of_running hi' (fun j hj => registered_of_not_superseded hns hj) hrun
        (fun hc hd hw x hx => ?_) (fun x _ _ _ hp => ?_)
      · simp only [setFc, upd_same, sessTopics] at hw hx ⊢
        left
        rcases mem_addT.mp hx with h1 | h1
        · rcases h.routed k hc hd hw hrun x h1 with h2 | h2
          · exact h2
          · rw [hpd] at h2; cases h2
        · subst h1; exact h.subPend k x hc hd hw hpd
      · simp [setFc] at hp
    · cases hs
  case unsubSess k =>
    split at hs
    · rename_i f hpd
      cases hs
      have hrun := hi.pendRun k (by simp [hpd])
      refine frt_of_running hi' (fun j hj => registered_of_not_superseded hns hj) hrun
        (fun hc hd hw x hx => ?_) (fun x _ _ _ hp => ?_)
      · simp only [setFc, upd_same, sessTopics] at hw hx ⊢
        left
        obtain ⟨h1, hne⟩ := mem_delT.mp hx
        rcases h.routed k hc hd hw hrun x h1 with h2 | h2
        · exact h2
        · rw [hpd] at h2; simp only [Option.some.injEq, Prod.mk.injEq, true_and] at h2; exact absurd h2.symm hne
      · simp [setFc] at hp
    · cases hs
  case tdUnsub k =>
    split at hs
    · rename_i k' w ts hlk
      have ok := hi.lockOk
      unfold LockOk at ok; rw [hlk] at ok
      split at hs <;> cases hs
      rename_i hk; subst hk
      -- only the holder can be registered; it is past its read loop (`w = false`) or being torn down
      cases w
      · simp only [Bool.false_eq_true, if_false] at hi' ⊢
        refine frt_of_idle hi' fun j hj => ?_
        cases eq_of_owner ok.1 hj
        simp [setPc, setConn]
      · simp only [if_true] at hi' ok ⊢
        have hp := hi.wlPast k' ok.2.2
        refine frt_of_idle hi' fun j hj => ?_
        cases eq_of_owner ok.1 hj
        refine ⟨fun e => ?_, Or.inr ok.2.2⟩
        rw [e] at hp; cases hp
    · cases hs

/-! ### every coarse history is a fine history -/

/-- nothing in flight: the broker lock is free, no store is pending, no connection is in the
middle of a packet, of its re-subscription or of a write-loop teardown -/
def Quiet (s : FSt) : Prop := s.lock = Lk.free ∧ s.storeQ = [] ∧ ∀ k, s.fc k = fconn0

theorem upd_quiet {fc : Nat → FConn} (h : ∀ k, fc k = fconn0) (k0 : Nat) {c : FConn} (hc : c = fconn0) :
    ∀ k, upd fc k0 c k = fconn0 := by
  intro k; by_cases e : k = k0
  · subst e; simpa using hc
  · simpa [upd_other _ _ e] using h k

theorem teardownBody_eq (s : St) (k : Nat) :
    teardownBody s k = { teardownHead s k with
      topicMgr := delAll (teardownHead s k).topicMgr (s.sess (s.conn k).sess).topics } := by
  unfold teardownBody teardownHead
  cases s.sessMap <;> by_cases hcl : (s.sess (s.conn k).sess).clean = true <;> simp [hcl]

theorem quiet_eq {fs : FSt} (q : Quiet fs) : fs = ⟨fs.base, fun _ => fconn0, Lk.free, []⟩ := by
  obtain ⟨b, fc, lk, sq⟩ := fs
  obtain ⟨rfl, rfl, qf⟩ := q
  obtain rfl : fc = fun _ => fconn0 := funext qf
  rfl

theorem coarse_refines {fs : FSt} {a : Act} {s' : St} (q : Quiet fs) (hs : step true fs.base a = some s') :
    ∃ fs', runAllF fs (expandF fs.base a) = some fs' ∧ fs'.base = s' ∧ Quiet fs' := by
  rw [quiet_eq q]
  generalize fs.base = b at hs
  -- the fine run ends in `s'` with nothing in flight again
  refine ⟨⟨s', fun _ => fconn0, Lk.free, []⟩, ?_, rfl, rfl, rfl, fun _ => rfl⟩
  cases a <;> simp only [step] at hs
  case refuse k =>
    split at hs <;> cases hs
    rename_i hc
    simp [expandF, runAllF, fstep, hc, Lk.connHolder]
  case connackFail k | close k | remove k | asyncClose k | watchFires =>
    split at hs <;> cases hs
    rename_i hc
    simp [expandF, runAllF, fstep, hc]
  case storeSess k =>
    split at hs <;> cases hs
    rename_i hc
    simp [expandF, runAllF, fstep, hc, setPc, setConn, persist, encodeSess]
  case resubscribe k =>
    split at hs <;> cases hs
    rename_i hc
    simp [expandF, runAllF, fstep, hc, setPc, setConn, setFc, fconn0, upd_upd, upd_self]
  case subscribe k f | unsubscribe k f =>
    split at hs <;> cases hs
    rename_i hc
    simp [expandF, runAllF, fstep, hc, setFc, fconn0, persist, encodeSess, sessTopics, upd_upd, upd_self]
  case noticeEnd k =>
    split at hs <;> cases hs
    rename_i hc
    simp [expandF, runAllF, fstep, hc, fconn0]
  case adminDelete =>
    cases hs
    simp [expandF, runAllF, fstep]
  case connectLocked k clean =>
    split at hs <;> cases hs
    rename_i hc
    simp only [expandF, connectLocked, setSession]
    generalize hg : getSess { takeoverMark b with client := some k } = g
    obtain ⟨g1, g2⟩ := g
    cases g2 with
    | none => simp [runAllF, fstep, hc, hg]
    | some r =>
      by_cases hre : (!clean && !(g1.sess r).clean) = true
      · have hre' := hre
        simp only [Bool.and_eq_true, Bool.not_eq_true'] at hre'
        simp [runAllF, fstep, hc, hg, hre']
      · have hre' := hre
        simp only [Bool.and_eq_true, Bool.not_eq_true'] at hre'
        simp [runAllF, fstep, hc, hg, hre, hre']
  case cleanup k =>
    split at hs <;> cases hs
    rename_i hc
    by_cases hsup : superseded b k = true
    · simp [expandF, runAllF, fstep, hc, hsup, teardown]
    · obtain ⟨_, tconn, _, _, _, ttop, _⟩ := teardownHead_spec b k
      simp [expandF, runAllF, fstep, hc, hsup, teardown, teardownBody_eq, tconn, (ttop _).1]
  case writeErr k =>
    split at hs <;> cases hs
    rename_i hc
    by_cases hsup : superseded b k = true
    · simp [expandF, runAllF, fstep, hc, hsup, teardown, setFc, Lk.wHolder, fconn0, upd_upd, upd_self]
    · obtain ⟨_, tconn, _, _, _, ttop, _⟩ := teardownHead_spec b k
      simp [expandF, runAllF, fstep, hc, hsup, teardown, teardownBody_eq, tconn, (ttop _).1, setFc, Lk.wHolder,
        fconn0, upd_upd, upd_self]

end EgVerif.BrokerSessions
