import EgVerif.Proofs.Signer
import EgVerif.Gen.FactsC06SignerIR
/-!
Regenerated tie by translation for C06, package `pkg/util/signer` (`notes/IR.md`):
`Gen.FactsC06SignerIR.*IR` are produced on every run by the go/ast micro-translator from the current bodies of
`getCanonicalQuery`, `initFromQuery`, `initFromHeader`, `initFromSignedRequest`, `Verify`;
they are the hand-written definitions of `Model/Signer.lean` on every input.
-/
namespace EgVerif.Signer
open EgVerif.Sha256 (Bytes)
open EgVerif.Gen.FactsC06SignerIR

theorem b_slash : b "/" = [47] := rfl
theorem b_nil : b "" = [] := rfl

/-- `getCanonicalQuery` = `canonQuery` (presign mode: the five signature parameters are set; header mode: deleted;
the `Signature` parameter is deleted first in both; values sorted; `Values.Encode`) -/
theorem getCanonicalQuery_regenerated_from_source (lit : Literal) (clock : Clock) (t : Int) (scope : Bytes)
    (isPresign : Bool) (keyId : Bytes) (expire : Int) (signedHeaders : Bytes) (q : Header) :
    getCanonicalQueryIR lit clock t scope isPresign keyId expire signedHeaders q =
      canonQuery lit clock t scope (if isPresign then some ⟨keyId, expire, signedHeaders⟩ else none) q := by
  unfold getCanonicalQueryIR canonQuery sortValues
  cases isPresign
  · -- header mode: the six `Del` calls commute (robust against their re-ordering in the source)
    have hf : ∀ (q1 q2 : Header), q1 = q2 → (encode (q1.map fun e => (e.1, sortBy id e.2)), q1.map fun e => (e.1, sortBy id e.2)) =
        (encode (q2.map fun e => (e.1, sortBy id e.2)), q2.map fun e => (e.1, sortBy id e.2)) := by
      intro q1 q2 h; rw [h]
    (simp only [Bool.false_eq_true, if_false]) <;>
      (apply hf; (simp only [qdel, List.filter_filter]) <;>
        (congr 1; funext e; simp only [Bool.and_comm, Bool.and_left_comm, Bool.and_assoc]))
  · simp [b_slash]

theorem sliceL_mid (l : List Bytes) : sliceL l 2 (Int.ofNat l.length - 1) = midScopes l := by
  unfold sliceL midScopes
  have h0 : Int.ofNat l.length = (l.length : Int) := rfl
  have h1 : (Int.ofNat l.length - 1).toNat = l.length - 1 := by rw [h0]; omega
  have h2 : (2 : Int).toNat = 2 := rfl
  rw [h1, h2, List.dropLast_eq_take, List.drop_take, List.length_drop]
  have : l.length - 1 - 2 = l.length - 2 - 1 := by omega
  rw [this]

theorem getD_zero_headD (l : List Bytes) : l.getD (0 : Int).toNat [] = l.headD [] := by
  cases l <;> rfl

theorem getD_int_one (l : List Bytes) : l.getD (1 : Int).toNat [] = l.getD 1 [] := rfl
theorem getD_int_two (l : List Bytes) : l.getD (2 : Int).toNat [] = l.getD 2 [] := rfl

theorem ofNat_lt_three (n : Nat) : (Int.ofNat n < 3) ↔ n < 3 := by
  have : Int.ofNat n = (n : Int) := rfl
  rw [this]; omega

theorem initFromQuery_regenerated_from_source (lit : Literal) (clock : Clock) (req : Req) :
    initFromQueryIR lit clock req = initFromQuery lit clock req := by
  unfold initFromQueryIR initFromQuery parseTimeE parseExpiresE
  simp only [sliceL_mid, getD_zero_headD, getD_int_one, ofNat_lt_three]
  generalize qget req.query lit.algorithmName = alg
  generalize splitOn 47 (qget req.query lit.credential) = parts
  generalize clock.parseTime (qget req.query lit.date) = pt
  generalize clock.parseExpires (qget req.query lit.expires) = pe
  generalize hasPrefix (qget req.query lit.date) (parts.getD 1 []) = hp
  -- one early return per test, in the model's order
  by_cases h1 : alg = lit.algorithmValue
  · by_cases h2 : parts.length < 3
    · simp [h1, h2]
    · cases hp with
      | false => simp [h1, h2]
      | true =>
        cases pt with
        | none => simp [h1, h2]
        | some t => cases pe <;> simp [h1, h2]
  · simp [h1]

theorem stripPrefix_cases (p s : Bytes) :
    (stripPrefix p s = none ∧ hasPrefix s p = false) ∨ (∃ t, stripPrefix p s = some t ∧ hasPrefix s p = true ∧ s.drop p.length = t) := by
  cases h : stripPrefix p s with
  | none => left; simp [hasPrefix, h]
  | some t => exact Or.inr ⟨t, rfl, by simp [hasPrefix, h], stripPrefix_drop h⟩

theorem len_credential : (Int.ofNat (b "Credential=").length) = 11 := by decide +kernel
theorem len_signedHeaders : (Int.ofNat (b "SignedHeaders=").length) = 14 := by decide +kernel
theorem len_signature : (Int.ofNat (b "Signature=").length) = 10 := by decide +kernel

theorem initFromHeader_regenerated_from_source (lit : Literal) (clock : Clock) (req : Req) :
    initFromHeaderIR lit clock req = initFromHeader lit clock req := by
  unfold initFromHeaderIR initFromHeader parseTimeE indexByte
  simp only [sliceL_mid, getD_zero_headD, getD_int_one, getD_int_two, ofNat_lt_three]
  generalize hget req.headers authHeader = hdr
  cases hsf : splitFirst 32 hdr with
  | none => simp
  | some p =>
    obtain ⟨alg, rest⟩ := p
    obtain ⟨rfl, _⟩ := splitFirst_eq_some.mp hsf
    have e1 : ((alg.length : Int) == -1) = false := by
      have : (alg.length : Int) ≠ -1 := by omega
      simp [this]
    have e2 : (alg ++ 32 :: rest).take (alg.length : Int).toNat = alg := by simp
    have e3 : (alg ++ 32 :: rest).drop ((alg.length : Int) + 1).toNat = rest := by
      have : ((alg.length : Int) + 1).toNat = alg.length + 1 := by omega
      rw [this]; simp
    simp only [e1, e2, e3]
    by_cases halg : alg = lit.algorithmValue
    · generalize clock.parseTime (hget req.headers lit.date) = pt
      rcases splitOn 44 rest with _ | ⟨p0, _ | ⟨p1, _ | ⟨p2, _ | ⟨p3, r⟩⟩⟩⟩
      · simp [halg]
      · simp [halg]
      · simp [halg]
      · have l11 : (b "Credential=").length = 11 := Int.ofNat.inj len_credential
        have l14 : (b "SignedHeaders=").length = 14 := Int.ofNat.inj len_signedHeaders
        have l10 : (b "Signature=").length = 10 := Int.ofNat.inj len_signature
        rcases stripPrefix_cases (b "Credential=") (trimSpace p0) with ⟨c1, c2⟩ | ⟨cred, c1, c2, c3⟩
        · simp [halg, c1, c2]
        · rw [l11] at c3
          by_cases hl : (splitOn 47 cred).length < 3
          · simp [halg, c1, c2, c3, hl]
          rcases stripPrefix_cases (b "SignedHeaders=") (trimSpace p1) with ⟨s1, s2⟩ | ⟨sh, s1, s2, s3⟩
          · simp [halg, c1, c2, c3, s1, s2, hl]
          · rw [l14] at s3
            rcases stripPrefix_cases (b "Signature=") (trimSpace p2) with ⟨g1, g2⟩ | ⟨sig, g1, g2, g3⟩
            · simp [halg, c1, c2, c3, s1, s2, g1, g2, hl]
            · rw [l10] at g3
              cases pt <;> simp [halg, c1, c2, c3, s1, s2, s3, g1, g2, g3, hl]
      · simp [halg]
        intro h
        exfalso
        omega
    · simp [halg]

theorem expectedSignatureBH_verify (cfg : Cfg) (cr : Crypto) (clock : Clock) (ctx : Ctx) (secret : Bytes) (req : Req)
    (body : Option Bytes) :
    expectedSignatureBH cfg cr clock ctx secret req (hashBodyAny true cfg cr req body) =
      expectedSignature cfg cr clock ctx secret req body := rfl

/-- `Signer.Verify` = `verify`: parse the signing context, TTL window `-ttl ≤ now - t ≤ ttl` (when a TTL is set), presign
expiry, key lookup, recomputed signature (body hash recomputed, `hashBody(req, true)`) compared with the presented one. -/
theorem verify_regenerated_from_source (cfg : Cfg) (cr : Crypto) (clock : Clock) (now : Int) (req : Req) (body : Option Bytes) :
    verifyIR cfg cr clock now req body = verify cfg cr clock now req body := by
  unfold verifyIR verify getSecretE
  -- `ite_gate` folds the repeated continuations: expiry tests, then key lookup and comparison, as in the model
  simp only [ite_gate, expectedSignatureBH_verify]
  generalize initFromSignedRequest cfg.lit clock req = ini
  cases ini with
  | error e => rfl
  | ok ctx =>
    -- `rw`, unlike `simp`, also reaches the `Decidable` instances of the translated comparisons
    rw [show exceptCtx (Except.ok ctx) = ctx from rfl]
    simp only [exceptErr, veRet, Option.isSome_none, Option.isNone_some, Bool.false_eq_true, if_false,
      Bool.and_eq_true, Bool.or_eq_true, decide_eq_true_eq]
    rcases Option.eq_none_or_eq_some (storeGet ctx.keyId cfg.store) with hs | ⟨secret, hs⟩
    · simp [hs]
    · simp [hs]

/-- one rebuilt canonical header line (`initFromSignedRequest`'s loop body) -/
def verifyLine (req : Req) (name : Bytes) : Bytes :=
  headerLine name (if name = hostHeader then getHost req else canonValue (hvals req.headers (canonKey name)))

theorem initFromSignedRequest_regenerated_from_source_loop1 (lit : Literal) (clock : Clock) (req : Req) (cq : Header) (c : Ctx)
    (ch : Bytes) (q : Header) (e : Bool) (names0 : List Bytes) :
    ∀ (names : List Bytes) (buf : Bytes),
      initFromSignedRequestIR_loop1 lit clock req cq c ch q e buf names0 names = .inr (buf ++ (names.map (verifyLine req)).flatten) := by
  intro names
  induction names with
  | nil => intro buf; simp [initFromSignedRequestIR_loop1]
  | cons n r ih =>
    intro buf
    simp only [initFromSignedRequestIR_loop1, ih, List.map_cons, List.flatten_cons, verifyLine, headerLine]
    by_cases hn : n = hostHeader <;> simp [hn]

/-- the loop is translated once per branch of the `if` it follows -/
theorem initFromSignedRequest_regenerated_from_source_loop2 (lit : Literal) (clock : Clock) (req : Req) (cq : Header) (c : Ctx)
    (ch : Bytes) (q : Header) (e : Bool) (names0 names : List Bytes) (buf : Bytes) :
    initFromSignedRequestIR_loop2 lit clock req cq c ch q e buf names0 names =
      initFromSignedRequestIR_loop1 lit clock req cq c ch q e buf names0 names := by
  induction names generalizing buf with
  | nil => rfl
  | cons n r ih => simp only [initFromSignedRequestIR_loop2, initFromSignedRequestIR_loop1, ih]

theorem verifyLines_eq_map (req : Req) (sh : Bytes) : verifyLines req sh = (splitOn 59 sh).map (verifyLine req) := rfl

/-- `initFromSignedRequest` (as repaired): a raw query that does not parse completely is refused (`badQuery`) before anything
else; otherwise header mode iff the Authorization header is non-empty; afterwards `ctx.CanonicalHeaders` is rebuilt from the
signed-header list (`verifyLines`). -/
theorem initFromSignedRequest_regenerated_from_source (lit : Literal) (clock : Clock) (req : Req) :
    initFromSignedRequestIR lit clock req =
      match initFromSignedRequest lit clock req with
      | .error e => (some e, exceptCtx (.error .badQuery), [])
      | .ok c => (none, c, (verifyLines req c.signedHeaders).flatten) := by
  unfold initFromSignedRequestIR initFromSignedRequest initFromSignedRequestLax
  simp only [initFromSignedRequest_regenerated_from_source_loop2, initFromSignedRequest_regenerated_from_source_loop1,
    verifyLines_eq_map, b_nil, List.nil_append]
  by_cases hq : req.queryErr = true
  · simp [hq]
  · by_cases ha : hget req.headers authHeader = []
    · cases initFromQuery lit clock req <;> simp [hq, ha, exceptErr, exceptCtx]
    · cases initFromHeader lit clock req <;> simp [hq, ha, exceptErr, exceptCtx]

end EgVerif.Signer
