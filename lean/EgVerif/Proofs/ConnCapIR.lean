import EgVerif.Proofs.ConnCap
/-!
# C17: the model's `step` is built from the translated functions

`Props/C17.lean` proves that the definitions the go/ast micro-translator produces on every run
(`Gen.FactsC17IR`, `notes/IR.md`, `harness/factextract/facts_c17_ir.go`) from the current bodies of
`Semaphore.SetMaxCount` (with the body of the spawned goroutine), `LimitListener.Accept`,
`limitListenerConn.Close` and `LimitListener.Close` equal the hand-written `setMaxCount`, `acceptBody`,
`connCloseBody`. Here: the model's transition function `step`, about which the C17 theorems speak, is built
from exactly these functions, so that a changed comparison, a swapped `Release`/`Acquire`, a changed delta or
a lost `release` in the source changes a generated definition and breaks the proofs.
-/
namespace EgVerif.ConnCap

/-- the goroutine's actions depend only on the difference `n - old` (what `pending` stores) -/
theorem adjBody_shift (n old : Int) : adjBody n old = adjBody (n - old) 0 := by
  have hneg : n - old < 0 ↔ n < old := ⟨Int.lt_of_sub_neg, Int.sub_neg_of_lt⟩
  simp only [adjBody, gt_iff_lt, Int.sub_pos, hneg, Int.sub_zero, Int.zero_sub, Int.neg_sub]

/-- `step (.setMax n)` is `SetMaxCount(n)`'s synchronous part for **every** `n ≥ 0` (the clamp to
`maxCapacity` included): the new `realCapacity`, and a pending goroutine whose recorded actions are those of
the translated goroutine body for the stored difference. -/
theorem setMax_step_is_setMaxCount (c : Cap) (n : Int) (h0 : 0 ≤ n) :
    step c (.setMax n) = some { c with realCap := (setMaxCount c.realCap n).1,
                                       pending := c.pending ++ [(c.nextAdj, (setMaxCount c.realCap n).1 - c.realCap)],
                                       nextAdj := c.nextAdj + 1 } ∧
    (setMaxCount c.realCap n).2 = adjBody ((setMaxCount c.realCap n).1 - c.realCap) 0 := by
  constructor
  · simp only [step, h0, if_true]
  · simp only [setMaxCount]; exact adjBody_shift _ c.realCap

/-- `step (.adjust id)` runs the recorded actions of the goroutine body (`adjBody d 0` for the stored
difference `d`) on the weighted semaphore. -/
theorem adjust_step_is_adjBody (c : Cap) (id : Nat) :
    step c (.adjust id) =
      match takeAdj id c.pending with
      | none => none
      | some (d, rest) => applyAdjOps { c with pending := rest } id (adjBody d 0) := by
  rw [step]
  cases takeAdj id c.pending with
  | none => rfl
  | some q =>
    obtain ⟨d, rest⟩ := q
    dsimp only [adjBody]
    split
    · rw [Int.sub_zero]
      dsimp only [List.nil_append, List.cons_append, applyAdjOps, applyAdjOp]
      split
      · rfl
      · rfl
    · split
      · rw [Int.zero_sub]
        rfl
      · rfl

/-- `step (.connClose id)` releases exactly `(connCloseBody once).2` units, where `once` = this
connection was closed before. -/
theorem connClose_is_connCloseBody (c c' : Cap) (id : Nat) (hs : step c (.connClose id) = some c')
    (hnd : id ∈ c.opened → id ∉ c.closed) :
    let once := decide (id ∈ c.closed)
    (once = false → c' = semRelease { c with opened := c.opened.erase id, closed := id :: c.closed }
                            ((connCloseBody once).2 : Int)) ∧
    (once = true → c' = c ∧ (connCloseBody once).2 = 0) := by
  intro once
  cases step_sound hs with
  | close _ hm =>
    have hc : once = false := decide_eq_false (hnd hm)
    rw [hc]
    exact ⟨fun _ => rfl, nofun⟩
  | reclose _ _ hcl =>
    have hc : once = true := decide_eq_true hcl
    rw [hc]
    exact ⟨nofun, fun _ => ⟨rfl, rfl⟩⟩

/-- Units accounting of `Accept` (for the environment fact "`acquire` fails only when the context is
done", i.e. `acquired = false → ctxErr = true`): the call keeps exactly one unit iff it returns a
connection, and none otherwise — the unit of `inAccept` becomes the unit of `opened`. -/
theorem accept_units (acquired ctxErr innerErr : Bool) (henv : acquired = false → ctxErr = true) :
    (acceptBody acquired ctxErr innerErr).2 = if (acceptBody acquired ctxErr innerErr).1 then 1 else 0 := by
  cases acquired with
  | true => cases ctxErr <;> cases innerErr <;> rfl
  | false => rw [henv rfl]; cases innerErr <;> rfl

theorem accept_returns_iff (acquired ctxErr innerErr : Bool) :
    (acceptBody acquired ctxErr innerErr).1 = (!ctxErr && !innerErr) := by
  cases acquired <;> cases ctxErr <;> cases innerErr <;> rfl

end EgVerif.ConnCap
