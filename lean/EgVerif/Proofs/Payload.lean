import EgVerif.Model.Payload
import EgVerif.Spec.Payload
/-!
`fetch_eq` is the decision table of `FetchPayload` (`Payload.fetch`) in the words of the specification
(`Spec.isShort`, `Spec.size`); the theorems of `Props/C07.lean` are its rows. The limit in force is a variable `lim`
with `hl : normLimit dflt limit = lim`, so that a caller can name it as it likes (`rfl`, or `C07.effective_limit` for
`Spec.limitInForce`).
-/
namespace EgVerif.Payload

variable {dflt limit lim : Int} {s : Src}

theorem fetch_stream (hl : normLimit dflt limit = lim) (h : lim < 0) : fetch dflt limit s = .stream := by
  simp [fetch, hl, h]

theorem fetch_eq (hl : normLimit dflt limit = lim) (h0 : 0 ≤ lim) :
    fetch dflt limit s =
      if Spec.isShort s then (if lim < s.declared then .tooLarge else .shortRead)
      else if lim < Spec.size s then .tooLarge else .ok (Spec.size s) := by
  obtain ⟨n, rfl⟩ := Int.eq_ofNat_of_zero_le h0
  obtain ⟨d, a⟩ := s
  have hn : ¬ (n : Int) < 0 := by omega
  simp only [fetch, hl, hn, Spec.isShort, Spec.size, Int.toNat_natCast, if_false]
  rcases Int.lt_trichotomy d 0 with hd | rfl | hd
  · -- unknown length: `io.ReadAll` of at most `n` bytes, then `io.Copy` finds out whether anything was left
    have h1 : ¬ (n : Int) < d := by omega
    have h2 : ¬ 0 < d := by omega
    have h3 : ¬ d ≥ 0 := by omega
    have h4 : d ≠ 0 := by omega
    by_cases ha : a ≤ n
    · simp [h1, h2, h3, h4, Nat.min_eq_left ha, Nat.not_lt.mpr ha]
    · have hz : 0 < a - n := by omega
      simp [h1, h2, h3, h4, Nat.min_eq_right (Nat.le_of_not_le ha), hz, Nat.lt_of_not_le ha]
  · simp
  · have h3 : d ≥ 0 := by omega
    have hcast : ((d.toNat : Nat) : Int) = d := Int.toNat_of_nonneg h3
    by_cases hb : (n : Int) < d
    · simp [hb, h3, hcast]
    · by_cases ha : d.toNat ≤ a
      · simp [hb, hd, h3, hcast, ha, Nat.not_lt.mpr ha]
      · simp [hb, hd, h3, ha, Nat.lt_of_not_le ha]

theorem fetchResp_false : fetchResp dflt limit false s = fetch dflt limit s := by
  by_cases h : normLimit dflt limit < 0
  · simp [fetchResp, h, fetch_stream rfl h]
  · simp [fetchResp, h]

theorem fetchRd_false : fetchRd dflt limit false s = fetch dflt limit s := by
  simp [fetchRd]

end EgVerif.Payload
