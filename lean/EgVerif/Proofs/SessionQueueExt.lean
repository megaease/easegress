import EgVerif.Proofs.SessionQueue
/-!
The UNREPAIRED `Session.publish` (`publishOld`, before fix `C15-packet-id-skip-pending`): its allocation law and the
uint16 wrap-around onto a still-pending id — and the same wrap history on the repaired code.
Property theorems are in `Props/C15.lean`.
-/
namespace EgVerif.SessionQueue
open EgVerif.Topic (alGet alSet alErase alGet_none_iff alGet_mem mem_alGet)

/-- number of packet ids consumed by a trace starting from `n` -/
def consumed (n : Nat) : List Ev → Nat
  | [] => n
  | .publish true _ _ :: r => consumed (n + 1) r
  | _ :: r => consumed n r

theorem nextID_runOld (tr : List Ev) : ∀ (s : Sess) (n : Nat), s.nextID = n % idMod →
    (runOld s tr).nextID = consumed n tr % idMod := by
  induction tr with
  | nil => exact fun _ _ h => h
  | cons e r ih =>
    intro s n h
    cases e with
    | publish online full m =>
      cases online with
      | true =>
        refine ih (publishOld true full m s).1 (n + 1) ?_
        rw [publishOld_online, publishAt_nextID, h, Nat.mod_add_mod]
      | false => exact ih s n h
    | puback i => exact ih _ n h
    | tick o => exact ih _ n ((doResend_fst o).2.trans h)

/-- online publishes, one per `(full, m)`. Used with none of them QoS1: QoS0 copies, dropped or not, and QoS2, which
only consume ids ("noise" between the two QoS1 messages of the wrap history) -/
def noise (l : List (Bool × Msg)) : List Ev := l.map (fun p => Ev.publish true p.1 p.2)

section
variable (l : List (Bool × Msg)) (hl : ∀ x ∈ l, x.2.qos ≠ 1) (p : List (Id × Msg)) (q : List Id)
include hl

theorem runOld_noise : ∀ k : Nat, runOld ⟨p, q, k % idMod⟩ (noise l) = ⟨p, q, (k + l.length) % idMod⟩ := by
  induction l with
  | nil => exact fun _ => rfl
  | cons x r ih =>
    intro k
    show runOld (publishOld true x.1 x.2 ⟨p, q, k % idMod⟩).1 (noise r) = _
    rw [publishOld_online, publishAt_fst_of_ne (hl x List.mem_cons_self), Nat.mod_add_mod,
      ih (fun y hy => hl y (List.mem_cons_of_mem _ hy)), List.length_cons, Nat.add_assoc, Nat.add_comm 1]

theorem run_noise : ∀ k : Nat, (∀ j < l.length, alGet ((k + j) % idMod) p = none) →
    run ⟨p, q, k % idMod⟩ (noise l) = ⟨p, q, (k + l.length) % idMod⟩ := by
  induction l with
  | nil => exact fun _ _ => rfl
  | cons x r ih =>
    intro k hfree
    have h0 : freeId p (k % idMod) = k % idMod := freeId_of_free (hfree 0 (Nat.zero_lt_succ _))
    have hr : ∀ j < r.length, alGet ((k + 1 + j) % idMod) p = none := fun j hj => by
      have := hfree (j + 1) (Nat.succ_lt_succ hj)
      rwa [Nat.add_comm j, ← Nat.add_assoc] at this
    show run (publish true x.1 x.2 ⟨p, q, k % idMod⟩).1 (noise r) = _
    rw [publish_online, h0, publishAt_fst_of_ne (hl x List.mem_cons_self), Nat.mod_add_mod,
      ih (fun y hy => hl y (List.mem_cons_of_mem _ hy)) (k + 1) hr, List.length_cons, Nat.add_assoc,
      Nat.add_comm 1]

end

theorem runOld_noise_pending (l : List (Bool × Msg)) (hl : ∀ p ∈ l, p.2.qos ≠ 1) (s : Sess) :
    (runOld s (noise l)).pending = s.pending ∧ (runOld s (noise l)).queue = s.queue ∧
    (runOld s (noise l)).nextID = (s.nextID + l.length) % idMod ∨
    (l = [] ∧ runOld s (noise l) = s) := by
  cases l with
  | nil => exact .inr ⟨rfl, rfl⟩
  | cons x r =>
    have e : runOld s (noise (x :: r)) = ⟨s.pending, s.queue, (s.nextID + (r.length + 1)) % idMod⟩ := by
      show runOld (publishOld true x.1 x.2 s).1 (noise r) = _
      rw [publishOld_online, publishAt_fst_of_ne (hl x List.mem_cons_self),
        runOld_noise r (fun y hy => hl y (List.mem_cons_of_mem _ hy)), Nat.add_assoc, Nat.add_comm 1]
    rw [e]
    exact .inl ⟨rfl, rfl, rfl⟩

theorem runOld_append (a b : List Ev) : ∀ s, runOld s (a ++ b) = runOld (runOld s a) b := by
  induction a with
  | nil => exact fun _ => rfl
  | cons e r ih => exact fun _ => ih _

/-- the wrap history: `m`, the publishes of `l`, `m'` — used with `m`, `m'` QoS1 and `l` 65 535 publishes of other QoS -/
def wrapTrace (f f' : Bool) (m m' : Msg) (l : List (Bool × Msg)) : List Ev :=
  Ev.publish true f m :: (noise l ++ [Ev.publish true f' m'])

section
variable (f f' : Bool) (m m' : Msg) (l : List (Bool × Msg)) (h1 : m.qos = 1) (h1' : m'.qos = 1)
  (hl : ∀ p ∈ l, p.2.qos ≠ 1) (hlen : l.length = 65535)
include h1 h1' hl hlen

/-- the noise consumes the ids 1 … 65 535, so `m'` gets id 0 again and replaces the unacknowledged `m` in `pending` -/
theorem runOld_wrapTrace :
    runOld Sess.init (wrapTrace f f' m m' l) = ⟨[(0, m')], [0, 0], 1⟩ := by
  show runOld (publishOld true f m Sess.init).1 (noise l ++ [Ev.publish true f' m']) = _
  rw [runOld_append, publishOld_online, publishAt_qos1 h1]
  show (publishOld true f' m' (runOld ⟨[(0, m)], [0], 1 % idMod⟩ (noise l))).1 = _
  rw [runOld_noise l hl, hlen, publishOld_online, publishAt_qos1 h1']
  rfl

/-- on the repaired code the ids 1 … 65 535 the noise passes are free, and `m'` skips the still-pending id 0 -/
theorem run_wrapTrace :
    run Sess.init (wrapTrace f f' m m' l) = ⟨[(0, m), (1, m')], [0, 1], 2⟩ := by
  have hfree : ∀ j < l.length, alGet ((1 + j) % idMod) [(0, m)] = none := fun j hj => by
    have : ¬ 0 = (1 + j) % idMod := by
      rw [hlen] at hj
      unfold idMod
      omega
    simp only [alGet, if_neg this]
  have hf : freeId [(0, m)] 0 = 1 := freeId_skip_one (m := m) rfl rfl
  show run (publish true f m Sess.init).1 (noise l ++ [Ev.publish true f' m']) = _
  rw [run_append, publish_online, freeId_of_free rfl, publishAt_qos1 h1]
  show (publish true f' m' (run ⟨[(0, m)], [0], 1 % idMod⟩ (noise l))).1 = _
  rw [run_noise l hl _ _ 1 hfree, hlen, publish_online]
  show (publishAt (freeId [(0, m)] 0) f' m' _).1 = _
  rw [hf, publishAt_qos1 h1']
  rfl

end

theorem outputsOld_noPublish (tr : List Ev) (h : NoPublish tr) : ∀ (s : Sess),
    ∀ p ∈ outputsOld s tr, ∃ e ∈ s.pending, p = pkt e.1 e.2 := by
  induction tr with
  | nil => intro s p hp; cases hp
  | cons x t ih =>
    intro s p hp
    cases x with
    | publish o f m => exact absurd rfl (h _ List.mem_cons_self o f m)
    | puback k =>
      obtain ⟨e, he, rfl⟩ := ih h.tail _ p hp
      exact ⟨e, (List.mem_filter.mp he).1, rfl⟩
    | tick o =>
      rcases List.mem_append.mp hp with hp | hp
      · exact doResend_out o p hp
      · obtain ⟨e, he, rfl⟩ := ih h.tail _ p hp
        exact ⟨e, (doResend_fst o (s := s)).1 ▸ he, rfl⟩

def traceOld (s : Sess) : List Ev → List (Ev × List Packet)
  | [] => []
  | e :: r => (e, (stepOld s e).2) :: traceOld (stepOld s e).1 r

theorem unackedObs_noise_prefix (l : List (Bool × Msg)) : ∀ (s : Sess) (u : List (Id × Msg)),
    ∃ v, unackedObs u (traceOld s (noise l)) = u ++ v := by
  induction l with
  | nil => exact fun _ u => ⟨[], (List.append_nil u).symm⟩
  | cons x r ih =>
    intro s u
    show ∃ v, unackedObs (obsStep u (.publish true x.1 x.2) (publishOld true x.1 x.2 s).2)
      (traceOld (publishOld true x.1 x.2 s).1 (noise r)) = u ++ v
    rw [publishOld_online, obsStep_publishAt]
    split
    · obtain ⟨v, hv⟩ := ih (publishAt s.nextID x.1 x.2 s).1 (u ++ [(s.nextID, x.2)])
      exact ⟨_ :: v, hv.trans (List.append_assoc ..)⟩
    · exact ih _ u

theorem unackedObs_wrapTrace (f f' : Bool) (m m' : Msg) (l : List (Bool × Msg)) (h1 : m.qos = 1) :
    ∃ v, unackedObs [] (traceOld Sess.init (wrapTrace f f' m m' l)) = (0, m) :: v := by
  have e : wrapTrace f f' m m' l = Ev.publish true f m :: noise (l ++ [(f', m')]) := by
    rw [wrapTrace, noise, noise, List.map_append]
    rfl
  rw [e]
  show ∃ v, unackedObs (obsStep [] (.publish true f m) (publishOld true f m Sess.init).2) (traceOld _ _) = _
  rw [publishOld_online, obsStep_publishAt, if_pos h1]
  exact unackedObs_noise_prefix _ _ [(0, m)]

end EgVerif.SessionQueue
