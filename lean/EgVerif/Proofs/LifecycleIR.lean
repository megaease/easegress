import EgVerif.Proofs.Lifecycle
import EgVerif.Proofs.Lists
import EgVerif.Gen.FactsC20IR
/-!
Regenerated tie by translation for C20 (`notes/IR.md`, `harness/factextract/facts_c20_ir.go`). The
definitions of `Gen.FactsC20IR` are produced on every run by the go/ast micro-translator from the current
bodies of `ObjectRegistry.applyConfig` (the two diff loops → `applyConfigIR`; the closure executed per
watcher → `notifyIR`), `Supervisor.handleEvent` (→ `handleEventIR`) and `TrafficController._cleanSpace`
(→ `cleanSpaceIR`), each `for … range` as a recursive `_loopN`. Proved here: they are the hand-written
`diff` / `notify` / `handleEvent` (with the supervisor's parameters) / `cleanSpace` of
`Model/Lifecycle.lean` on all arguments, the maps ranged over having unique keys (Go maps). A changed test,
branch, target map or probe in the source changes the generated definition and breaks these proofs.
-/
set_option linter.unusedSimpArgs false
set_option linter.unusedVariables false
namespace EgVerif.Lifecycle
open EgVerif.Gen.FactsC20IR

theorem Map.set_eq_append {m : Map Name Entity} {n : Name} (e : Entity) (h : ∀ d ∈ m, d.1 ≠ n) :
    m.set n e = m ++ [(n, e)] := by
  unfold Map.set Map.del
  congr 1
  apply List.filter_eq_self.mpr
  intro d hd
  simpa using h d hd

/-- The loops of `applyConfig` that move the entries satisfying `p` from the ranged-over map into
another map `E` (`E[name] = entity`) and update a third one `W` with them: since the keys of a Go map
are unique and none is in `E` yet, `E` gains exactly those entries, in order. -/
theorem foldl_move (p : Name × Entity → Bool)
    (u : Map Name Entity → Name × Entity → Map Name Entity) :
    ∀ (l W E : Map Name Entity), l.WF → (∀ d ∈ E, ∀ x ∈ l, d.1 ≠ x.1) →
      l.foldl (fun s x => if p x then (u s.1 x, s.2.set x.1 x.2) else s) (W, E) =
        ((l.filter p).foldl u W, E ++ l.filter p)
  | [], W, E, _, _ => by simp
  | x :: r, W, E, wf, hE => by
    obtain ⟨hx, wf'⟩ := Map.wf_cons.mp wf
    have hE' : ∀ d ∈ E, ∀ y ∈ r, d.1 ≠ y.1 := fun d hd y hy => hE d hd y (List.mem_cons_of_mem _ hy)
    rw [List.foldl_cons]
    by_cases hp : p x = true
    · rw [if_pos hp, Map.set_eq_append x.2 (fun d hd => hE d hd x List.mem_cons_self),
        foldl_move p u r _ _ wf' (fun d hd y hy => by
          rcases List.mem_append.mp hd with h | h
          · exact hE' d h y hy
          · rw [List.mem_singleton.mp h]
            exact fun e => Map.get_eq_none.mp hx (List.mem_map.mpr ⟨y, hy, e.symm⟩))]
      simp [List.filter_cons, hp]
    · rw [if_neg hp, foldl_move p u r W E wf' hE']
      simp [List.filter_cons, hp]

theorem foldl_del_eq_filter : ∀ (l E : Map Name Entity),
    l.foldl (fun m e => m.del e.1) E = E.filter (fun e => !l.any (fun x => decide (x.1 = e.1)))
  | [], E => by simp
  | x :: r, E => by
    rw [List.foldl_cons, foldl_del_eq_filter r, Map.del, List.filter_filter]
    apply List.filter_congr
    intro a _
    simp [Bool.and_comm, eq_comm]

/-! ### `ObjectRegistry.applyConfig` (diff part) -/

/-- `for name, entity := range or.entities { if _, exists := config[name]; !exists { delete(or.entities,
name); deleted[name] = entity } }` -/
theorem applyConfig_regenerated_from_source_loop1 (g : Nat) (es : Map Name Entity) (cfg : Config)
    (created updated : Map Name Entity) (l E D : Map Name Entity) :
    applyConfigIR_loop1 g es cfg E D created updated l =
      .inr (l.foldl (fun s x => if (cfg.get x.1).isNone then (s.1.del x.1, s.2.set x.1 x.2) else s)
        (E, D)) :=
  loop_eq_foldl (fun s l => applyConfigIR_loop1 g es cfg s.1 s.2 created updated l) _ id
    (fun _ => rfl)
    (fun s x r => by
      obtain ⟨n, e⟩ := x
      rw [applyConfigIR_loop1]
      cases hc : cfg.get n <;> simp [cfgLookup, hc, mapSetPtr])
    l (E, D)

/-- `for name, yamlConfig := range config { … }` is the fold of the model's `diffStep`. -/
theorem applyConfig_regenerated_from_source_loop2 (g : Nat) (es : Map Name Entity) (cfg : Config)
    (l : Config) (d : Diff) :
    applyConfigIR_loop2 g es cfg d.ents d.deleted d.created d.updated l =
      .inr ((l.foldl (diffStep g) d).ents, (l.foldl (diffStep g) d).deleted,
            (l.foldl (diffStep g) d).created, (l.foldl (diffStep g) d).updated) :=
  loop_eq_foldl (fun d l => applyConfigIR_loop2 g es cfg d.ents d.deleted d.created d.updated l)
    (diffStep g) (fun d => (d.ents, d.deleted, d.created, d.updated)) (fun _ => rfl)
    (fun d x r => by
      obtain ⟨n, y⟩ := x
      rw [applyConfigIR_loop2]
      cases y with
      | none => rfl
      | some kb =>
        obtain ⟨k, b⟩ := kb
        obtain ⟨o, hE⟩ : ∃ o, d.ents.get n = o := ⟨_, rfl⟩
        simp only [newEntity, Bool.false_eq_true, if_false, entLookup, diffStep, hE]
        cases o with
        | none => rfl
        | some p =>
          simp only [Option.isSome_some, Bool.true_and, specEquals, specKind, Option.map_some]
          by_cases h1 : p.kind = k
          · by_cases h2 : p.body = b
            · simp [h1, h2]
            · simp [h1, h2, mapSetPtr]
          · simp [h1, mapSetPtr])
    l d

/-- The definition regenerated from the body of `applyConfig` is the model's `diff`, for every
snapshot index `g`, every registry map `ents` with unique keys (it is a Go map; `Inv.wf` holds in
every reachable state) and every snapshot `cfg`. -/
theorem applyConfig_regenerated_from_source (g : Nat) (ents : Map Name Entity) (cfg : Config)
    (wf : ents.WF) : applyConfigIR g ents cfg = diff g ents cfg := by
  unfold applyConfigIR diff
  simp only
  rw [applyConfig_regenerated_from_source_loop1,
    foldl_move (fun x => (cfg.get x.1).isNone) (fun m x => m.del x.1) ents ents [] wf (by simp),
    foldl_del_eq_filter]
  simp only [List.nil_append]
  rw [applyConfig_regenerated_from_source_loop2 g ents cfg cfg ⟨_, _, [], []⟩]
  have hE : ents.filter (fun e => !(ents.filter fun x => (cfg.get x.1).isNone).any (fun x => decide (x.1 = e.1))) =
      ents.filter (fun e => (cfg.get e.1).isSome) := by
    apply List.filter_congr
    intro a ha
    cases hc : cfg.get a.1 with
    | some y =>
      simp only [Option.isSome_some, Bool.not_eq_true']
      rw [List.any_eq_false]
      intro x hx
      by_cases hxa : x.1 = a.1
      · simp [hxa, hc] at hx
      · simp [hxa]
    | none =>
      simp only [Option.isSome_none, Bool.not_eq_false']
      rw [List.any_eq_true]
      exact ⟨a, List.mem_filter.mpr ⟨ha, by simp [hc]⟩, by simp⟩
  rw [hE]

/-! ### the per-watcher closure of `applyConfig` -/

/-- `for name, entity := range deleted { if watcher.filter(entity) { event.Delete[name] = entity;
delete(watcher.entities, name) } }` -/
theorem applyConfig_notify_regenerated_from_source_loop1 (P : Params) (w0 dl cr up : Map Name Entity)
    (sent : Bool) (evCre evUpd : Map Name Entity) (event : Unit) (l W E : Map Name Entity) :
    notifyIR_loop1 P w0 dl cr up sent W E evCre evUpd event l =
      .inr (l.foldl (fun s x => if P.passes x.2 then (s.1.del x.1, s.2.set x.1 x.2) else s) (W, E)) :=
  loop_eq_foldl (fun s l => notifyIR_loop1 P w0 dl cr up sent s.1 s.2 evCre evUpd event l) _ id
    (fun _ => rfl) (fun _ _ _ => rfl) l (W, E)

/-- `for name, entity := range created { if watcher.filter(entity) { event.Create[name] = entity;
watcher.entities[name] = entity } }` -/
theorem applyConfig_notify_regenerated_from_source_loop2 (P : Params) (w0 dl cr up : Map Name Entity)
    (sent : Bool) (evDel evUpd : Map Name Entity) (event : Unit) (l W E : Map Name Entity) :
    notifyIR_loop2 P w0 dl cr up sent W evDel E evUpd event l =
      .inr (l.foldl (fun s x => if P.passes x.2 then (s.1.set x.1 x.2, s.2.set x.1 x.2) else s) (W, E)) :=
  loop_eq_foldl (fun s l => notifyIR_loop2 P w0 dl cr up sent s.1 evDel s.2 evUpd event l) _ id
    (fun _ => rfl) (fun _ _ _ => rfl) l (W, E)

/-- `for name, entity := range updated { if watcher.filter(entity) { event.Update[name] = entity;
watcher.entities[name] = entity } }` -/
theorem applyConfig_notify_regenerated_from_source_loop3 (P : Params) (w0 dl cr up : Map Name Entity)
    (sent : Bool) (evDel evCre : Map Name Entity) (event : Unit) (l W E : Map Name Entity) :
    notifyIR_loop3 P w0 dl cr up sent W evDel evCre E event l =
      .inr (l.foldl (fun s x => if P.passes x.2 then (s.1.set x.1 x.2, s.2.set x.1 x.2) else s) (W, E)) :=
  loop_eq_foldl (fun s l => notifyIR_loop3 P w0 dl cr up sent s.1 evDel evCre s.2 event l) _ id
    (fun _ => rfl) (fun _ _ _ => rfl) l (W, E)

private theorem sent_iff (A B C : Map Name Entity) :
    decide ((((A.length : Int) + (B.length : Int)) + (C.length : Int)) > 0) =
      !(A.isEmpty && B.isEmpty && C.isEmpty) := by
  cases A <;> cases B <;> cases C <;> simp <;> omega

/-- The definition regenerated from the per-watcher closure of `applyConfig` is the model's `notify`
(new `watcher.entities`, the event) together with "the event is sent iff it is not empty" (`stepW`),
for every watcher filter, every `watcher.entities` and every diff whose three maps have unique keys
(Go maps; `diff_wf`). -/
theorem applyConfig_notify_regenerated_from_source (P : Params) (wents : Map Name Entity) (d : Diff)
    (hd : d.deleted.WF) (hc : d.created.WF) (hu : d.updated.WF) :
    notifyIR P wents d.deleted d.created d.updated false =
      ((notify P wents d).1, (notify P wents d).2, !(notify P wents d).2.isEmpty) := by
  unfold notifyIR notify
  simp only
  rw [applyConfig_notify_regenerated_from_source_loop1,
    foldl_move (fun x => P.passes x.2) (fun m x => m.del x.1) _ _ [] hd (by simp)]
  simp only [List.nil_append]
  rw [applyConfig_notify_regenerated_from_source_loop2,
    foldl_move (fun x => P.passes x.2) (fun m x => m.set x.1 x.2) _ _ [] hc (by simp)]
  simp only [List.nil_append]
  rw [applyConfig_notify_regenerated_from_source_loop3,
    foldl_move (fun x => P.passes x.2) (fun m x => m.set x.1 x.2) _ _ [] hu (by simp)]
  simp only [List.nil_append, sent_iff, Event.isEmpty]
  cases (List.filter (fun e => P.passes e.2) d.deleted).isEmpty &&
    (List.filter (fun e => P.passes e.2) d.created).isEmpty &&
    (List.filter (fun e => P.passes e.2) d.updated).isEmpty <;> rfl

/-! ### `Supervisor.handleEvent` -/

/-- The supervisor as a consumer: one `sync.Map` (slot 0), "already existed" checked before a create,
no namespace object; the three `range event.X` loops in list order. -/
def supParams (P : Params) : Params :=
  { P with slot := fun _ => 0, createChecks := true, namespaced := false, order := fun _ _ m => m }

theorem handleEvent_regenerated_from_source_loop1 (P : Params) (c0 : CState) (ev : Event)
    (l : Map Name Entity) (c : CState) :
    handleEventIR_loop1 P c0 ev c.store c.log l =
      .inr ((l.foldl (delStep (supParams P)) c).store, (l.foldl (delStep (supParams P)) c).log) :=
  loop_eq_foldl (fun c l => handleEventIR_loop1 P c0 ev c.store c.log l) (delStep (supParams P))
    (fun c => (c.store, c.log)) (fun _ => rfl)
    (fun c x r => by
      obtain ⟨n, e⟩ := x
      rw [handleEventIR_loop1]
      cases ho : c.store.get (0, n) with
      | none => simp [syncLoad, ho, Map.del_of_get_none ho, delStep, supParams]
      | some old => simp [syncLoad, ho, ptrCall, delStep, supParams, callClose])
    l c

theorem handleEvent_regenerated_from_source_loop2 (P : Params) (c0 : CState) (ev : Event)
    (l : Map Name Entity) (c : CState) :
    handleEventIR_loop2 P c0 ev c.store c.log l =
      .inr ((l.foldl (creStep (supParams P)) c).store, (l.foldl (creStep (supParams P)) c).log) :=
  loop_eq_foldl (fun c l => handleEventIR_loop2 P c0 ev c.store c.log l) (creStep (supParams P))
    (fun c => (c.store, c.log)) (fun _ => rfl)
    (fun c x r => by
      obtain ⟨n, e⟩ := x
      rw [handleEventIR_loop2]
      cases ho : c.store.get (0, n) with
      | none => simp [syncLoad, ho, ptrCall, syncStore, creStep, supParams, callInit]
      | some old => simp [syncLoad, ho, creStep, supParams])
    l c

theorem handleEvent_regenerated_from_source_loop3 (P : Params) (c0 : CState) (ev : Event)
    (l : Map Name Entity) (c : CState) :
    handleEventIR_loop3 P c0 ev c.store c.log l =
      .inr ((l.foldl (updStep (supParams P)) c).store, (l.foldl (updStep (supParams P)) c).log) :=
  loop_eq_foldl (fun c l => handleEventIR_loop3 P c0 ev c.store c.log l) (updStep (supParams P))
    (fun c => (c.store, c.log)) (fun _ => rfl)
    (fun c x r => by
      obtain ⟨n, e⟩ := x
      rw [handleEventIR_loop3]
      cases ho : c.store.get (0, n) with
      | none => simp [syncLoad, ho, updStep, supParams]
      | some prev => simp [syncLoad, ho, ptrCall2, syncStore, updStep, supParams, callInherit])
    l c

theorem handleEvent_ns (P : Params) (hn : P.namespaced = false) (t : Nat) (c : CState) (ev : Event) :
    (handleEvent P t c ev).ns = c.ns := by
  unfold handleEvent
  refine List.foldlRecOn (motive := fun c' => c'.ns = c.ns) _ (updStep P)
    (List.foldlRecOn (motive := fun c' => c'.ns = c.ns) _ (creStep P)
      (List.foldlRecOn (motive := fun c' => c'.ns = c.ns) _ (delStep P) rfl (fun c' h x _ => ?_))
      (fun c' h x _ => ?_))
    (fun c' h x _ => ?_)
  · rw [← h]
    simp only [delStep, hn, Bool.false_and, Bool.false_eq_true, if_false]
    cases c'.store.get (P.slot x.2.kind, x.1) <;> rfl
  · rw [← h]; simp only [creStep, hn]; split <;> rfl
  · rw [← h]
    simp only [updStep, hn, Bool.false_and, Bool.false_eq_true, if_false]
    cases c'.store.get (P.slot x.2.kind, x.1) <;> rfl

/-- The definition regenerated from the body of `Supervisor.handleEvent` is the model's `handleEvent`
with the supervisor's consumer shape (`supParams`), for every consumer state, every event and every
fault assignment. -/
theorem handleEvent_regenerated_from_source (P : Params) (c : CState) (ev : Event) :
    handleEventIR P c ev = handleEvent (supParams P) 0 c ev := by
  have hns := handleEvent_ns (supParams P) rfl 0 c ev
  unfold handleEventIR handleEvent at *
  simp only [handleEvent_regenerated_from_source_loop1 P c ev ev.del c,
    handleEvent_regenerated_from_source_loop2, handleEvent_regenerated_from_source_loop3, ← hns]
  rfl

/-! ### `TrafficController._cleanSpace` -/

theorem cleanSpace_regenerated_from_source (c : CState) : cleanSpaceIR c = cleanSpace c := by
  obtain ⟨store, log, ns⟩ := c
  unfold cleanSpaceIR cleanSpace slotOf
  simp only
  cases h1 : store.filter (fun e => e.1.1 == 1) <;> cases h0 : store.filter (fun e => e.1.1 == 0) <;>
    simp

end EgVerif.Lifecycle
