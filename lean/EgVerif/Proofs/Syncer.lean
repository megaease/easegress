import EgVerif.Spec.Syncer
import EgVerif.Proofs.Lists
import Batteries.Data.List.Perm
import Mathlib.Tactic.Linarith
/-! What the C19 theorems of `Props/C19.lean` rest on, about the syncer model (`Model/Syncer.lean`): `isDataEqual`
decides equality of maps on lists without duplicate keys; the invariant `Inv` of `run` under admissible pull
outcomes; convergence at a pull of the current store state; the invariant `ChanInv` of the 10-slot channel. -/
namespace EgVerif.Syncer

def keys (d : Data) : List String := d.map Prod.fst

/-- A Go map holds each key once. `Data` does not enforce it: the theorems that need it assume it of the store
states `S i`. -/
def IsMap (d : Data) : Prop := (keys d).Nodup

def MapEq (a b : Data) : Prop := ∀ k, a.lookup k = b.lookup k

theorem isMap_nil : IsMap [] := List.nodup_nil

theorem lookup_of_mem {d : Data} (h : IsMap d) {k : String} {v : Option KV} (hm : (k, v) ∈ d) :
    d.lookup k = some v := by
  induction d with
  | nil => cases hm
  | cons e rest ih =>
    obtain ⟨k', v'⟩ := e
    have hn : k' ∉ keys rest ∧ IsMap rest := List.nodup_cons.mp h
    rcases List.mem_cons.mp hm with heq | hin
    · cases heq; exact List.lookup_cons_self
    · have hne : k ≠ k' := fun hk => hn.1 (hk ▸ List.mem_map_of_mem (f := Prod.fst) hin)
      rw [List.lookup_cons, beq_false_of_ne hne]
      exact ih hn.2 hin

theorem mem_of_lookup {d : Data} {k : String} {v : Option KV} (h : d.lookup k = some v) :
    (k, v) ∈ d :=
  EgVerif.mem_of_lookup h

theorem lookup_none_iff {d : Data} {k : String} : d.lookup k = none ↔ k ∉ keys d := by
  rw [List.lookup_eq_none_iff, keys, List.mem_map]
  constructor
  · rintro h ⟨p, hp, rfl⟩
    exact absurd rfl (bne_iff_ne.mp (h p hp))
  · intro h p hp
    exact bne_iff_ne.mpr fun hk => h ⟨p, hp, hk.symm⟩

theorem isKeyValueEqual_iff (a b : Option KV) : isKeyValueEqual a b = true ↔ a = b := by
  rcases a with _ | ⟨xk, xv⟩ <;> rcases b with _ | ⟨yk, yv⟩ <;> simp [isKeyValueEqual]

theorem isDataEqual_unfold (d1 d2 : Data) :
    isDataEqual d1 d2 = true ↔ d1.length = d2.length ∧ ∀ e ∈ d1, d2.lookup e.1 = some e.2 := by
  have hent : ∀ e : String × Option KV,
      (match d2.lookup e.1 with
        | none => false
        | some kv2 => isKeyValueEqual e.2 kv2) = true ↔ d2.lookup e.1 = some e.2 := by
    intro e
    cases d2.lookup e.1 with
    | none => exact ⟨fun h => Bool.noConfusion h, fun h => nomatch h⟩
    | some kv2 => rw [isKeyValueEqual_iff, Option.some_inj, eq_comm]
  unfold isDataEqual
  by_cases hl : d1.length = d2.length
  · rw [if_neg (by rw [hl, bne_self_eq_false]; exact Bool.false_ne_true), List.all_eq_true]
    exact ⟨fun h => ⟨hl, fun e he => (hent e).mp (h e he)⟩, fun h e he => (hent e).mpr (h.2 e he)⟩
  · rw [if_pos (bne_iff_ne.mpr hl)]
    exact ⟨fun h => Bool.noConfusion h, fun h => absurd h.1 hl⟩

theorem dataEqual_mapEq {d1 d2 : Data} (h1 : IsMap d1) (h2 : IsMap d2) :
    isDataEqual d1 d2 = true ↔ MapEq d1 d2 := by
  rw [isDataEqual_unfold]
  constructor
  · rintro ⟨hlen, hall⟩ k
    cases hk : d1.lookup k with
    | some v => exact (hall (k, v) (mem_of_lookup hk)).symm
    | none =>
      -- pigeonhole: the keys of `d1` are distinct, all among those of `d2` and as many, so `d2` has no other key
      have hsub : keys d1 ⊆ keys d2 := by
        intro x hx
        obtain ⟨e, he, rfl⟩ := List.mem_map.mp hx
        by_contra hc
        have := hall e he
        rw [lookup_none_iff.mpr hc] at this
        cases this
      have hperm : (keys d1).Perm (keys d2) :=
        (List.subperm_of_subset h1 hsub).perm_of_length_le (by simp [keys, hlen])
      exact (lookup_none_iff.mpr fun hc => lookup_none_iff.mp hk (hperm.mem_iff.mpr hc)).symm
  · intro h
    have hmem : ∀ k, k ∈ keys d1 ↔ k ∈ keys d2 := fun k => by
      rw [← not_iff_not, ← lookup_none_iff, ← lookup_none_iff, h k]
    refine ⟨?_, fun e he => h e.1 ▸ lookup_of_mem h1 he⟩
    simpa [keys] using ((List.perm_ext_iff_of_nodup h1 h2).mpr hmem).length_eq

theorem isDataEqual_refl {d : Data} (h : IsMap d) : isDataEqual d d = true :=
  (dataEqual_mapEq h h).mpr fun _ => rfl

theorem not_mapEq_of_isDataEqual_false {d1 d2 : Data} (h1 : IsMap d1) (h2 : IsMap d2)
    (h : isDataEqual d1 d2 = false) : ¬ MapEq d1 d2 :=
  fun hm => Bool.noConfusion (((dataEqual_mapEq h1 h2).mpr hm).symm.trans h)

/-- Snapshots newest first: each differs from its predecessor, the oldest differs from the
empty map. -/
def DifferChain : List (Nat × Data) → Prop
  | [] => True
  | [(_, d)] => isDataEqual [] d = false
  | (_, d2) :: (i1, d1) :: rest => isDataEqual d1 d2 = false ∧ DifferChain ((i1, d1) :: rest)

structure Inv (S : Nat → Data) (st : St) : Prop where
  idx_le : st.idx ≤ st.cur
  last_view : st.last = view st
  fresh : st.pulled = false → st.sentRev = []
  tracks : st.pulled = true → isDataEqual st.last (S st.idx) = true
  real : ∀ p ∈ st.sentRev, p.2 = S p.1 ∧ p.1 ≤ st.idx
  sorted : st.sentRev.Pairwise (fun a b => b.1 < a.1)
  differ : DifferChain st.sentRev

variable {S : Nat → Data} {st : St}

theorem pullCompareSend_same {i : Nat} (h : isDataEqual st.last (S i) = true) :
    pullCompareSend S st (some i) = { st with idx := i, pulled := true } := by
  simp only [pullCompareSend, h, Bool.not_true, Bool.false_eq_true, ↓reduceIte]

theorem pullCompareSend_new {i : Nat} (h : isDataEqual st.last (S i) = false) :
    pullCompareSend S st (some i) =
      { st with idx := i, pulled := true, last := S i, sentRev := (i, S i) :: st.sentRev } := by
  simp only [pullCompareSend, h, Bool.not_false, ↓reduceIte]

section
variable (S)

theorem pullCompareSend_cur (st : St) (r : Option Nat) : (pullCompareSend S st r).cur = st.cur := by
  cases r with
  | none => rfl
  | some i => cases h : isDataEqual st.last (S i) <;> simp only [pullCompareSend_same, pullCompareSend_new, h]

theorem inv_start (pre : Nat) : Inv S (St.start pre) :=
  ⟨Nat.zero_le _, rfl, fun _ => rfl, fun h => Bool.noConfusion h, fun _ hp => (nomatch hp), List.Pairwise.nil, trivial⟩

end

theorem differChain_push (h : DifferChain st.sentRev) (i : Nat) {d : Data}
    (hne : isDataEqual (view st) d = false) : DifferChain ((i, d) :: st.sentRev) := by
  obtain ⟨cur, idx, pulled, last, sentRev, restarts⟩ := st
  rcases sentRev with _ | ⟨⟨i1, d1⟩, tl⟩
  · exact hne
  · exact ⟨hne, h⟩

section
variable (hS : ∀ i, IsMap (S i))
include hS

theorem inv_pull (inv : Inv S st) (r : Option Nat)
    (hr : okOutcome st r = true) : Inv S (pullCompareSend S st r) := by
  cases r with
  | none => exact inv
  | some i =>
    simp only [okOutcome, Bool.and_eq_true, decide_eq_true_eq] at hr
    obtain ⟨hlo, hhi⟩ := hr
    have hreal : ∀ p ∈ st.sentRev, p.2 = S p.1 ∧ p.1 ≤ i := fun p hp =>
      ⟨(inv.real p hp).1, le_trans (inv.real p hp).2 hlo⟩
    cases heq : isDataEqual st.last (S i) with
    | true =>
      rw [pullCompareSend_same heq]
      exact ⟨hhi, inv.last_view, fun h => Bool.noConfusion h, fun _ => heq, hreal, inv.sorted, inv.differ⟩
    | false =>
      rw [pullCompareSend_new heq]
      refine ⟨hhi, rfl, fun h => Bool.noConfusion h, fun _ => isDataEqual_refl (hS i), ?_, ?_, ?_⟩
      · intro p hp
        rcases List.mem_cons.mp hp with rfl | hp
        · exact ⟨rfl, le_refl _⟩
        · exact hreal p hp
      · refine List.pairwise_cons.mpr ⟨fun p hp => lt_of_le_of_ne (hreal p hp).2 fun hpi => ?_, inv.sorted⟩
        -- an earlier snapshot read at `i` forces `idx = i`, and then `last` still equals `S i`
        have hidx : st.idx = i := le_antisymm hlo (le_of_eq_of_le hpi.symm (inv.real p hp).2)
        have hpulled : st.pulled = true := by
          cases h : st.pulled with
          | true => rfl
          | false => rw [inv.fresh h] at hp; cases hp
        have htr := inv.tracks hpulled
        rw [hidx, heq] at htr
        cases htr
      · exact differChain_push inv.differ i (inv.last_view ▸ heq)

theorem inv_step (inv : Inv S st) (e : Ev)
    (he : okEv st e = true) : Inv S (step S st e) := by
  cases e with
  | write => exact { inv with idx_le := Nat.le_succ_of_le inv.idx_le }
  | tick r => exact inv_pull hS inv r he
  | watchEvent r => exact inv_pull hS inv r he
  | watchCancel => exact { inv with }
  | progress => exact inv

theorem inv_loop : ∀ (evs : List Ev) {st : St}, Inv S st →
    validLoop S st evs = true → Inv S (loop S st evs)
  | [], _, inv, _ => inv
  | e :: es, st, inv, hv => by
    simp only [validLoop, Bool.and_eq_true] at hv
    exact inv_loop es (inv_step hS inv e hv.1) hv.2

theorem inv_run (pre : Nat) (r0 : Option Nat) (evs : List Ev)
    (hv : validRun S pre r0 evs = true) : Inv S (run S pre r0 evs) :=
  -- by definition `run` is the loop from the start state with the initial `pullCompareSend()` as one more
  -- tick in front, and `validRun` is `validLoop` of that trace
  inv_loop hS (.tick r0 :: evs) (inv_start S pre) hv

theorem Inv.snapshots_isMap (inv : Inv S st) :
    ∀ p ∈ st.sentRev, IsMap p.2 :=
  fun p hp => (inv.real p hp).1 ▸ hS p.1

theorem Inv.view_isMap (inv : Inv S st) : IsMap (view st) := by
  unfold view
  split
  · exact isMap_nil
  · rename_i i d tl heq
    exact inv.snapshots_isMap hS (i, d) (heq ▸ List.mem_cons_self)

theorem Inv.view_mapEq (inv : Inv S st)
    (hp : st.pulled = true) : MapEq (view st) (S st.idx) :=
  (dataEqual_mapEq (inv.view_isMap hS) (hS _)).mp (inv.last_view ▸ inv.tracks hp)

end

section
variable (S)

theorem loop_append : ∀ (a b : List Ev) (st : St), loop S st (a ++ b) = loop S (loop S st a) b
  | [], _, _ => rfl
  | e :: a, b, st => by simp only [List.cons_append, loop]; exact loop_append a b _

theorem validLoop_append : ∀ (a b : List Ev) (st : St),
    validLoop S st (a ++ b) = (validLoop S st a && validLoop S (loop S st a) b)
  | [], _, _ => by simp [validLoop, loop]
  | e :: a, b, st => by
    simp only [List.cons_append, validLoop, loop, validLoop_append a b, Bool.and_assoc]

theorem run_append (pre : Nat) (r0 : Option Nat) (a b : List Ev) :
    run S pre r0 (a ++ b) = loop S (run S pre r0 a) b := loop_append S a b _

theorem validRun_append (pre : Nat) (r0 : Option Nat) (a b : List Ev) :
    validRun S pre r0 (a ++ b) = (validRun S pre r0 a && validLoop S (run S pre r0 a) b) := by
  simp only [validRun, run, validLoop_append, Bool.and_assoc]

theorem step_cur (st : St) (e : Ev) :
    (step S st e).cur = st.cur + if (e == Ev.write) = true then 1 else 0 := by
  cases e with
  | tick r => exact pullCompareSend_cur S st r
  | watchEvent r => exact pullCompareSend_cur S st r
  | _ => rfl

theorem loop_cur : ∀ (evs : List Ev) (st : St), (loop S st evs).cur = st.cur + evs.count Ev.write
  | [], _ => rfl
  | e :: es, st => by
    rw [loop, loop_cur es, step_cur, List.count_cons, Nat.add_assoc, Nat.add_comm (List.count _ _)]

theorem run_cur (pre : Nat) (r0 : Option Nat) (evs : List Ev) :
    (run S pre r0 evs).cur = pre + evs.count Ev.write := by
  rw [run, loop_cur, pullCompareSend_cur]; rfl

end

/-- A converged state: some pull succeeded and the last one read the current store state. -/
def Converged (st : St) : Prop := st.pulled = true ∧ st.idx = st.cur

theorem stable_step (inv : Inv S st) (hc : Converged st) (e : Ev) (hne : e ≠ Ev.write)
    (hok : okEv st e = true) : step S st e = { st with restarts := (step S st e).restarts } := by
  have key : ∀ r, okOutcome st r = true → pullCompareSend S st r = st := by
    intro r hr
    cases r with
    | none => rfl
    | some i =>
      simp only [okOutcome, Bool.and_eq_true, decide_eq_true_eq] at hr
      -- the only admissible read is the state already tracked, so the comparison finds no change
      obtain rfl : st.idx = i := le_antisymm hr.1 (hc.2 ▸ hr.2)
      rw [pullCompareSend_same (inv.tracks hc.1), ← hc.1]
  cases e with
  | write => exact absurd rfl hne
  | tick r => rw [step, key r hok]
  | watchEvent r => rw [step, key r hok]
  | _ => rfl

/-- A successful pull, by the ticker or a watch event, that reads the current store state: what etcd's
linearizable `Get` returns (`okOutcome` also admits older states). -/
def FreshPull (st : St) (e : Ev) : Prop := e = Ev.tick (some st.cur) ∨ e = Ev.watchEvent (some st.cur)

section
variable (S)

theorem converged_of_fresh_pull (st : St) (e : Ev) (he : FreshPull st e) :
    Converged (step S st e) := by
  have key : Converged (pullCompareSend S st (some st.cur)) := by
    cases h : isDataEqual st.last (S st.cur)
    · rw [pullCompareSend_new h]; exact ⟨rfl, rfl⟩
    · rw [pullCompareSend_same h]; exact ⟨rfl, rfl⟩
  rcases he with rfl | rfl
  · exact key
  · exact key

end

section
variable (hS : ∀ i, IsMap (S i))
include hS

theorem Inv.converged_view (inv : Inv S st)
    (hc : Converged st) : MapEq (view st) (S st.cur) :=
  hc.2 ▸ inv.view_mapEq hS hc.1

theorem stable_loop : ∀ (evs : List Ev) {st : St}, Inv S st → Converged st →
    Ev.write ∉ evs → validLoop S st evs = true →
    loop S st evs = { st with restarts := (loop S st evs).restarts }
  | [], _, _, _, _, _ => rfl
  | e :: es, st, inv, hc, hw, hv => by
    simp only [validLoop, Bool.and_eq_true] at hv
    obtain ⟨hne, hes⟩ := not_or.mp (List.mem_cons.not.mp hw)
    have h1 := stable_step inv hc e (Ne.symm hne) hv.1
    have hc' : Converged (step S st e) := by rw [h1]; exact hc
    exact (stable_loop es (inv_step hS inv e hv.1) hc' hes hv.2).trans
      (congrArg (fun s : St => { s with restarts := (loop S (step S st e) es).restarts }) h1)

theorem Inv.fresh_pull_view (inv : Inv S st) (e : Ev)
    (he : FreshPull st e) : MapEq (view (step S st e)) (S st.cur) := by
  have hok : okEv st e = true := by
    rcases he with rfl | rfl <;> simp [okEv, okOutcome, inv.idx_le]
  have hcur : (step S st e).cur = st.cur := by
    rcases he with rfl | rfl <;> exact pullCompareSend_cur S st _
  exact hcur ▸ (inv_step hS inv e hok).converged_view hS (converged_of_fresh_pull S st e he)

end

/-! ### The channel between `send` and the consumer: nothing is lost, duplicated or reordered -/

structure ChanInv (st : St) (c : Chan) : Prop where
  conserve : c.recvd ++ c.buf ++ c.pending.toList = st.sentRev.reverse.map Prod.snd
  cap : c.buf.length ≤ chanCap
  full : c.pending.isSome = true → c.buf.length = chanCap

section
variable (S)

theorem step_sent (st : St) (e : Ev) :
    (step S st e).sentRev = st.sentRev ∨ ∃ x, (step S st e).sentRev = x :: st.sentRev := by
  have key : ∀ r, (pullCompareSend S st r).sentRev = st.sentRev ∨
      ∃ x, (pullCompareSend S st r).sentRev = x :: st.sentRev := by
    intro r
    cases r with
    | none => exact Or.inl rfl
    | some i =>
      cases h : isDataEqual st.last (S i)
      · rw [pullCompareSend_new h]; exact Or.inr ⟨_, rfl⟩
      · rw [pullCompareSend_same h]; exact Or.inl rfl
  cases e with
  | tick r => exact key r
  | watchEvent r => exact key r
  | _ => exact Or.inl rfl

theorem newlySent_same {st st' : St} (h : st'.sentRev = st.sentRev) : newlySent st st' = none := by
  rw [newlySent, h, if_neg (Nat.lt_irrefl _)]

theorem newlySent_cons {st st' : St} (x : Nat × Data) (h : st'.sentRev = x :: st.sentRev) :
    newlySent st st' = some x.2 := by
  rw [newlySent, h, List.length_cons, if_pos (Nat.lt_succ_self _)]; rfl

/-- One equation for every `.env e`, with the test in the form `effective` has it (`cstep` treats `write` in a
case of its own). -/
theorem cstep_env (p : St × Chan) (e : Ev) :
    cstep S p (.env e) =
      if (e != Ev.write && p.2.pending.isSome) = true then p
      else (step S p.1 e, match newlySent p.1 (step S p.1 e) with
                          | none => p.2
                          | some d => p.2.send d) := by
  cases e with
  | write => rw [newlySent_same (st := p.1) (st' := step S p.1 .write) rfl]; rfl
  | _ => rfl -- the loop events: the condition reduces to `p.2.pending.isSome`

theorem chanInv_consume {c : Chan} (h : ChanInv st c) : ChanInv st c.consume := by
  obtain ⟨buf, pending, recvd⟩ := c
  obtain ⟨h1, h2, h3⟩ := h
  cases buf with
  | nil => exact ⟨h1, h2, h3⟩
  | cons d rest =>
    cases pending with
    | none =>
      refine ⟨?_, Nat.le_of_succ_le h2, fun hp => Bool.noConfusion hp⟩
      simpa [Chan.consume, List.append_assoc] using h1
    | some q =>
      -- the buffer was full, so one slot is free for the value of the blocked send
      have hfull : rest.length + 1 = chanCap := h3 rfl
      refine ⟨?_, ?_, fun hp => Bool.noConfusion hp⟩
      · simpa [Chan.consume, List.append_assoc] using h1
      · exact (List.length_append (as := rest) (bs := [q])).trans_le hfull.le

theorem chanInv_send {c : Chan} (h : ChanInv st c) (hp : c.pending = none) (x : Nat × Data)
    {st' : St} (hs : st'.sentRev = x :: st.sentRev) : ChanInv st' (c.send x.2) := by
  obtain ⟨buf, pending, recvd⟩ := c
  obtain ⟨h1, h2, h3⟩ := h
  simp only at hp; subst hp
  simp only [Option.toList, List.append_nil] at h1
  have hc : st'.sentRev.reverse.map Prod.snd = recvd ++ buf ++ [x.2] := by
    rw [hs, List.reverse_cons, List.map_append, ← h1]; rfl
  unfold Chan.send
  split
  · rename_i hl
    refine ⟨?_, (List.length_append (as := buf) (bs := [x.2])).trans_le hl, fun hp => Bool.noConfusion hp⟩
    simp only [hc, Option.toList, List.append_nil, List.append_assoc]
  · rename_i hl
    exact ⟨hc.symm, h2, fun _ => le_antisymm h2 (Nat.le_of_not_lt hl)⟩

theorem chanInv_cstep {p : St × Chan} (h : ChanInv p.1 p.2) (e : CEv) :
    ChanInv (cstep S p e).1 (cstep S p e).2 := by
  cases e with
  | consume => exact chanInv_consume h
  | env e =>
    by_cases hw : e = Ev.write
    · subst hw; exact { h with }
    · rw [cstep_env]
      split
      · exact h
      · rename_i hb
        have hnone : p.2.pending = none := by simpa [hw] using hb
        rcases step_sent S p.1 e with hs | ⟨x, hs⟩
        · rw [newlySent_same hs]
          exact { h with conserve := hs ▸ h.conserve }
        · rw [newlySent_cons x hs]
          exact chanInv_send h hnone x hs

theorem chanInv_cloop : ∀ (evs : List CEv) {p : St × Chan}, ChanInv p.1 p.2 →
    ChanInv (cloop S p evs).1 (cloop S p evs).2
  | [], _, h => h
  | e :: es, _, h => chanInv_cloop es (chanInv_cstep S h e)

theorem chanInv_empty (pre : Nat) : ChanInv (St.start pre) Chan.empty :=
  ⟨rfl, Nat.zero_le _, fun h => Bool.noConfusion h⟩

theorem chanInv_cstart (pre : Nat) (r0 : Option Nat) :
    ChanInv (cstart S pre r0).1 (cstart S pre r0).2 :=
  -- by definition `cstart` is the system's step for the initial `pullCompareSend()` from the empty channel
  chanInv_cstep S (p := (St.start pre, Chan.empty)) (chanInv_empty pre) (.env (.tick r0))

theorem chanInv_crun (pre : Nat) (r0 : Option Nat) (evs : List CEv) :
    ChanInv (crun S pre r0 evs).1 (crun S pre r0 evs).2 :=
  chanInv_cloop S evs (chanInv_cstart S pre r0)

theorem cloop_fst : ∀ (evs : List CEv) (p : St × Chan),
    (cloop S p evs).1 = loop S p.1 (effective S p evs)
  | [], _ => rfl
  | .consume :: es, p => by
    rw [cloop, effective, cloop_fst es]; rfl
  | .env e :: es, p => by
    rw [cloop, effective, cloop_fst es, cstep_env]
    by_cases hb : (e != Ev.write && p.2.pending.isSome) = true
    · rw [if_pos hb, if_pos hb]
    · rw [if_neg hb, if_neg hb]; rfl

theorem crun_fst (pre : Nat) (r0 : Option Nat) (evs : List CEv) :
    (crun S pre r0 evs).1 = run S pre r0 (effective S (cstart S pre r0) evs) := by
  unfold crun run; rw [cloop_fst]; rfl

/-- Receives it takes to empty the channel: a blocked send moves into the buffer when a slot is freed. -/
def Chan.load (c : Chan) : Nat := c.buf.length + c.pending.toList.length

theorem cloop_append : ∀ (a b : List CEv) (p : St × Chan), cloop S p (a ++ b) = cloop S (cloop S p a) b
  | [], _, _ => rfl
  | e :: a, b, p => by simp only [List.cons_append, cloop]; exact cloop_append a b _

theorem consume_load {c : Chan} (h : ChanInv st c) : c.consume.load = c.load - 1 := by
  obtain ⟨buf, pending, recvd⟩ := c
  cases buf with
  | nil =>
    cases pending with
    | none => rfl
    | some q => have := h.full rfl; simp [chanCap] at this
  | cons d rest =>
    cases pending with
    | none => rfl
    | some q => exact congrArg (· + 0) (List.length_append (as := rest) (bs := [q]))

theorem drain_consumes : ∀ (n : Nat) (p : St × Chan), ChanInv p.1 p.2 → p.2.load ≤ n →
    (cloop S p (List.replicate n CEv.consume)).2.buf = [] ∧
    (cloop S p (List.replicate n CEv.consume)).2.pending = none ∧
    (cloop S p (List.replicate n CEv.consume)).1 = p.1
  | 0, p, _, hl => by
    obtain ⟨st, ⟨buf, pending, recvd⟩⟩ := p
    have h0 : buf.length + pending.toList.length = 0 := Nat.le_zero.mp hl
    cases pending with
    | none => exact ⟨List.length_eq_zero_iff.mp h0, rfl, rfl⟩
    | some q => exact absurd h0 (Nat.succ_ne_zero _)
  | n + 1, p, h, hl => by
    have hl' : (cstep S p .consume).2.load ≤ n := by
      rw [show (cstep S p .consume).2 = p.2.consume from rfl, consume_load h]
      exact Nat.sub_le_of_le_add hl
    exact drain_consumes n (cstep S p .consume) (chanInv_cstep S h .consume) hl'

theorem ChanInv.load_le {c : Chan} (h : ChanInv st c) : c.load ≤ chanCap + 1 := by
  have hp : c.pending.toList.length ≤ 1 := by cases c.pending <;> simp
  exact Nat.add_le_add h.cap hp

end

end EgVerif.Syncer
