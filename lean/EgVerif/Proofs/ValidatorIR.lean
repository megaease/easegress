import EgVerif.Proofs.Validator
import EgVerif.Gen.FactsC06IR
import EgVerif.Gen.FactsC06JwtIR
import EgVerif.Gen.FactsC06HandleIR
import EgVerif.Gen.FactsC06HdrIR
import EgVerif.Gen.FactsC06OAuthIR
import EgVerif.Gen.FactsC06ReloadIR
/-!
Regenerated tie by translation for C06, validator package (`notes/IR.md`):
`Gen.FactsC06IR` / `FactsC06JwtIR` / `FactsC06HandleIR` / `FactsC06HdrIR` / `FactsC06OAuthIR` / `FactsC06ReloadIR` are produced on
every run by the go/ast micro-translator from the current bodies of
`parseCredentials`, `parseBasicAuthorizationHeader`, `BasicAuthValidator.Validate`, `JWTValidator.Validate`
(and the key function literal it hands to `jwt.Parse`), `Validator.Handle` (and its `prepareErrorResponse`
literal), `httpheader.Validator.Validate` and `OAuth2Validator.Validate` (and its key function literal); they are the
hand-written definitions of `Model/Validator.lean` on every input. `Validator.reload` / `Init` / `Inherit` are translated to
which components they construct. A changed comparison, prefix, split, order of checks or status in the source changes the
generated definition and breaks these proofs.
-/
namespace EgVerif.Validator
open EgVerif.Sha256 (Bytes)
open EgVerif.Signer
open EgVerif.Gen.FactsC06IR EgVerif.Gen.FactsC06JwtIR EgVerif.Gen.FactsC06HandleIR EgVerif.Gen.FactsC06HdrIR
open EgVerif.Gen.FactsC06OAuthIR EgVerif.Gen.FactsC06ReloadIR

theorem parseCredentials_regenerated_from_source (creds : Bytes) : parseCredentialsIR creds = parseCreds creds := by
  unfold parseCredentialsIR parseCreds splitN2
  cases splitFirst 58 creds with
  | none => simp
  | some p => obtain ⟨a, t⟩ := p; simp

theorem hasPrefix_eq_false {s p : Bytes} (h : hasPrefix s p = false) : stripPrefix p s = none := by
  unfold hasPrefix at h
  cases hs : stripPrefix p s with
  | none => rfl
  | some t => simp [hs] at h

theorem b_authorization : b "Authorization" = authHeader := rfl

theorem parseBasicAuthorizationHeader_regenerated_from_source (h : Header) :
    parseBasicAuthorizationHeaderIR h = parseBasicAuthorizationHeader h := by
  unfold parseBasicAuthorizationHeaderIR parseBasicAuthorizationHeader trimPrefix
  simp only [b_authorization]
  cases hs : stripPrefix (b "Basic ") (hget h authHeader) with
  | none => simp [hasPrefix, hs]
  | some t => simp [hasPrefix, hs]

theorem b_empty : b "" = [] := rfl

theorem basicValidate_regenerated_from_source (users : Bytes → Bytes → Bool) (h : Header) :
    basicValidateIR users h = (basicValidate users h).map (fun u => [(b "X-AUTH-USER", u)]) := by
  unfold basicValidateIR basicValidate basicValidateWith optPair optTriple
  cases h1 : parseBasicAuthorizationHeader h with
  | none => simp
  | some tok =>
    cases h2 : Sha256.b64Decode tok with
    | none => simp [h2]
    | some creds =>
      cases h3 : parseCreds creds with
      | none => simp [h2, h3]
      | some up =>
        obtain ⟨u, p⟩ := up
        by_cases hm : users u p = true <;> simp [h2, h3, hm]

theorem jwtKeyFunc_regenerated_from_source (cfg : JwtCfg) (alg : Bytes) : jwtKeyFuncIR cfg alg = jwtKeyFunc cfg alg := by
  unfold jwtKeyFuncIR jwtKeyFunc
  by_cases h : alg = cfg.alg <;> simp [h]

/-- `JWTValidator.Validate` returns an error iff the model rejects -/
theorem jwtValidate_regenerated_from_source (cfg : JwtCfg) (lib : JwtLib) (cookie : Bytes → Option Bytes) (h : Header) :
    jwtValidateIR cfg lib cookie h = !jwtValidate cfg lib cookie h := by
  have kf : jwtKeyFuncIR cfg = jwtKeyFunc cfg := funext (jwtKeyFunc_regenerated_from_source cfg)
  -- the cookie's value, `""` when there is no such cookie: the token unless it is empty
  have tok : (if (cfg.cookieName != []) = true then
        if (!(cookie cfg.cookieName).isNone) = true then (cookie cfg.cookieName).getD [] else [] else []) =
      if cfg.cookieName ≠ [] then (cookie cfg.cookieName).getD [] else [] := by
    cases cookie cfg.cookieName <;> simp
  unfold jwtValidateIR jwtValidate jwtToken cookieE optPair
  simp only [kf, b_authorization, b_empty, tok]
  generalize (if cfg.cookieName ≠ [] then (cookie cfg.cookieName).getD [] else []) = t
  by_cases ht : t = []
  · cases hs : stripPrefix (b "Bearer ") (hget h authHeader) with
    | none => simp [ht, hasPrefix, hs]
    | some t' => simp [ht, hasPrefix, hs, stripPrefix_drop hs]
  · simp [ht]

theorem prepareErrorResponse_regenerated_from_source (status : Int) : prepareErrorResponseIR status = some status := rfl

/-- how the model's `Outcome` shows in Go: the returned string and the status of the response that was set -/
def outcomeGo : Outcome → Bytes × Option Int
  | .pass => ([], none)
  | .invalid s => (b "invalid", some (Int.ofNat s))

theorem sigValidateStd_eq (c : Signer.Cfg) (env : Env) (r : Request) (body : Option Bytes) :
    sigValidateStd c env ⟨r.std, body⟩ = sigValidate c env r body := rfl

/-- `Validator.Handle` (buffered request; OAuth2 validator, if any, in JWT mode) is the model's `handle`: same order of the
checks (headers → JWT → signature → OAuth2 → Basic), first failure wins, 400 for the header rules and 401 otherwise, result
`"invalid"` / `""`, and `Verify` is given the payload. -/
theorem handle_regenerated_from_source (cfg : Cfg) (env : Env) (r : Request) :
    handleIR cfg env r false = outcomeGo (handle cfg env r) := by
  unfold handleIR handle handleWith
  -- `ite_gate` folds the tree of repeated continuations into one chain of five tests, like the model's
  simp only [ite_gate, prepareErrorResponseIR, b_empty, Bool.not_false, if_true, apply_ite outcomeGo]
  refine ite_step (by cases cfg.headers <;> rfl) ?_
  refine ite_step (by cases cfg.jwt <;> rfl) ?_
  refine ite_step (by cases cfg.sig <;> rfl) ?_
  refine ite_step (by cases cfg.oauth2 <;> rfl) ?_
  exact ite_step (by cases cfg.basic <;> rfl) rfl

def firstOK (re : Bytes → Bytes → Bool) (vv : HeaderRule) : List Bytes → Bool
  | [] => false
  | v :: _ => vv.values.contains v || (match vv.regexp with | some p => re p v | none => false)

theorem ruleOK_eq_firstOK (re : Bytes → Bytes → Bool) (h : Header) (r : HeaderRule) :
    ruleOK re h r = firstOK re r (hvals h (canonKey r.key)) := by
  unfold ruleOK
  cases hvals h (canonKey r.key) <;> rfl

/-- inner loop of `httpheader.Validator.Validate` (over the values of one header): only the first value is looked at -/
theorem headerValidate_regenerated_from_source_loop2 (re : Bytes → Bytes → Bool) (h : Header) (rules : List HeaderRule)
    (vs0 : List Bytes) (key : Bytes) (vv : HeaderRule) (vs : List Bytes) :
    headerValidateIR_loop2 re h rules vs0 key vv vs =
      if vs = [] then .inr () else if firstOK re vv vs then .inl (.inr ()) else .inl (.inl true) := by
  cases vs with
  | nil => rfl
  | cons v r =>
    obtain ⟨k, vals, rx⟩ := vv
    simp only [headerValidateIR_loop2, firstOK]
    cases rx with
    | none => by_cases h1 : v ∈ vals <;> simp [h1]
    | some p => by_cases h1 : v ∈ vals <;> by_cases h2 : re p v = true <;> simp [h1, h2]

theorem headerValidate_regenerated_from_source_loop1 (re : Bytes → Bytes → Bool) (h : Header) (rules0 rules : List HeaderRule) :
    headerValidateIR_loop1 re h rules0 (rules.map fun r => (r.key, r)) =
      if rules.all (ruleOK re h) then .inr () else .inl true := by
  induction rules with
  | nil => rfl
  | cons r rs ih =>
    simp only [List.map_cons, headerValidateIR_loop1, headerValidate_regenerated_from_source_loop2, ih, List.all_cons,
      ruleOK_eq_firstOK re h r]
    by_cases hvs : hvals h (canonKey r.key) = []
    · simp [hvs, firstOK]
    · by_cases hok : firstOK re r (hvals h (canonKey r.key)) = true <;> simp [hvs, hok]

/-- `httpheader.Validator.Validate` returns an error iff some configured rule fails (`headersOK`) -/
theorem headerValidate_regenerated_from_source (re : Bytes → Bytes → Bool) (h : Header) (rules : List HeaderRule) :
    headerValidateIR re h rules = !headersOK re h rules := by
  unfold headerValidateIR headersOK
  rw [headerValidate_regenerated_from_source_loop1]
  by_cases hok : rules.all (ruleOK re h) = true <;> simp [hok]

theorem oauthKeyFunc_regenerated_from_source (cfg : JwtCfg) (alg : Bytes) : oauthKeyFuncIR cfg alg = jwtKeyFunc cfg alg := by
  unfold oauthKeyFuncIR jwtKeyFunc
  by_cases h : alg = cfg.alg <;> simp [h]

/-- `OAuth2Validator.Validate` in JWT mode (no introspection endpoint): the bearer token is parsed with the pinned algorithm and
the configured secret; on success `X-Authenticated-Userid` / `X-Authenticated-Scope` are set from the non-empty `sub` / `scope`
string claims. -/
theorem oauthValidate_regenerated_from_source (cfg : JwtCfg) (lib : JwtLib) (cs : Bytes → Bytes → Bytes) (h : Header) :
    oauthValidateIR cfg lib none cs h =
      match stripPrefix (b "Bearer ") (hget h authHeader) with
      | none => none
      | some t => if jwtParse lib t (jwtKeyFunc cfg) then some (oauthHeaders (cs t (b "sub")) (cs t (b "scope"))) else none := by
  have kf : oauthKeyFuncIR cfg = jwtKeyFunc cfg := funext (oauthKeyFunc_regenerated_from_source cfg)
  unfold oauthValidateIR oauthHeaders
  simp only [kf, b_authorization, b_empty]
  cases hs : stripPrefix (b "Bearer ") (hget h authHeader) with
  | none => simp [hasPrefix, hs]
  | some t =>
    have hd := stripPrefix_drop hs
    by_cases hp : jwtParse lib t (jwtKeyFunc cfg) = true
    · by_cases h1 : cs t (b "sub") = [] <;> by_cases h2 : cs t (b "scope") = [] <;> simp [hasPrefix, hs, hd, hp, h1, h2]
    · simp [hasPrefix, hs, hd, hp]

theorem oauthValidate_accepts_iff (cfg : JwtCfg) (lib : JwtLib) (cs : Bytes → Bytes → Bytes) (h : Header) :
    (oauthValidateIR cfg lib none cs h).isSome = oauthValidate cfg lib h := by
  rw [oauthValidate_regenerated_from_source]
  unfold oauthValidate jwtValidate jwtToken
  have kf : jwtKeyFunc ⟨cfg.alg, cfg.secret, []⟩ = jwtKeyFunc cfg := rfl
  simp only [kf, ne_eq, not_true_eq_false, if_false]
  cases stripPrefix (b "Bearer ") (hget h authHeader) with
  | none => rfl
  | some t => by_cases hp : jwtParse lib t (jwtKeyFunc cfg) = true <;> simp [hp]

/-- `Validator.reload`: exactly the configured components are constructed, each by its constructor (fresh) -/
theorem validatorReload_regenerated_from_source (hd jw sg oa ba : Bool) : validatorReloadIR hd jw sg oa ba = (hd, jw, sg, oa, ba) := by
  cases hd <;> cases jw <;> cases sg <;> cases oa <;> cases ba <;> rfl

/-- `Init` and `Inherit` both just call `reload()`; `Inherit` does not mention the previous generation -/
theorem validatorInherit_regenerated_from_source : validatorInitIR () = true ∧ validatorInheritIR () = true := ⟨rfl, rfl⟩

end EgVerif.Validator
