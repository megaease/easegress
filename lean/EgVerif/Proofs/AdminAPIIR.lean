import EgVerif.Proofs.AdminAPI
/-!
The per-function model of the admin handlers (`createObject`, `updateObject`, `deleteObject` and the cluster.go
helpers of `Model/AdminAPI.lean`, which `Props/C18.lean` proves equal to the functions translated from the source)
composes to the atomic specification `apply` and to the micro-step machine `micro` / `exec`, so that the tie by
translation reaches `handlers_atomic`, `versions_gap_free`, `conflict_unchanged`, `final_store_is_fold`.
-/
namespace EgVerif.AdminAPI

attribute [local simp] RW.init RW.writeHeader RW.setHdr RW.resp configVersionKey upgradeConfigVersion

/-- A handler (body read successfully, round trips succeed) is the atomic transition `apply`: same etcd,
same status and `X-Config-Version`; it returns with the lock released and never touched etcd outside it. -/
theorem handle_is_apply (e : Etcd) (r : Req) :
    ((handle e r).etcd, (handle e r).rw.resp) = apply e r ∧
    (handle e r).locked = false ∧ (handle e r).unlockedAccess = false := by
  cases r with
  | create n o => cases h : e.store.get n <;> simp [handle, createObject, apply, h]
  | update n o =>
    cases h : e.store.get n with
    | none => simp [handle, updateObject, apply, h]
    | some old => by_cases hk : old.kind = o.kind <;> simp [handle, updateObject, apply, h, hk]
  | delete n => cases h : e.store.get n <;> simp [handle, deleteObject, apply, h]

/-- … hence also the result of the round-trip-by-round-trip execution `exec` the interleaving model uses. -/
theorem handle_is_exec (e : Etcd) (r : Req) :
    exec r e = ((handle e r).etcd, (handle e r).rw.resp) := by
  rw [exec_eq_apply, (handle_is_apply e r).1]

/-- A request whose body cannot be read is answered 400 before the lock is taken; nothing changes. -/
theorem bad_body_rejected (e : Etcd) (sp : Spec) :
    createObject e sp true = ⟨e, ⟨true, 400, none⟩, false, false⟩ ∧
    updateObject e sp true = ⟨e, ⟨true, 400, none⟩, false, false⟩ := by
  simp [createObject, updateObject]

/-- The helper functions without etcd errors are the micro steps: `_getObject` is `start → gotObj`,
`_getVersion` is `wrote → gotVer`, `_plusOneVersion` is `gotVer → done` (version read + 1 written and returned). -/
theorem helpers_are_micro (req : Req) (e : Etcd) :
    (getObject e req.name false).map (fun x => (PC.gotObj x, e)) = some (micro req .start e) ∧
    (getVersion e false).map (fun v => (PC.gotVer v, e)) = some (micro req .wrote e) ∧
    (plusOneVersion e false false).map (fun p => (PC.done ⟨okStatus req, some p.2⟩, p.1)) =
      some (micro req (.gotVer e.version) e) ∧
    plusOneVersion e false false = some ((upgradeConfigVersion e RW.init).1, e.version + 1) := by
  simp [getObject, getVersion, plusOneVersion, micro]

/-- An etcd error in any round trip is a panic (`none`): the helpers never continue with a half result. -/
theorem helper_errors_panic (e : Etcd) (n : String) (sp : Spec) (b : Bool) :
    getVersion e true = none ∧ plusOneVersion e true b = none ∧ plusOneVersion e b true = none ∧
    getObject e n true = none ∧ putObject e sp true = none ∧ deleteObjectKey e n true = none ∧
    serverLock true b = none ∧ serverLock b true = none := by
  cases b <;> simp [getVersion, plusOneVersion, getObject, putObject, deleteObjectKey, serverLock]

end EgVerif.AdminAPI
