import EgVerif.Proofs.Lifecycle
/-!
# C20 — panics with an explicit abort branch

In `Model/Lifecycle.lean` a panicking callback only sets the `panicked` flag of the recorded call; control
flow never reads it, so there "a panic never prevents the others" holds by construction. Here the same
consumer loops get an abort semantics: a lifecycle call goes through its `…WithRecovery` wrapper, whose
deferred `recover()` is a parameter (`Rec`, one flag per wrapper; `Props/C20.lean` fills it from the
regenerated fact `FactsC20.recoversFirst`). A panic that the wrapper does not recover escapes into
`handleEvent`: the statement after the call (`Store`, `_cleanSpace`) and all remaining work of this and
every later event is skipped (`aborted` is absorbing — in Go the process dies). With the three `recover()`s
the abort branch is unreachable and the abortable system is the model, for every panic oracle (`runA_all`);
that without one of them it is reachable is shown by the examples on `Pab` in `Props/C20.lean`.
-/
namespace EgVerif.Lifecycle

/-- does `InitWithRecovery` / `InheritWithRecovery` / `CloseWithRecovery` start with a deferred `recover()`? -/
structure Rec where
  init : Bool
  inherit : Bool
  close : Bool
deriving DecidableEq, Repr

def Rec.all : Rec := ⟨true, true, true⟩

def escapes (R : Rec) (c : Call) : Bool :=
  c.panicked && !(match c.op with
    | .init => R.init
    | .inherit => R.inherit
    | .close => R.close)

theorem escapes_all (c : Call) : escapes Rec.all c = false := by
  unfold escapes Rec.all
  cases c.panicked <;> cases c.op <;> rfl

/-- abortable consumer state: `aborted = true` — the goroutine running `handleEvent` is gone -/
abbrev AState := CState × Bool

/-- `delStep` with the abort branch: `LoadAndDelete` has happened, `CloseWithRecovery` panics through ⇒ no
`_cleanSpace`, nothing more. -/
def delStepA (R : Rec) (P : Params) (a : AState) (x : Name × Entity) : AState :=
  if a.2 then a
  else
    let c := a.1
    if P.namespaced && !c.ns then (c, false)
    else
      let key := (P.slot x.2.kind, x.1)
      match c.store.get key with
      | none => (c, false)
      | some old =>
        let c' : CState := { store := c.store.del key, log := c.log ++ [callClose P x.1 old], ns := c.ns }
        if escapes R (callClose P x.1 old) then (c', true)
        else (if P.namespaced then cleanSpace c' else c', false)

/-- `creStep` with the abort branch: `InitWithRecovery` panics through ⇒ the entity is not stored. -/
def creStepA (R : Rec) (P : Params) (a : AState) (x : Name × Entity) : AState :=
  if a.2 then a
  else
    let c := a.1
    let key := (P.slot x.2.kind, x.1)
    if P.createChecks && (c.store.get key).isSome then (c, false)
    else if escapes R (callInit P x.1 x.2) then
      ({ store := c.store, log := c.log ++ [callInit P x.1 x.2], ns := if P.namespaced then true else c.ns }, true)
    else
      ({ store := c.store.set key x.2, log := c.log ++ [callInit P x.1 x.2],
         ns := if P.namespaced then true else c.ns }, false)

/-- `updStep` with the abort branch: `InheritWithRecovery` panics through ⇒ the new entity is not stored. -/
def updStepA (R : Rec) (P : Params) (a : AState) (x : Name × Entity) : AState :=
  if a.2 then a
  else
    let c := a.1
    if P.namespaced && !c.ns then (c, false)
    else
      let key := (P.slot x.2.kind, x.1)
      match c.store.get key with
      | none => (c, false)
      | some prev =>
        if escapes R (callInherit P x.1 x.2 prev) then
          ({ store := c.store, log := c.log ++ [callInherit P x.1 x.2 prev], ns := c.ns }, true)
        else ({ store := c.store.set key x.2, log := c.log ++ [callInherit P x.1 x.2 prev], ns := c.ns }, false)

def handleEventA (R : Rec) (P : Params) (t : Nat) (a : AState) (ev : Event) : AState :=
  let a1 := (P.order t 0 ev.del).foldl (delStepA R P) a
  let a2 := (P.order t 1 ev.cre).foldl (creStepA R P) a1
  (P.order t 2 ev.upd).foldl (updStepA R P) a2

def stepWA (R : Rec) (P : Params) (t : Nat) (w : WState × Bool) (d : Diff) : WState × Bool :=
  if w.1.attached then
    let r := notify P w.1.wents d
    if r.2.isEmpty then (⟨true, r.1, w.1.cons⟩, w.2)
    else
      let h := handleEventA R P t (w.1.cons, w.2) r.2
      (⟨true, r.1, h.1⟩, h.2)
  else w

def attachWA (R : Rec) (P : Params) (t : Nat) (ents : Map Name Entity) (w : WState × Bool) : WState × Bool :=
  if w.1.attached then w
  else
    let ev := attachEvent P ents
    let h := handleEventA R P t (w.1.cons, w.2) ev
    (⟨true, ev.cre, h.1⟩, h.2)

def stepA (R : Rec) (P : Params) (s : Sys × Bool) : Item → Sys × Bool
  | .snap cfg =>
    let d := diff s.1.g s.1.ents cfg
    let w := stepWA R P s.1.t (s.1.w, s.2) d
    (⟨s.1.g + 1, s.1.t + 1, d.ents, w.1⟩, w.2)
  | .attach =>
    let w := attachWA R P s.1.t s.1.ents (s.1.w, s.2)
    (⟨s.1.g, s.1.t + 1, s.1.ents, w.1⟩, w.2)

def runA (R : Rec) (P : Params) (s : Sys × Bool) (h : List Item) : Sys × Bool := h.foldl (stepA R P) s

/-! ### with the three `recover()`s the abort branch is unreachable -/

theorem delStepA_all (P : Params) (c : CState) (x : Name × Entity) :
    delStepA Rec.all P (c, false) x = (delStep P c x, false) := by
  simp only [delStepA, delStep, escapes_all, Bool.false_eq_true, if_false]
  split
  · rfl
  · cases hg : c.store.get (P.slot x.2.kind, x.1) <;> rfl

theorem creStepA_all (P : Params) (c : CState) (x : Name × Entity) :
    creStepA Rec.all P (c, false) x = (creStep P c x, false) := by
  simp only [creStepA, creStep, escapes_all, Bool.false_eq_true, if_false]
  split <;> rfl

theorem updStepA_all (P : Params) (c : CState) (x : Name × Entity) :
    updStepA Rec.all P (c, false) x = (updStep P c x, false) := by
  simp only [updStepA, updStep, escapes_all, Bool.false_eq_true, if_false]
  split
  · rfl
  · cases hg : c.store.get (P.slot x.2.kind, x.1) <;> rfl

theorem handleEventA_all (P : Params) (t : Nat) (c : CState) (ev : Event) :
    handleEventA Rec.all P t (c, false) ev = (handleEvent P t c ev, false) := by
  simp only [handleEventA, handleEvent]
  rw [List.foldl_hom (fun c => (c, false)) (delStepA_all P), List.foldl_hom _ (creStepA_all P),
    List.foldl_hom _ (updStepA_all P)]

theorem stepA_all (P : Params) (s : Sys) (it : Item) : stepA Rec.all P (s, false) it = (step P s it, false) := by
  cases it with
  | snap cfg =>
    simp only [stepA, step, stepWA, stepW]
    split
    · split
      · rfl
      · simp only [handleEventA_all]
    · rfl
  | attach =>
    simp only [stepA, step, attachWA, attachW]
    split
    · rfl
    · simp only [handleEventA_all]

/-- With the three `recover()`s in place the abortable system is the model and never aborts, for every
panic oracle, history, iteration order and consumer shape. -/
theorem runA_all (P : Params) (h : List Item) (s : Sys) :
    runA Rec.all P (s, false) h = (run P s h, false) :=
  List.foldl_hom (fun s => (s, false)) (stepA_all P)

end EgVerif.Lifecycle
