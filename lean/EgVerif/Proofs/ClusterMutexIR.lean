import EgVerif.Proofs.ClusterMutex
/-!
One call of `mutex.Lock` / `mutex.Unlock` (`lockCall` / `unlockCall` of `Model/ClusterMutex.lean`, which
`Props/C18.lean` proves equal to the functions translated from pkg/cluster/mutex.go) against the schedule of the
interleaving model `step` it stands for: `lockCall_granted` / `lockCall_failed` say what the call returns,
`run_granted` / `run_failed` / `run_release` what the thread observes after the schedule; `Props/C18.lean` puts the
two side by side.
-/
namespace EgVerif.ClusterMutex

theorem lockCall_granted {tmo : Nat} {lockO : Ctx → LockOutcome} (delO : Ctx → Bool) (key : Bool)
    (ho : lockO (.timeout tmo 1) = .granted) :
    lockCall tmo lockO delO key = ⟨true, true, false, [.localLock, .etcdLock .granted]⟩ := by
  simp [lockCall, ho, etcdLockCall]

/-- Every other outcome of the etcd call is an error; with the cleanup delete succeeding the key is gone
whatever the outcome left behind. -/
theorem lockCall_failed {tmo : Nat} {lockO : Ctx → LockOutcome} {delO : Ctx → Bool} (key : Bool)
    (ho : lockO (.timeout tmo 1) ≠ .granted) (hd : delO (.timeout tmo 2) = true) :
    lockCall tmo lockO delO key =
      ⟨false, false, true, [.localLock, .etcdLock (lockO (.timeout tmo 1)), .etcdUnlock true, .localUnlock]⟩ := by
  cases h : lockO (.timeout tmo 1) <;> simp [lockCall, h, etcdLockCall, etcdUnlockCall, hd] at ho ⊢

/-- What a call of `mutex.Lock` does, as events in program order: local lock, etcd lock, and on error the
cleanup delete followed by the local unlock. -/
theorem lockCall_trace (tmo : Nat) (lockO : Ctx → LockOutcome) (delO : Ctx → Bool) (key : Bool) :
    (lockCall tmo lockO delO key).trace =
      if (lockCall tmo lockO delO key).err then
        [.localLock, .etcdLock (lockO (.timeout tmo 1)), .etcdUnlock (delO (.timeout tmo 2)), .localUnlock]
      else [.localLock, .etcdLock (lockO (.timeout tmo 1))] := by
  simp only [lockCall]; split <;> simp_all

theorem not_mem_enqueue_erase {k : Nat} {q : List Nat} (h : q.Nodup) :
    k ∉ (if k ∈ q then q else q ++ [k]).erase k := by
  by_cases hk : k ∈ q
  · simp only [hk, if_true]; exact fun hm => ((h.mem_erase_iff).mp hm).1 rfl
  · simp only [hk, if_false]
    rw [List.erase_append_right _ hk]
    simpa using hk

theorem run_granted {c : Cfg} {s s' : State} {t : Nat} (h : run c s (lockActs t .granted) = some s') :
    s'.held (c.obj t) = true ∧ c.sess (c.obj t) ∈ s'.queue ∧ s'.pc t = .crit := by
  simp only [lockActs, run_cons, run_nil] at h
  obtain ⟨_, h1, _, h2, _, h3, rfl⟩ := h
  cases h1; cases h2; cases h3
  refine ⟨upd_same _ _ _, ?_, upd_same _ _ _⟩
  simp only; split
  · assumption
  · simp

theorem run_failed {c : Cfg} {s s' : State} {t : Nat} {o : LockOutcome} (hnd : s.queue.Nodup) (ho : o ≠ .granted)
    (h : run c s (lockActs t o) = some s') :
    s'.held (c.obj t) = false ∧ c.sess (c.obj t) ∉ s'.queue ∧ s'.pc t = .idle := by
  cases o with
  | granted => exact absurd rfl ho
  | earlyError =>
    simp only [lockActs, run_cons, run_nil] at h
    obtain ⟨_, h1, _, h2, _, h3, rfl⟩ := h
    cases h1; cases h2; cases h3
    exact ⟨upd_same _ _ _, fun hm => ((hnd.mem_erase_iff).mp hm).1 rfl, upd_same _ _ _⟩
  | _ =>
    -- timed out while waiting, or response lost and the key cleaned up: the same schedule
    simp only [lockActs, run_cons, run_nil] at h
    obtain ⟨_, h1, _, h2, _, h3, _, h4, rfl⟩ := h
    cases h1; cases h2; cases h3; cases h4
    exact ⟨upd_same _ _ _, not_mem_enqueue_erase hnd, upd_same _ _ _⟩

theorem run_release {c : Cfg} {s s' : State} {t : Nat} (hnd : s.queue.Nodup)
    (h : run c s (releaseSeq t) = some s') :
    s'.held (c.obj t) = false ∧ c.sess (c.obj t) ∉ s'.queue ∧ s'.pc t = .idle := by
  simp only [releaseSeq, run_cons, run_nil] at h
  obtain ⟨_, h1, _, h2, rfl⟩ := h
  cases h1; cases h2
  exact ⟨upd_same _ _ _, fun hm => ((hnd.mem_erase_iff).mp hm).1 rfl, upd_same _ _ _⟩

/-- Non-vacuity of `run_granted` / `run_failed`: from a free lock the schedule of every outcome of the etcd call
is enabled. -/
theorem lockActs_enabled (c : Cfg) (s : State) (t : Nat) (o : LockOutcome) (hi : s.pc t = .idle)
    (hh : s.held (c.obj t) = false) (hq : s.queue = []) : ∃ s', run c s (lockActs t o) = some s' := by
  cases o <;> simp [lockActs, run, step, hi, hh, hq]

end EgVerif.ClusterMutex
