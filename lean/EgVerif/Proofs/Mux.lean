import EgVerif.Spec.Mux
/-!
Lemmas about the router of `Model/Mux.lean` shared by C01, C05 and C12: what the inner loop of
`muxInstance.search` does with one path entry, in the specification's terms (`searchPaths_cons`), and from
it the equation of the flag-carrying loops with the declarative reference router of `Spec/Mux.lean`
(`search_eq_routeF`). Core Lean only.
-/
namespace EgVerif.Mux
open EgVerif.Mux.Spec

/-- The Go matchers return early (`if c { return true }`), the specification's conditions are disjunctions. -/
theorem hostOK_eq (o : Oracle) (r : Rule) (q : Req) : hostOK o r q = ruleMatch o r q := by
  simp only [hostOK, ruleMatch, Bool.if_true_left, Bool.decide_eq_true, Bool.or_assoc]

theorem pathOK_eq (o : Oracle) (e : PathEntry) (q : Req) : pathOK o e q = matchPath o e q := by
  simp only [pathOK, matchPath, Bool.if_true_left, Bool.decide_eq_true, Bool.or_assoc]

theorem methodOK_eq (e : PathEntry) (q : Req) : methodOK e q = matchMethod e q := rfl

theorem headersOK_eq (o : Oracle) (e : PathEntry) (q : Req) : headersOK o e q = matchHeaders o e q := by
  unfold headersOK matchHeaders condHolds condAll condAny
  cases e.matchAll <;> rfl

/-- One entry of the inner loop: a full match ends the scan (with the path-level IP check), anything else
is skipped and at most raises one of the two flags. Every other fact about the loops of `search` —
with or without the route cache — is an induction over this equation and its cached twin
(`MuxCache.searchPathsC_cons`). -/
theorem searchPaths_cons (o : Oracle) (q : Req) (ri pi : Nat) (e : PathEntry) (es : List PathEntry)
    (hm mm : Bool) :
    searchPaths o q ri pi (e :: es) hm mm =
      if full o q (ri, pi, e) then
        .found (if !allowIP o e.ipFilter q.ip then .code 403 else .path ri pi e)
      else
        searchPaths o q ri (pi + 1) es (hm || hdrFail o q (ri, pi, e)) (mm || methFail o q (ri, pi, e)) := by
  simp only [searchPaths, full, hdrFail, methFail, pathOK_eq, methodOK_eq, headersOK_eq]
  cases matchPath o e q
  · simp
  cases matchMethod e q
  · simp
  cases e.headers.isEmpty
  · cases matchHeaders o e q
    · simp
    · cases allowIP o e.ipFilter q.ip <;> simp
  · cases allowIP o e.ipFilter q.ip <;> simp

theorem searchPaths_eq (o : Oracle) (q : Req) (ri : Nat) (es : List PathEntry) : ∀ (pi : Nat) (hm mm : Bool),
    searchPaths o q ri pi es hm mm =
      match (pathEntries ri pi es).find? (full o q) with
      | some (r, p, e) => .found (if !allowIP o e.ipFilter q.ip then .code 403 else .path r p e)
      | none => .cont (hm || (pathEntries ri pi es).any (hdrFail o q))
                      (mm || (pathEntries ri pi es).any (methFail o q)) := by
  induction es with
  | nil => intro pi hm mm; simp [searchPaths, pathEntries]
  | cons e es ih =>
    intro pi hm mm
    rw [searchPaths_cons, pathEntries, List.find?_cons]
    cases full o q (ri, pi, e)
    · simp only [Bool.false_eq_true, if_false, ih, List.any_cons, Bool.or_assoc]
    · rfl

theorem searchRules_eq (o : Oracle) (q : Req) (rs : List Rule) : ∀ (ri : Nat) (hm mm : Bool),
    searchRules o q ri rs hm mm =
      if deniedBy o q (applyingFrom o q ri rs) then .code 403
      else routeOf o q (entriesFrom o q ri rs) hm mm := by
  induction rs with
  | nil =>
    intro ri hm mm
    cases hm <;> cases mm <;> rfl
  | cons r rs ih =>
    intro ri hm mm
    rw [searchRules, applyingFrom, entriesFrom, hostOK_eq]
    cases ruleMatch o r q
    · exact ih _ hm mm
    simp only [Bool.not_true, Bool.false_eq_true, if_false, if_true]
    rw [searchPaths_eq]
    cases hf : (pathEntries ri 0 r.paths).find? (full o q) with
    | none =>
      -- no full match in this rule: its entries only add to the flags
      simp only [routeOf, failCode, List.find?_append, hf, Option.none_or, List.any_append, ← Bool.or_assoc,
        deniedBy, List.any_cons]
      cases allowIP o r.ipFilter q.ip
      · rfl
      · exact ih _ _ _
    | some x =>
      obtain ⟨a, b, e⟩ := x
      simp only [routeOf, List.find?_append, hf, Option.some_or, deniedBy, List.any_cons, List.any_nil]
      cases allowIP o r.ipFilter q.ip <;> cases allowIP o e.ipFilter q.ip <;> rfl

theorem search_eq_routeF (o : Oracle) (c : Cfg) (q : Req) : search o c q = routeF o c q := by
  unfold search routeF denied applying route entries
  cases ha : allowIP o c.ipFilter q.ip
  · simp [deniedBy, ha]
  · simp [searchRules_eq, deniedBy, ha]

theorem routeOf_eq_path {o : Oracle} {q : Req} {es : List Entry} {hm mm : Bool} {ri pi : Nat}
    {e : PathEntry} : routeOf o q es hm mm = .path ri pi e ↔ es.find? (full o q) = some (ri, pi, e) := by
  unfold routeOf
  split <;> simp [*]

theorem routeOf_eq_code {o : Oracle} {q : Req} {es : List Entry} {hm mm : Bool} {n : Nat} :
    routeOf o q es hm mm = .code n ↔ es.find? (full o q) = none ∧ failCode o q es hm mm = n := by
  unfold routeOf
  split <;> simp [*]

theorem serveRoute_eq_handled {σ : Nat → String → String → String} {x : Bool} {bs : List String} {q : Req}
    {r : Route} {b p hst xf : String} (h : serveRoute σ x bs q r = .handled b p hst xf) :
    ∃ ri pi e, r = .path ri pi e ∧ e.backend = b ∧ b ∈ bs ∧ rewrite σ e q.path = some p ∧ hst = q.host ∧
      xf = if x then xffAfter (q.get xffKey) q.ip else q.get xffKey := by
  cases r with
  | code n => cases h
  | path ri pi e =>
    simp only [serveRoute] at h
    split at h
    · cases h
    · rename_i hb
      split at h
      · cases h
      · rename_i p' hrw
        cases h
        exact ⟨ri, pi, e, rfl, rfl, by simpa using hb, hrw, rfl, rfl⟩

/-! ### What the router reads of oracle and request

The reference router depends on the oracle and the request only through the host condition, the three
entry predicates and the IP verdicts. Two changes leave all of these alone: replacing every filter by one
that allows (`unfiltered`, "as if no filter existed") and another raw `Host` with the same port-stripped
form (`withHost`). -/

theorem entriesFrom_congr {o o' : Oracle} {q q' : Req} (hh : ∀ r, hostOK o' r q' = hostOK o r q)
    (rs : List Rule) : ∀ ri : Nat, entriesFrom o' q' ri rs = entriesFrom o q ri rs := by
  induction rs with
  | nil => intro _; rfl
  | cons r rs ih => intro ri; simp only [entriesFrom, hh, ih]

theorem applyingFrom_congr {o o' : Oracle} {q q' : Req} (hh : ∀ r, hostOK o' r q' = hostOK o r q)
    (hf : full o' q' = full o q)
    (rs : List Rule) : ∀ ri : Nat, applyingFrom o' q' ri rs = applyingFrom o q ri rs := by
  induction rs with
  | nil => intro _; rfl
  | cons r rs ih => intro ri; simp only [applyingFrom, hh, hf, ih]

theorem route_congr {o o' : Oracle} {q q' : Req} (c : Cfg) (hh : ∀ r, hostOK o' r q' = hostOK o r q)
    (hf : full o' q' = full o q) (hd : hdrFail o' q' = hdrFail o q) (hm : methFail o' q' = methFail o q) :
    route o' c q' = route o c q := by
  unfold route routeOf failCode entries
  rw [entriesFrom_congr hh, hf, hd, hm]

theorem search_unfiltered (o : Oracle) (c : Cfg) (q : Req) :
    search (unfiltered o) c q = route o c q := by
  have allow : ∀ f, allowIP (unfiltered o) f q.ip = true := fun f => by cases f <;> rfl
  have : denied (unfiltered o) c q = false := by simp [denied, deniedBy, allow]
  rw [search_eq_routeF, routeF, this]
  exact route_congr c (fun _ => rfl) rfl rfl rfl

/-- `q` with another raw `Host` (another port, or none) but the same host-without-port. -/
def withHost (q : Req) (h : String) : Req := { q with host := h }

theorem mem_pathEntries {ri : Nat} {es : List PathEntry} {pi a b : Nat} {e : PathEntry} :
    (a, b, e) ∈ pathEntries ri pi es ↔ a = ri ∧ ∃ k, b = pi + k ∧ es[k]? = some e := by
  induction es generalizing pi with
  | nil => simp [pathEntries]
  | cons x es ih =>
    rw [pathEntries, List.mem_cons, ih]
    constructor
    · rintro (h | ⟨rfl, k, rfl, h⟩)
      · cases h; exact ⟨rfl, 0, rfl, rfl⟩
      · exact ⟨rfl, k + 1, Nat.add_right_comm pi 1 k, h⟩
    · rintro ⟨rfl, k, rfl, h⟩
      cases k with
      | zero => cases h; exact Or.inl rfl
      | succ k => exact Or.inr ⟨rfl, k, (Nat.add_right_comm pi 1 k).symm, h⟩

theorem mem_applyingFrom {o : Oracle} {q : Req} {f : Option Nat} {rs : List Rule} {ri : Nat}
    (h : f ∈ applyingFrom o q ri rs) :
    ∃ r ∈ rs, hostOK o r q = true ∧
      (f = r.ipFilter ∨ ∃ e ∈ r.paths, f = e.ipFilter ∧ ∃ ri pi, full o q (ri, pi, e) = true) := by
  induction rs generalizing ri with
  | nil => simp [applyingFrom] at h
  | cons r rs ih =>
    simp only [applyingFrom] at h
    cases hh : hostOK o r q
    · simp only [hh, Bool.not_false, if_true] at h
      exact (ih h).imp fun _ h' => ⟨List.mem_cons_of_mem _ h'.1, h'.2⟩
    · simp only [hh, Bool.not_true, Bool.false_eq_true, if_false] at h
      cases hfind : (pathEntries ri 0 r.paths).find? (full o q) with
      | none =>
        simp only [hfind, List.mem_cons] at h
        rcases h with h | h
        · exact ⟨r, List.mem_cons_self, hh, Or.inl h⟩
        · exact (ih h).imp fun _ h' => ⟨List.mem_cons_of_mem _ h'.1, h'.2⟩
      | some x =>
        obtain ⟨a, b, e⟩ := x
        simp only [hfind, List.mem_cons, List.not_mem_nil, or_false] at h
        rcases h with h | h
        · exact ⟨r, List.mem_cons_self, hh, Or.inl h⟩
        · obtain ⟨_, k, _, hk⟩ := mem_pathEntries.mp (List.mem_of_find?_eq_some hfind)
          exact ⟨r, List.mem_cons_self, hh,
            Or.inr ⟨e, List.mem_of_getElem? hk, h, a, b, List.find?_some hfind⟩⟩

theorem mem_entriesFrom {o : Oracle} {q : Req} {rs : List Rule} {ri a b : Nat} {e : PathEntry} :
    (a, b, e) ∈ entriesFrom o q ri rs ↔
      ∃ k r, a = ri + k ∧ rs[k]? = some r ∧ hostOK o r q = true ∧ r.paths[b]? = some e := by
  induction rs generalizing ri with
  | nil => simp [entriesFrom]
  | cons r rs ih =>
    rw [entriesFrom, List.mem_append, ih]
    constructor
    · rintro (h | ⟨k, r', rfl, h2, h3, h4⟩)
      · cases hh : hostOK o r q
        · rw [hh] at h; cases h
        · rw [hh, if_pos rfl, mem_pathEntries] at h
          obtain ⟨rfl, k, rfl, h3⟩ := h
          exact ⟨0, r, rfl, rfl, hh, (Nat.zero_add k).symm ▸ h3⟩
      · exact ⟨k + 1, r', Nat.add_right_comm ri 1 k, h2, h3, h4⟩
    · rintro ⟨k, r', rfl, h2, h3, h4⟩
      cases k with
      | zero =>
        cases h2
        exact Or.inl (by rw [h3, if_pos rfl, mem_pathEntries]; exact ⟨rfl, b, (Nat.zero_add b).symm, h4⟩)
      | succ k => exact Or.inr ⟨k, r', (Nat.add_right_comm ri 1 k).symm, h2, h3, h4⟩

/-- Strict rule-then-path order on entries: `entries` lists them in this order, so `find?` returns the
first full match in it. -/
def before (x y : Entry) : Prop := x.1 < y.1 ∨ (x.1 = y.1 ∧ x.2.1 < y.2.1)

theorem pairwise_pathEntries (ri : Nat) (es : List PathEntry) (pi : Nat) :
    (pathEntries ri pi es).Pairwise before := by
  induction es generalizing pi with
  | nil => simp [pathEntries]
  | cons e es ih =>
    simp only [pathEntries, List.pairwise_cons]
    refine ⟨?_, ih (pi + 1)⟩
    rintro ⟨a, b, e'⟩ hm
    obtain ⟨rfl, k, rfl, _⟩ := mem_pathEntries.mp hm
    exact Or.inr ⟨rfl, Nat.lt_of_lt_of_le (Nat.lt_succ_self pi) (Nat.le_add_right _ k)⟩

theorem pairwise_entriesFrom (o : Oracle) (q : Req) (rs : List Rule) (ri : Nat) :
    (entriesFrom o q ri rs).Pairwise before := by
  induction rs generalizing ri with
  | nil => simp [entriesFrom]
  | cons r rs ih =>
    simp only [entriesFrom]
    rw [List.pairwise_append]
    refine ⟨?_, ih (ri + 1), ?_⟩
    · split
      · exact pairwise_pathEntries ri r.paths 0
      · simp
    · rintro ⟨a, b, e⟩ h1 ⟨a', b', e'⟩ h2
      obtain ⟨k, _, rfl, _⟩ := mem_entriesFrom.mp h2
      split at h1
      · obtain ⟨rfl, _⟩ := mem_pathEntries.mp h1
        exact Or.inl (Nat.lt_of_lt_of_le (Nat.lt_succ_self a) (Nat.le_add_right _ k))
      · simp at h1

theorem isInfix_append_left (p : List Char) : ∀ a : List Char, isInfix p (a ++ p) = true
  | [] => by
    cases p with
    | nil => rfl
    | cons c t => simp [isInfix]
  | c :: a => by
    simp only [List.cons_append, isInfix, isInfix_append_left p a, Bool.or_true]

end EgVerif.Mux
