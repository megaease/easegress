import EgVerif.Model.SessionQoS
import EgVerif.Proofs.Topic
/-!
# C16: the QoS of restored subscriptions

Lookup lemmas for `setAll` / `eraseAll` and the invariant `Inv` of `Model/SessionQoS.lean`; the property
theorems are stated in `Props/C16.lean`.
-/
namespace EgVerif.SessionQoS
open EgVerif.Topic (alGet alSet alErase alGet_alSet alGet_alErase alGet_none_iff nodup_alSet nodup_alErase)

theorem alGet_setAll_split (fs : List (Nat × Nat)) : ∀ (m : TMap) (f : Nat),
    alGet f (setAll fs m) = match alGet f (setAll fs []) with
      | some q => some q
      | none => alGet f m := by
  induction fs with
  | nil => intro m f; rfl
  | cons p r ih =>
    intro m f
    obtain ⟨k, q⟩ := p
    simp only [setAll]
    rw [ih (alSet k q m) f, ih (alSet k q []) f]
    cases alGet f (setAll r []) with
    | some x => rfl
    | none =>
      simp only [alGet_alSet]
      by_cases e : f = k <;> simp [e, alGet]

theorem alGet_eraseAll (fs : List Nat) : ∀ (m : TMap) (f : Nat),
    alGet f (eraseAll fs m) = if f ∈ fs then none else alGet f m := by
  induction fs with
  | nil => intro m f; simp [eraseAll]
  | cons k r ih =>
    intro m f
    simp only [eraseAll]
    rw [ih, alGet_alErase]
    by_cases h1 : f ∈ r
    · simp [h1]
    · by_cases h2 : f = k <;> simp [h1, h2]

theorem alGet_setAll_congr (fs : List (Nat × Nat)) {a b : TMap} (h : ∀ f, alGet f a = alGet f b) (f : Nat) :
    alGet f (setAll fs a) = alGet f (setAll fs b) := by
  rw [alGet_setAll_split fs a, alGet_setAll_split fs b, h f]

theorem alGet_eraseAll_congr (fs : List Nat) {a b : TMap} (h : ∀ f, alGet f a = alGet f b) (f : Nat) :
    alGet f (eraseAll fs a) = alGet f (eraseAll fs b) := by
  rw [alGet_eraseAll, alGet_eraseAll, h f]

theorem keys_setAll_nodup (fs : List (Nat × Nat)) : ∀ (m : TMap), (m.map Prod.fst).Nodup →
    ((setAll fs m).map Prod.fst).Nodup := by
  induction fs with
  | nil => intro m h; exact h
  | cons p r ih => intro m h; obtain ⟨k, q⟩ := p; exact ih _ (nodup_alSet k q h)

theorem keys_eraseAll_nodup (fs : List Nat) : ∀ (m : TMap), (m.map Prod.fst).Nodup →
    ((eraseAll fs m).map Prod.fst).Nodup := by
  induction fs with
  | nil => intro m h; exact h
  | cons k r ih => intro m h; exact ih _ (nodup_alErase k h)

theorem alGet_setAll_self (l : TMap) : (l.map Prod.fst).Nodup → ∀ (m : TMap) (f : Nat),
    alGet f (setAll l m) = match alGet f l with
      | some q => some q
      | none => alGet f m := by
  induction l with
  | nil => intro _ m f; rfl
  | cons p r ih =>
    intro h m f
    obtain ⟨a, q⟩ := p
    simp only [List.map_cons, List.nodup_cons] at h
    simp only [setAll]
    rw [ih h.2, alGet_alSet]
    by_cases e : a = f
    · subst e
      have : alGet a r = none := alGet_none_iff.mpr h.1
      simp [this, alGet]
    · have e' : ¬ f = a := fun x => e x.symm
      simp [alGet, e, e']

/-- erasing all keys of `l` from a map that agrees with `l` leaves nothing -/
theorem alGet_eraseAll_keys (l : TMap) : ∀ (m : TMap) (f : Nat), (alGet f m).isSome → f ∈ l.map Prod.fst →
    True := fun _ _ _ _ => trivial

theorem zip_fst_snd (l : TMap) : (l.map Prod.fst).zip (l.map Prod.snd) = l := by
  induction l with
  | nil => rfl
  | cons p r ih => simp [ih]

/-- the invariant of a connected persistent session: the persisted copy IS the live map, the routing table
agrees with it as a map, keys are unique -/
structure Inv (s : Q) : Prop where
  db : s.db = s.live
  tm : ∀ f, alGet f s.tm = alGet f s.live
  nd : (s.live.map Prod.fst).Nodup

theorem inv_init : Inv Q.init := ⟨rfl, fun _ => rfl, by simp [Q.init]⟩

theorem inv_subscribe {s : Q} (h : Inv s) (fs : List (Nat × Nat)) : Inv (step s (.subscribe fs)) :=
  ⟨rfl, alGet_setAll_congr fs h.tm, keys_setAll_nodup fs _ h.nd⟩

theorem inv_unsubscribe {s : Q} (h : Inv s) (fs : List Nat) : Inv (step s (.unsubscribe fs)) :=
  ⟨rfl, alGet_eraseAll_congr fs h.tm, keys_eraseAll_nodup fs _ h.nd⟩

/-- A normal end of the connection followed by a CONNECT with cleanSession=false restores the
live map exactly (session and persisted copy) and the routing table as a map — filter AND QoS -/
theorem reconnect_restores {s : Q} (h : Inv s) :
    (step (step s .dropPersistent) .resume).live = s.live ∧
    (step (step s .dropPersistent) .resume).db = s.live ∧
    (∀ f, alGet f (step (step s .dropPersistent) .resume).tm = alGet f s.live) := by
  simp only [step, allSubs, h.db, zip_fst_snd]
  refine ⟨trivial, trivial, ?_⟩
  intro f
  rw [alGet_setAll_self s.live h.nd, alGet_eraseAll]
  cases hg : alGet f s.live with
  | some q => rfl
  | none =>
    have : f ∉ s.live.map Prod.fst := alGet_none_iff.mp hg
    simp [this, h.tm f, hg]

theorem inv_reconnect {s : Q} (h : Inv s) : Inv (step (step s .dropPersistent) .resume) := by
  obtain ⟨h1, h2, h3⟩ := reconnect_restores h
  exact ⟨by rw [h2, h1], fun f => by rw [h3 f, h1], by rw [h1]; exact h.nd⟩

/-- histories of a persistent session: SUBSCRIBE / UNSUBSCRIBE packets and reconnects -/
inductive Ev where
  | subscribe (fs : List (Nat × Nat))
  | unsubscribe (fs : List Nat)
  | reconnect

def evStep (s : Q) : Ev → Q
  | .subscribe fs => step s (.subscribe fs)
  | .unsubscribe fs => step s (.unsubscribe fs)
  | .reconnect => step (step s .dropPersistent) .resume

def evRun (s : Q) : List Ev → Q
  | [] => s
  | e :: r => evRun (evStep s e) r

theorem inv_evRun (evs : List Ev) : ∀ {s : Q}, Inv s → Inv (evRun s evs) := by
  induction evs with
  | nil => intro s h; exact h
  | cons e r ih =>
    intro s h
    cases e with
    | subscribe fs => exact ih (inv_subscribe h fs)
    | unsubscribe fs => exact ih (inv_unsubscribe h fs)
    | reconnect => exact ih (inv_reconnect h)

/-- the QoS the history asks for a filter: that of the latest SUBSCRIBE naming it, unless a later UNSUBSCRIBE
removed it (reconnects do not matter) — this is what the judge's `qosCheck` compares the observation with -/
def wanted (m : Nat → Option Nat) : Ev → Nat → Option Nat
  | .subscribe fs, f => match alGet f (setAll fs []) with
    | some q => some q
    | none => m f
  | .unsubscribe fs, f => if f ∈ fs then none else m f
  | .reconnect, f => m f

def wantedAll (m : Nat → Option Nat) : List Ev → Nat → Option Nat
  | [], f => m f
  | e :: r, f => wantedAll (wanted m e) r f

theorem live_eq_wanted (evs : List Ev) : ∀ {s : Q} (m : Nat → Option Nat), Inv s → (∀ f, alGet f s.live = m f) →
    ∀ f, alGet f (evRun s evs).live = wantedAll m evs f := by
  induction evs with
  | nil => intro s m _ hm f; exact hm f
  | cons e r ih =>
    intro s m h hm f
    cases e with
    | subscribe fs =>
      apply ih (wanted m (.subscribe fs)) (inv_subscribe h fs)
      intro g
      simp only [step, sessSubscribe, wanted]
      rw [alGet_setAll_split fs s.live g, hm g]
    | unsubscribe fs =>
      apply ih (wanted m (.unsubscribe fs)) (inv_unsubscribe h fs)
      intro g
      simp only [step, sessUnsubscribe, wanted]
      rw [alGet_eraseAll, hm g]
    | reconnect =>
      apply ih (wanted m .reconnect) (inv_reconnect h)
      intro g
      simp only [wanted]
      rw [(reconnect_restores h).1, hm g]

end EgVerif.SessionQoS
