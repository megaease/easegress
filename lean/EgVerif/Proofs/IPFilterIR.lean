import EgVerif.Model.IPFilter
import EgVerif.Gen.FactsC05IR
/-!
Regenerated tie by translation for C05 (`notes/IR.md`): `Gen.FactsC05IR.allowIR` / `allowAllIR` / `rangerIR`
are produced on every run by the go/ast micro-translator from the current bodies of `IPFilter.Allow`,
`IPFilters.Allow` and the closure `rangerFromIPCIDRs` of `New`; they are the hand-written `allow` /
`allowAll` / `ranger`. A changed comparison, branch order, default or mask choice in the source changes
the generated definition and breaks these proofs.
-/
namespace EgVerif.IPFilter
open EgVerif.Gen.FactsC05IR

theorem allow_regenerated_from_source (f : Filter) (ip : Option Addr) : allowIR f ip = allow f ip := by
  cases ip with
  | none => rfl
  | some a =>
    simp only [allowIR, allow, containsE, Option.isNone_some, Bool.false_eq_true, if_false]
    rfl

theorem allowAll_regenerated_from_source_loop (fs0 : List Filter) (ip : Option Addr) (fs : List Filter) :
    allowAllIR_loop1 fs0 ip fs = if fs.all (fun f => allow f ip) then .inr () else .inl false := by
  induction fs with
  | nil => rfl
  | cons f r ih =>
    simp only [allowAllIR_loop1, ih, List.all_cons]
    by_cases h : allow f ip = true <;> simp [h]

theorem allowAll_regenerated_from_source (fs : List Filter) (ip : Option Addr) : allowAllIR fs ip = allowAll fs ip := by
  simp only [allowAllIR, allowAll, allowAll_regenerated_from_source_loop]
  by_cases h : List.all fs (fun f => allow f ip) = true <;> simp [h]

/-- `net.IPMask.Size()` reports `bits = 8 * len(mask)`. -/
def EntryWF : RawEntry → Prop
  | .cidr _ _ bits => bits % 8 = 0
  | _ => True

theorem rangerIR_loop1_cons (es0 : List RawEntry) (r : List Cidr) (e : RawEntry) (es : List RawEntry)
    (he : EntryWF e) :
    rangerIR_loop1 es0 r (e :: es) =
      rangerIR_loop1 es0 (match mkCidr e with | some c => r ++ [c] | none => r) es := by
  cases e with
  | ip a => cases a <;> rfl
  | bad => rfl
  | cidr a ones bits =>
    cases a with
    | v6 n => rfl
    | v4 n =>
      -- a 16-byte mask is a 128-bit mask
      have hb : (maskBytes (ones, bits) == 16) = (bits == 128) := by
        have hiff : (bits / 8 = 16) ↔ (bits = 128) := by simp only [EntryWF] at he; omega
        rw [Bool.eq_iff_iff]
        simp [maskBytes, hiff]
      simp only [rangerIR_loop1, parseIP, parseCIDR, to4, Option.isSome_none, Bool.false_eq_true, if_false,
        Option.isSome_some, Bool.true_and, hb, maskDrop, mkCidr]
      cases bits == 128 <;> rfl

theorem new_regenerated_from_source_loop (es0 es : List RawEntry) :
    ∀ r : List Cidr, (∀ e ∈ es, EntryWF e) → rangerIR_loop1 es0 r es = .inr (r ++ es.filterMap mkCidr) := by
  induction es with
  | nil => intro r _; simp [rangerIR_loop1]
  | cons e es ih =>
    intro r hw
    rw [rangerIR_loop1_cons es0 r e es (hw e List.mem_cons_self),
      ih _ (fun e' h => hw e' (List.mem_cons_of_mem _ h))]
    cases h : mkCidr e with
    | none => rw [List.filterMap_cons_none h]
    | some c => rw [List.filterMap_cons_some h, List.append_assoc]; rfl

/-- **`ipfilter.New`, per list**: the generated `rangerIR` (current body of the closure
`rangerFromIPCIDRs`: address vs CIDR, mask by family, IPv4-mapped CIDR conversion, junk skipped) is the
model's `ranger`. -/
theorem new_regenerated_from_source (es : List RawEntry) (hw : ∀ e ∈ es, EntryWF e) :
    rangerIR es = ranger es := by
  simp [rangerIR, new_regenerated_from_source_loop es es [] hw, ranger]

end EgVerif.IPFilter

