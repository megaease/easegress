/-!
Two facts about lists that several property groups need, stated once over variables.
-/
namespace EgVerif

/-- A translated `for … range l` whose body never leaves the loop early is the fold of its body:
`F s l` is the loop entered with the loop-carried variables `s`, `f` its body, `π` what it hands on. -/
theorem loop_eq_foldl {σ β ρ τ : Type} (F : σ → List β → Sum ρ τ) (f : σ → β → σ) (π : σ → τ)
    (hnil : ∀ s, F s [] = .inr (π s)) (hcons : ∀ s x r, F s (x :: r) = F (f s x) r) :
    ∀ (l : List β) (s : σ), F s l = .inr (π (l.foldl f s))
  | [], s => hnil s
  | x :: r, s => by rw [hcons, loop_eq_foldl F f π hnil hcons r, List.foldl_cons]

theorem mem_of_lookup {α β : Type} [BEq α] [LawfulBEq α] {a : α} {b : β} {l : List (α × β)}
    (h : l.lookup a = some b) : (a, b) ∈ l := by
  obtain ⟨l₁, l₂, rfl, _⟩ := List.lookup_eq_some_iff.mp h
  exact List.mem_append_right _ List.mem_cons_self

end EgVerif
