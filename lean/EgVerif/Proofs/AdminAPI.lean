import EgVerif.Spec.AdminAPI
import Mathlib.Tactic.Linarith
/-!
The admin API handlers (C18): a handler run alone, round trip by round trip, is the atomic transition `apply`
(`exec_eq_apply`); every run of `Sys` (handlers interleaved under the abstract lock) keeps the log a sequential
execution `runSeq` (`SInv`); versions and final store of `runSeq`; what the judge's `replay` accepts is a `runSeq`.
-/
namespace EgVerif.AdminAPI

theorem iter4 (req : Req) (e : Etcd) :
    iter req 4 (.start, e) = (.done (apply e req).2, (apply e req).1) := by
  cases req with
  | create n o =>
    cases h : e.store.get n <;> simp [iter, micro, apply, Req.name, h, okStatus]
  | update n o =>
    cases h : e.store.get n with
    | none => simp [iter, micro, apply, Req.name, h]
    | some old => by_cases hk : old.kind = o.kind <;> simp [iter, micro, apply, Req.name, h, hk, okStatus]
  | delete n =>
    cases h : e.store.get n <;> simp [iter, micro, apply, Req.name, h, okStatus]

theorem exec_eq_apply (req : Req) (e : Etcd) : exec req e = apply e req := by
  simp [exec, iter4]

theorem iter_done (req : Req) (r : Resp) (e : Etcd) : ∀ k, iter req k (.done r, e) = (.done r, e)
  | 0 => rfl
  | k + 1 => by simp only [iter, micro]; exact iter_done req r e k

/-! ### `Sys` refines the sequential specification -/

theorem runSeq_append : ∀ (rs : List Req) (e : Etcd) (r : Req),
    runSeq e (rs ++ [r]) = ((apply (runSeq e rs).1 r).1, (runSeq e rs).2 ++ [(apply (runSeq e rs).1 r).2])
  | [], _, _ => rfl
  | x :: rs, e, r => by simp only [List.cons_append, runSeq, runSeq_append rs, List.cons_append]

def base (e0 : Etcd) (log : List (Req × Resp)) : Etcd := (runSeq e0 (log.map Prod.fst)).1

/-- The log is a sequential execution with the same responses; while the lock is free the store is its result;
the handler inside the lock, run alone from where it is, ends with what `apply` gives on that result. -/
structure SInv (e0 : Etcd) (s : Sys) : Prop where
  log : (runSeq e0 (s.log.map Prod.fst)).2 = s.log.map Prod.snd
  idle : s.holder = none → s.etcd = base e0 s.log
  busy : ∀ t, s.holder = some t → ∃ req pc k, s.cur t = some (req, pc) ∧
    iter req k (pc, s.etcd) = (.done (apply (base e0 s.log) req).2, (apply (base e0 s.log) req).1)

theorem sinv_init (e0 : Etcd) : SInv e0 (Sys.init e0) :=
  ⟨rfl, fun _ => rfl, fun _ h => by simp [Sys.init] at h⟩

theorem sinv_step {e0 : Etcd} {s s' : Sys} (inv : SInv e0 s) (a : Act) (h : s.step a = some s') :
    SInv e0 s' := by
  cases a with
  | acquire t req =>
    simp only [Sys.step] at h
    split at h
    · rename_i g
      cases h
      refine ⟨inv.log, fun h => by simp at h, fun t' ht' => ?_⟩
      cases ht'
      exact ⟨req, .start, 4, by simp, by rw [inv.idle g, iter4]⟩
    · cases h
  | micro t =>
    simp only [Sys.step] at h
    split at h
    · rename_i g
      obtain ⟨req, pc, k, hc, hk⟩ := inv.busy t g
      rw [hc] at h
      cases h
      refine ⟨inv.log, fun h => by simp [g] at h, fun t' ht' => ?_⟩
      simp only at ht'
      rw [g] at ht'; cases ht'
      -- one round trip less remains; a finished handler stays where it is
      cases k with
      | zero =>
        rw [iter, Prod.mk.injEq] at hk
        refine ⟨req, (micro req pc s.etcd).1, 0, by simp, ?_⟩
        rw [hk.1, ← hk.2]; rfl
      | succ k => exact ⟨req, (micro req pc s.etcd).1, k, by simp, hk⟩
    · cases h
  | release t =>
    simp only [Sys.step] at h
    split at h
    · rename_i g
      obtain ⟨req, pc, k, hc, hk⟩ := inv.busy t g
      rw [hc] at h
      split at h
      · rename_i req' r heq
        cases heq; cases h
        rw [iter_done] at hk
        injection hk with hr he
        injection hr with hr
        have hb : base e0 (s.log ++ [(req, r)]) = s.etcd := by
          rw [he, base, List.map_append, List.map_cons, List.map_nil, runSeq_append]; rfl
        refine ⟨?_, fun _ => hb.symm, fun t' ht' => by simp at ht'⟩
        rw [List.map_append, List.map_append, List.map_cons, List.map_nil, runSeq_append, inv.log, hr]; rfl
      · cases h
    · cases h
  | read t =>
    simp only [Sys.step, Option.some.injEq] at h
    subst h; exact inv

theorem sinv_run {e0 : Etcd} : ∀ (as : List Act) {s s' : Sys}, SInv e0 s → Sys.run s as = some s' → SInv e0 s'
  | [], _, _, inv, h => by cases h; exact inv
  | a :: as, _, _, inv, h => by
    simp only [Sys.run] at h
    split at h
    · cases h
    · rename_i hs; exact sinv_run as (sinv_step inv a hs) h

theorem apply_cases (e : Etcd) (r : Req) :
    ((apply e r).2.version = none ∧ (apply e r).1 = e ∧
        ((apply e r).2.status = 409 ∨ (apply e r).2.status = 404 ∨ (apply e r).2.status = 400)) ∨
    ((apply e r).2.version = some (e.version + 1) ∧ (apply e r).1.version = e.version + 1 ∧
        (apply e r).1.store = effect e.store r ∧ (apply e r).2.status = okStatus r) := by
  cases r with
  | create n o => cases h : e.store.get n <;> simp [apply, h, effect, okStatus]
  | update n o =>
    cases h : e.store.get n with
    | none => simp [apply, h]
    | some old => by_cases hk : old.kind = o.kind <;> simp [apply, h, hk, effect, okStatus]
  | delete n => cases h : e.store.get n <;> simp [apply, h, effect, okStatus]

def successes : List Req → List Resp → List Req
  | r :: rs, p :: ps => if p.ok then r :: successes rs ps else successes rs ps
  | _, _ => []

theorem runSeq_versions : ∀ (rs : List Req) (e : Etcd),
    (runSeq e rs).2.filterMap (·.version) = List.range' (e.version + 1) ((runSeq e rs).2.filter Resp.ok).length ∧
    (runSeq e rs).1.version = e.version + ((runSeq e rs).2.filter Resp.ok).length ∧
    (runSeq e rs).1.store = (successes rs (runSeq e rs).2).foldl effect e.store
  | [], e => by simp [runSeq, successes]
  | r :: rs, e => by
    have ih := runSeq_versions rs (apply e r).1
    simp only [runSeq]
    rcases apply_cases e r with ⟨hv, he, _⟩ | ⟨hv, hver, hst, _⟩
    · rw [he] at ih
      simp only [List.filterMap_cons, hv, List.filter_cons, Resp.ok, Option.isSome_none, Bool.false_eq_true,
        ↓reduceIte, successes, he]
      exact ih
    · simp only [List.filterMap_cons, hv, List.filter_cons, Resp.ok, Option.isSome_some, ↓reduceIte,
        List.length_cons, List.range'_succ, successes, List.foldl_cons]
      rw [hver] at ih
      refine ⟨by rw [ih.1], by rw [ih.2.1]; omega, ?_⟩
      rw [ih.2.2, hst]

/-! ### soundness of the judge's history check w.r.t. `runSeq` -/

def reqsOf : List Op → List Req
  | [] => []
  | o :: os => match o.kind with
    | .mut r => r :: reqsOf os
    | _ => reqsOf os

/-- `replay` accepts only lists of mutations whose observed status / version are those of the sequential
execution `runSeq`, and its last state is `runSeq`'s result. -/
theorem replay_sound : ∀ (ops : List Op) (e : Etcd), (replay apply e ops).2 = true →
    (runSeq e (reqsOf ops)).2.map (fun r => (r.status, r.version)) = ops.map (fun o => (o.status, o.ver)) ∧
    (replay apply e ops).1.getLast? = some (runSeq e (reqsOf ops)).1 ∧ (reqsOf ops).length = ops.length
  | [], e, _ => by simp [replay, runSeq, reqsOf]
  | o :: os, e, h => by
    match hk : o.kind with
    | .mut r =>
      simp only [replay, hk, Bool.and_eq_true, beq_iff_eq] at h
      obtain ⟨⟨hs, hv⟩, hr⟩ := h
      obtain ⟨i1, i2, i3⟩ := replay_sound os (apply e r).1 hr
      simp only [reqsOf, hk, runSeq, replay, List.map_cons, List.length_cons, i1, i3, hs, hv, List.getLast?_cons, i2]
      simp
    | .get n seen => simp [replay, hk] at h
    | .other => simp [replay, hk] at h

theorem insertByVer_perm (o : Op) : ∀ l : List Op, (insertByVer o l).Perm (o :: l)
  | [] => List.Perm.refl _
  | x :: xs => by
    simp only [insertByVer]
    split
    · exact List.Perm.refl _
    · exact ((insertByVer_perm o xs).cons x).trans (List.Perm.swap o x xs)

theorem sortByVer_perm : ∀ l : List Op, (sortByVer l).Perm l
  | [] => List.Perm.refl _
  | x :: xs => by
    simp only [sortByVer, List.foldr_cons]
    exact (insertByVer_perm x _).trans ((sortByVer_perm xs).cons x)

end EgVerif.AdminAPI
