import EgVerif.Model.Framing
import EgVerif.Spec.Proxy
/-!
Lemmas about `Model/Proxy.lean` and `Model/Framing.lean`: algebra of `Hdr.get/del/set/add` (every edit acts
key-wise), `lastIndex`, the fields of `prepareRequest`, and the steps of the ResponseAdaptor
(`adaptorCore_induct`: what body, compress and decompress each preserve, `adaptorCore` preserves).
-/
namespace EgVerif.Proxy

namespace Hdr

theorem get_nil (k : String) : get [] k = [] := rfl

theorem get_append (a b : Hdr) (k : String) : get (a ++ b) k = get a k ++ get b k := by
  unfold get
  rw [List.filter_append, List.flatMap_append]

theorem get_singleton (k k' : String) (vs : List String) : get [(k', vs)] k = if k = k' then vs else [] := by
  unfold get
  by_cases hk : k = k'
  · subst hk; simp
  · simp [hk, Ne.symm hk]

theorem get_del (h : Hdr) (k k' : String) : get (del h k') k = if k = k' then [] else get h k := by
  unfold get del
  rw [List.filter_filter]
  by_cases hk : k = k'
  · subst hk
    rw [if_pos rfl, List.filter_eq_nil_iff.mpr (fun e _ => by simp), List.flatMap_nil]
  · rw [if_neg hk]
    congr 1
    apply List.filter_congr
    intro e _
    by_cases he : e.1 = k
    · subst he; simp [hk]
    · simp [he]

theorem get_set (h : Hdr) (k k' v : String) : get (set h k' v) k = if k = k' then [v] else get h k := by
  unfold set
  rw [get_append, get_del, get_singleton]
  split <;> simp

theorem get_add (h : Hdr) (k k' v : String) : get (add h k' v) k = get h k ++ if k = k' then [v] else [] := by
  unfold add
  rw [get_append, get_singleton]

theorem get_del_same (h : Hdr) (k : String) : get (del h k) k = [] := by
  rw [get_del, if_pos rfl]

theorem get_del_other {h : Hdr} {k k' : String} (hne : k ≠ k') : get (del h k') k = get h k := by
  rw [get_del, if_neg hne]

theorem get_set_same (h : Hdr) (k v : String) : get (set h k v) k = [v] := by
  rw [get_set, if_pos rfl]

theorem get_set_other {h : Hdr} {k k' v : String} (hne : k ≠ k') : get (set h k' v) k = get h k := by
  rw [get_set, if_neg hne]

theorem get_add_other {h : Hdr} {k k' v : String} (hne : k ≠ k') : get (add h k' v) k = get h k := by
  rw [get_add, if_neg hne, List.append_nil]

theorem get_delAll (ks : List String) (h : Hdr) (k : String) :
    get (delAll h ks) k = if k ∈ ks then [] else get h k := by
  unfold delAll
  induction ks generalizing h with
  | nil => rfl
  | cons a t ih =>
    rw [List.foldl_cons, ih, get_del]
    by_cases hka : k = a
    · simp [hka]
    · simp [hka]
end Hdr

theorem lastIndex_ge (c : Char) (l : List Char) : -1 ≤ lastIndex c l := by
  induction l with
  | nil => simp [lastIndex]
  | cons x xs ih =>
    simp only [lastIndex]
    split
    · omega
    · split <;> omega

theorem lastIndex_not_mem {c : Char} {l : List Char} (h : c ∉ l) : lastIndex c l = -1 := by
  induction l with
  | nil => rfl
  | cons x xs ih =>
    have hx : (x == c) = false := by
      simp; intro hxc; exact h (by simp [hxc])
    have := ih (fun hm => h (List.mem_cons_of_mem _ hm))
    simp [lastIndex, this, hx]

theorem lastIndex_append_mem (c : Char) (a b : List Char) (hb : c ∉ b) :
    lastIndex c (a ++ c :: b) = a.length := by
  induction a with
  | nil => simp [lastIndex, lastIndex_not_mem hb]
  | cons x xs ih =>
    simp only [List.cons_append, lastIndex, ih, List.length_cons]
    have : (xs.length : Int) ≥ 0 := by omega
    simp [this]

/-! ### `adaptHeader` leaves every key it does not name alone -/

/-- A fold of header edits that act key-wise acts key-wise: what it leaves under `k` depends only on what was
under `k`. -/
theorem get_foldl_congr {α : Type} (f : Hdr → α → Hdr) (k : String)
    (hf : ∀ x y a, x.get k = y.get k → (f x a).get k = (f y a).get k) (l : List α) (x y : Hdr)
    (h : x.get k = y.get k) : (l.foldl f x).get k = (l.foldl f y).get k := by
  induction l generalizing x y with
  | nil => exact h
  | cons a t ih => exact ih _ _ (hf x y a h)

theorem get_foldl_other {α : Type} (f : Hdr → α → Hdr) (k : String) (l : List α) (h : Hdr)
    (hf : ∀ a ∈ l, ∀ x, (f x a).get k = x.get k) : (l.foldl f h).get k = h.get k := by
  induction l generalizing h with
  | nil => rfl
  | cons a t ih =>
    rw [List.foldl_cons, ih _ (fun b hb => hf b (List.mem_cons_of_mem _ hb)), hf a List.mem_cons_self]

theorem get_adaptHeader_other {a : AdSpec} {h : Hdr} {k : String} (hk : k ∉ a.hkeys) :
    Hdr.get (adaptHeader a h) k = h.get k := by
  unfold AdSpec.hkeys at hk
  simp only [List.mem_append, List.mem_map, not_or, not_exists, not_and] at hk
  unfold adaptHeader
  dsimp only
  rw [get_foldl_other _ k _ _ (fun kv hkv x => Hdr.get_add_other (fun e => hk.2 kv hkv e.symm)),
    get_foldl_other _ k _ _ (fun kv hkv x => Hdr.get_set_other (fun e => hk.1.2 kv hkv e.symm)),
    Hdr.get_delAll, if_neg hk.1.1]

/-- The URL as the code builds it: the query is appended only when there is one. -/
theorem targetURL_eq (u p rq : String) :
    targetURL u p rq = if rq != "" then u ++ p ++ ("?" ++ rq) else u ++ p := by
  unfold targetURL
  by_cases h : rq = "" <;> simp [h]

section prepareRequest
variable {π : Type} (canon : String → String) (hop : List String) (svr : ServerCfg) (mirror : Bool) (stub : π)
  (q : PReq π)

theorem prepareRequest_method : (prepareRequest canon hop svr mirror stub q).method = q.method := rfl

theorem prepareRequest_url :
    (prepareRequest canon hop svr mirror stub q).url = targetURL svr.url q.escapedPath q.rawQuery := rfl

theorem prepareRequest_hdr : (prepareRequest canon hop svr mirror stub q).hdr = cloneHeader canon hop q.hdr := rfl

theorem prepareRequest_payload :
    (prepareRequest canon hop svr mirror stub q).payload = some (if mirror && q.isStream then stub else q.payload) := by
  unfold prepareRequest
  split <;> rfl

/-- The Host rule: `stdr.Host` is the client's Host or unset, and the transport fills an unset one with the URL's. -/
theorem prepareRequest_wireHost (hq : q.host ≠ "") :
    (prepareRequest canon hop svr mirror stub q).wireHost svr = hostSent svr q.host := by
  unfold OutReq.wireHost hostSent prepareRequest
  dsimp only
  split
  · rw [if_neg (by simpa using hq)]
  · rfl

end prepareRequest

/-- `compress` either leaves the response alone or, for one not labelled gzip, gzips it and rewrites the three headers. -/
theorem proxyCompress_induct {β : Type} (ops : BodyOps β) {P : Resp β → Prop} {minLength : Nat} {reqHdr : Hdr}
    {r : Resp β} (h0 : P r)
    (h1 : ¬ alreadyGzipped r.hdr = true →
      P { r with hdr := ((r.hdr.del keyCL).set keyCE "gzip").add keyVary keyCE, cl := -1, payload := r.payload.map ops.gz }) :
    P (proxyCompress ops minLength reqHdr r) := by
  fun_cases proxyCompress ops minLength reqHdr r
  case case4 hng _ => exact h1 hng
  all_goals exact h0

/-! ### The steps of `ResponseAdaptor.Handle`

`adaptorCore` is body, then compress, then decompress; `adaptorChain` is a fold of `adaptorHandle`. Whatever every
step preserves, the whole preserves. -/

theorem ne_CL_CE : keyCL ≠ keyCE := by decide
theorem ne_CL_Vary : keyCL ≠ keyVary := by decide
theorem ne_CE_Vary : keyCE ≠ keyVary := by decide

section steps
variable {β : Type} (ops : BodyOps β)

theorem adaptorCore_induct {P : Resp β → Prop} {a : AdSpec} {r : Resp β}
    (hb : ∀ r, P r → P (adaptorBody ops a.body r))
    (hc : ∀ r, P r → P (adaptorCompress ops r))
    (hd : ∀ r r', P r → adaptorDecompress ops r = some r' → P r')
    (h : P r) : P (adaptorCore ops a r) := by
  unfold adaptorCore
  dsimp only
  have h1 := hb r h
  generalize adaptorBody ops a.body r = r1 at h1 ⊢
  have h2 : P (if a.compress then adaptorCompress ops r1 else r1) := by
    split
    · exact hc r1 h1
    · exact h1
  generalize (if a.compress then adaptorCompress ops r1 else r1) = r2 at h2 ⊢
  split
  · cases hd' : adaptorDecompress ops r2 with
    | none => exact h2
    | some r' => exact hd r2 r' h2 hd'
  · exact h2

theorem adaptorChain_induct {P : Resp β → Prop} {as : List AdSpec} {r : Resp β}
    (hstep : ∀ a ∈ as, ∀ r, P r → P (adaptorHandle ops a r)) (h : P r) : P (adaptorChain ops as r) :=
  List.foldlRecOn as _ h fun r hr a ha => hstep a ha r hr

/-- `r'` has the status of `r` and its header lines, except possibly those under Content-Length and
Content-Encoding: what every step of the adaptor (and the transport's gunzip) guarantees. -/
def KeepsE2E (r' r : Resp β) : Prop :=
  r'.status = r.status ∧ ∀ k, k ≠ keyCL → k ≠ keyCE → r'.hdr.get k = r.hdr.get k

theorem KeepsE2E.refl (r : Resp β) : KeepsE2E r r := ⟨rfl, fun _ _ _ => rfl⟩

theorem KeepsE2E.trans {r'' r' r : Resp β} (h1 : KeepsE2E r'' r') (h2 : KeepsE2E r' r) : KeepsE2E r'' r :=
  ⟨h1.1.trans h2.1, fun k hl he => (h1.2 k hl he).trans (h2.2 k hl he)⟩

theorem adaptorBody_status_hdr (s : String) (r : Resp β) : KeepsE2E (adaptorBody ops s r) r := by
  unfold adaptorBody
  split
  · exact .refl r
  · exact ⟨rfl, fun k h1 h2 => by rw [Hdr.get_del_other h2, Hdr.get_set_other h1]⟩

theorem adaptorCompress_status_hdr (r : Resp β) : KeepsE2E (adaptorCompress ops r) r := by
  unfold adaptorCompress
  split
  · exact .refl r
  · split
    · exact ⟨rfl, fun k h1 h2 => by rw [Hdr.get_set_other h2, Hdr.get_del_other h1]⟩
    · exact ⟨rfl, fun k h1 h2 => by rw [Hdr.get_set_other h2, Hdr.get_set_other h1]⟩

theorem adaptorDecompress_status_hdr (r r' : Resp β) (hd : adaptorDecompress ops r = some r') : KeepsE2E r' r := by
  unfold adaptorDecompress at hd
  split at hd
  · cases hd; exact .refl r
  · split at hd
    · split at hd
      · cases hd
      · cases hd; exact ⟨rfl, fun k h1 h2 => by rw [Hdr.get_del_other h2, Hdr.get_del_other h1]⟩
    · split at hd
      · cases hd
      · cases hd; exact ⟨rfl, fun k h1 h2 => by rw [Hdr.get_del_other h2, Hdr.get_set_other h1]⟩

theorem adaptorCore_status_hdr (a : AdSpec) (r : Resp β) : KeepsE2E (adaptorCore ops a r) r :=
  adaptorCore_induct ops (P := (KeepsE2E · r)) (fun r1 h => (adaptorBody_status_hdr ops _ r1).trans h)
    (fun r1 h => (adaptorCompress_status_hdr ops r1).trans h)
    (fun r1 r' h hd => (adaptorDecompress_status_hdr ops r1 r' hd).trans h) (.refl r)

/-! No step reads the `ContentLength` field. -/

theorem adaptorBody_setCl (s : String) (r : Resp β) (c : Int) :
    adaptorBody ops s { r with cl := c } = { adaptorBody ops s r with cl := c } := by
  unfold adaptorBody
  split <;> rfl

theorem adaptorCompress_setCl (r : Resp β) (c : Int) :
    adaptorCompress ops { r with cl := c } = { adaptorCompress ops r with cl := c } := by
  unfold adaptorCompress
  dsimp only
  split
  · rfl
  · split <;> rfl

theorem adaptorDecompress_setCl (r : Resp β) (c : Int) :
    adaptorDecompress ops { r with cl := c } = (adaptorDecompress ops r).map ({ · with cl := c }) := by
  unfold adaptorDecompress
  dsimp only
  split
  · rfl
  · split <;> split <;> rfl

theorem adaptorCore_setCl (a : AdSpec) (r : Resp β) (c : Int) :
    adaptorCore ops a { r with cl := c } = { adaptorCore ops a r with cl := c } := by
  unfold adaptorCore
  dsimp only
  rw [adaptorBody_setCl]
  generalize adaptorBody ops a.body r = r1
  have h2 : (if a.compress then adaptorCompress ops { r1 with cl := c } else { r1 with cl := c }) =
      { (if a.compress then adaptorCompress ops r1 else r1) with cl := c } := by
    split
    · exact adaptorCompress_setCl ops r1 c
    · rfl
  rw [h2]
  generalize (if a.compress then adaptorCompress ops r1 else r1) = r2
  split
  · rw [adaptorDecompress_setCl]
    cases adaptorDecompress ops r2 <;> rfl
  · rfl

end steps

end EgVerif.Proxy
