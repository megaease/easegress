import EgVerif.Spec.Lifecycle
import Mathlib.Data.List.Perm.Basic
import Mathlib.Data.List.Nodup
import Mathlib.Tactic.SplitIfs
/-! The proof of C20 goes one name at a time. `diff`, `notify` and the loops of `handleEvent` are folds
over maps with unique keys; `foldl_proj` reduces such a fold, seen at one name `n` (`Diff.at`,
`CState0.at`, `Map.get · n`), to the one step that concerns `n`. What a diff or an event holds for `n`
is the `change` of the object held for `n`, whose shape is that of the specification's `wordStep`;
`Inv` ties registry, watcher and consumer together and `run_spec` is the induction over histories. -/
set_option linter.unusedSectionVars false
set_option linter.unusedSimpArgs false
set_option linter.unnecessarySimpa false
namespace EgVerif.Lifecycle

section MapLemmas
variable {κ α : Type} [DecidableEq κ]

/-- A Go map has unique keys. -/
def Map.WF (m : Map κ α) : Prop := (m.map Prod.fst).Nodup

@[simp] theorem Map.get_nil (k : κ) : Map.get ([] : Map κ α) k = none := rfl

theorem Map.get_cons (k' : κ) (v : α) (r : Map κ α) (k : κ) :
    Map.get ((k', v) :: r) k = if k' = k then some v else Map.get r k := rfl

theorem Map.wf_nil : Map.WF ([] : Map κ α) := List.nodup_nil

theorem Map.get_eq_none {m : Map κ α} {k : κ} : m.get k = none ↔ k ∉ m.map Prod.fst := by
  induction m with
  | nil => simp
  | cons x r ih =>
    obtain ⟨k', v⟩ := x
    by_cases h : k' = k
    · simp [Map.get_cons, h]
    · simp [Map.get_cons, h, ih, Ne.symm h]

theorem Map.wf_cons {k : κ} {v : α} {r : Map κ α} :
    Map.WF ((k, v) :: r) ↔ r.get k = none ∧ r.WF := by
  rw [Map.get_eq_none]
  exact List.nodup_cons

theorem Map.get_append (m₁ m₂ : Map κ α) (k : κ) :
    Map.get (m₁ ++ m₂) k = (m₁.get k).or (m₂.get k) := by
  induction m₁ with
  | nil => rfl
  | cons x r ih =>
    obtain ⟨k', v⟩ := x
    by_cases h : k' = k
    · simp [Map.get_cons, h]
    · simp [Map.get_cons, h, ih]

theorem Map.get_filter_key (m : Map κ α) (p : κ → Bool) (k : κ) :
    Map.get (m.filter (fun e => p e.1)) k = if p k then m.get k else none := by
  induction m with
  | nil => simp
  | cons x r ih =>
    obtain ⟨k', v⟩ := x
    by_cases h : k' = k
    · subst h
      by_cases hp : p k' <;> simp [List.filter_cons, hp, Map.get_cons, ih]
    · by_cases hp : p k' <;> simp [List.filter_cons, hp, Map.get_cons, ih, h]

theorem Map.get_del (m : Map κ α) (k' k : κ) :
    Map.get (m.del k') k = if k = k' then none else m.get k := by
  unfold Map.del
  rw [Map.get_filter_key m (fun x => !decide (x = k')) k]
  by_cases h : k = k' <;> simp [h]

theorem Map.get_set (m : Map κ α) (k' : κ) (v : α) (k : κ) :
    Map.get (m.set k' v) k = if k = k' then some v else m.get k := by
  unfold Map.set
  rw [Map.get_append, Map.get_del, Map.get_cons]
  by_cases h : k = k'
  · simp [h]
  · simp [h, Ne.symm h]

theorem Map.wf_filter {m : Map κ α} (p : κ × α → Bool) (wf : m.WF) : Map.WF (m.filter p) :=
  List.Nodup.sublist (List.filter_sublist.map Prod.fst) wf

theorem Map.wf_del {m : Map κ α} (k : κ) (wf : m.WF) : Map.WF (m.del k) := Map.wf_filter _ wf

theorem Map.wf_set {m : Map κ α} (k : κ) (v : α) (wf : m.WF) : Map.WF (m.set k v) := by
  have hk : k ∉ (m.del k).map Prod.fst := Map.get_eq_none.mp (by rw [Map.get_del, if_pos rfl])
  unfold Map.set Map.WF
  rw [List.map_append, List.nodup_append_comm]
  exact List.nodup_cons.mpr ⟨hk, Map.wf_del k wf⟩

theorem Map.get_eq_some {m : Map κ α} (wf : m.WF) {k : κ} {v : α} :
    m.get k = some v ↔ (k, v) ∈ m := by
  induction m with
  | nil => simp
  | cons x r ih =>
    obtain ⟨k', v'⟩ := x
    obtain ⟨hk, wr⟩ := Map.wf_cons.mp wf
    rw [Map.get_cons, List.mem_cons, ← ih wr, Prod.mk.injEq]
    by_cases e : k' = k
    · subst e
      simp [hk, eq_comm]
    · simp [e, Ne.symm e]

theorem Map.wf_perm {m m' : Map κ α} (h : m'.Perm m) (wf : m.WF) : m'.WF :=
  ((h.map Prod.fst).nodup_iff).mpr wf

theorem Map.get_perm {m m' : Map κ α} (h : m'.Perm m) (wf : m.WF) (k : κ) : m'.get k = m.get k :=
  Option.ext fun v => by rw [Map.get_eq_some (Map.wf_perm h wf), Map.get_eq_some wf, h.mem_iff]

theorem Map.get_filter_val {m : Map κ α} (wf : m.WF) (p : κ × α → Bool) (k : κ) :
    Map.get (m.filter p) k = (m.get k).filter (fun v => p (k, v)) :=
  Option.ext fun v => by
    rw [Map.get_eq_some (Map.wf_filter p wf), List.mem_filter, ← Map.get_eq_some wf,
      Option.filter_eq_some_iff]

theorem Map.del_of_get_none {m : Map κ α} {k : κ} (h : m.get k = none) : m.del k = m := by
  unfold Map.del
  apply List.filter_eq_self.mpr
  intro x hx
  have hk := Map.get_eq_none.mp h
  have : x.1 ≠ k := fun e => hk (List.mem_map.mpr ⟨x, hx, e⟩)
  simpa using this

theorem mem_set {m : Map κ α} {k : κ} {v : α} {e : κ × α} (h : e ∈ m.set k v) : e ∈ m ∨ e = (k, v) := by
  unfold Map.set at h
  rcases List.mem_append.mp h with h1 | h1
  · exact Or.inl (List.mem_of_mem_filter h1)
  · exact Or.inr (by simpa using h1)

theorem set_nonempty (m : Map κ α) (k : κ) (v : α) : (m.set k v).isEmpty = false := by
  unfold Map.set
  cases m.del k <;> rfl

end MapLemmas

def optApply {β π : Type} (f : β → π → π) : Option β → π → π
  | none, v => v
  | some b, v => f b v

theorem optApply_none {β π : Type} (f : β → π → π) (v : π) : optApply f none v = v := rfl

/-- Folding a per-element step over a map with unique keys, seen through a projection that only
the element with key `n` can change. -/
theorem foldl_proj {σ π β : Type} {stepf : σ → Name × β → σ} (proj : σ → π) {n : Name}
    {f : β → π → π}
    (h : ∀ st m b, proj (stepf st (m, b)) = if n = m then f b (proj st) else proj st) :
    ∀ (l : Map Name β), l.WF → ∀ st, proj (l.foldl stepf st) = optApply f (l.get n) (proj st) := by
  intro l
  induction l with
  | nil => intro _ st; rfl
  | cons x r ih =>
    obtain ⟨m, b⟩ := x
    intro wf st
    obtain ⟨hm, wr⟩ := Map.wf_cons.mp wf
    rw [List.foldl_cons, ih wr, h, Map.get_cons]
    by_cases e : m = n
    · subst e
      rw [hm, if_pos rfl, if_pos rfl]
      rfl
    · rw [if_neg e, if_neg (Ne.symm e)]

/-! ### `diff`, seen at one name -/

/-- (registry object, deleted, created, updated) at one name. -/
abbrev Quad := Option Entity × Option Entity × Option Entity × Option Entity

def Diff.at (d : Diff) (n : Name) : Quad :=
  (d.ents.get n, d.deleted.get n, d.created.get n, d.updated.get n)

/-- What a change of the object held for one name from `old` to `new` puts into
(deleted, created, updated). It has the shape of `wordStep`: the consumer's calls are read off these
three entries. -/
def change : Option Entity → Option Entity → Option Entity × Option Entity × Option Entity
  | none, none => (none, none, none)
  | some p, none => (some p, none, none)
  | none, some e => (none, some e, none)
  | some p, some e =>
    if p = e then (none, none, none)
    else if p.kind = e.kind then (none, none, some e)
    else (some p, some e, none)

theorem change_self (v : Option Entity) : change v v = (none, none, none) := by
  cases v <;> simp [change]

theorem change_none_left (v : Option Entity) : change none v = (none, v, none) := by
  cases v <;> rfl

/-- Effect of the loop body for name `n` itself on the quadruple: the registry object follows
`regNext`, and the three maps gain the entries of the change. -/
def diffF (g : Nat) (y : Option (Kind × Body)) (q : Quad) : Quad :=
  let ch := change q.1 (regNext g q.1 (some y))
  (regNext g q.1 (some y), ch.1.or q.2.1, ch.2.1.or q.2.2.1, ch.2.2.or q.2.2.2)

theorem diffStep_at (g : Nat) (n : Name) (d : Diff) (m : Name) (y : Option (Kind × Body)) :
    (diffStep g d (m, y)).at n = if n = m then diffF g y (d.at n) else d.at n := by
  unfold diffStep Diff.at diffF
  cases y with
  | none => cases d.ents.get n <;> simp [regNext, change]
  | some kb =>
    obtain ⟨k, b⟩ := kb
    by_cases h : n = m
    · subst h
      cases hq : d.ents.get n with
      | none => simp [Map.get_set, regNext, change]
      | some p =>
        by_cases hsame : p.kind = k ∧ p.body = b
        · simp [hsame, hq, regNext, change]
        · have hne : ¬ p = ⟨g, k, b⟩ := fun e => hsame (by rw [e]; exact ⟨rfl, rfl⟩)
          by_cases hk : p.kind = k
          · have hb : ¬ p.body = b := fun e => hsame ⟨hk, e⟩
            simp [Map.get_set, regNext, change, hne, hk, hb]
          · simp [Map.get_set, regNext, change, hne, hk]
    · cases d.ents.get m with
      | none => simp only [Map.get_set, h, if_false]
      | some p =>
        simp only
        split_ifs <;> simp only [Map.get_set, h, if_false]

theorem diff_at (g : Nat) (ents : Map Name Entity) (cfg : Config) (wf : cfg.WF) (n : Name) :
    (diff g ents cfg).at n =
      (regNext g (ents.get n) (cfg.get n),
        change (ents.get n) (regNext g (ents.get n) (cfg.get n))) := by
  unfold diff
  rw [foldl_proj (fun d : Diff => d.at n) (diffStep_at g n) cfg wf]
  simp only [Diff.at, Map.get_filter_key ents (fun k => (cfg.get k).isSome) n,
    Map.get_filter_key ents (fun k => (cfg.get k).isNone) n, Map.get_nil]
  cases cfg.get n with
  | none => cases ents.get n <;> rfl
  | some y => simp [optApply, diffF]

/-- The four maps of `applyConfig` are Go maps. -/
structure Diff.WF (d : Diff) : Prop where
  ents : d.ents.WF
  deleted : d.deleted.WF
  created : d.created.WF
  updated : d.updated.WF

theorem diffStep_wf (g : Nat) (d : Diff) (x : Name × Option (Kind × Body)) (h : d.WF) :
    (diffStep g d x).WF := by
  obtain ⟨h1, h2, h3, h4⟩ := h
  unfold diffStep
  cases x.2 with
  | none => exact ⟨h1, h2, h3, h4⟩
  | some kb =>
    obtain ⟨k, b⟩ := kb
    simp only
    cases d.ents.get x.1 with
    | none => exact ⟨Map.wf_set _ _ h1, h2, Map.wf_set _ _ h3, h4⟩
    | some p =>
      simp only
      split_ifs
      · exact ⟨h1, h2, h3, h4⟩
      · exact ⟨Map.wf_set _ _ h1, Map.wf_set _ _ h2, Map.wf_set _ _ h3, h4⟩
      · exact ⟨Map.wf_set _ _ h1, h2, h3, Map.wf_set _ _ h4⟩

theorem diff_wf (g : Nat) (ents : Map Name Entity) (cfg : Config) (wf : ents.WF) :
    (diff g ents cfg).WF := by
  unfold diff
  refine List.foldlRecOn (motive := Diff.WF) cfg (diffStep g) ?_ (fun d h x _ => diffStep_wf g d x h)
  exact ⟨Map.wf_filter _ wf, Map.wf_filter _ wf, Map.wf_nil, Map.wf_nil⟩

/-- The entries a watcher's filter lets through are the change of the watcher's view: an object of
the same kind passes the filter iff its predecessor did. -/
theorem change_filter (P : Params) (old new : Option Entity) :
    ((change old new).1.filter P.passes, (change old new).2.1.filter P.passes,
        (change old new).2.2.filter P.passes) =
      change (old.filter P.passes) (new.filter P.passes) := by
  cases old with
  | none => rw [change_none_left]; exact (change_none_left _).symm
  | some p =>
    cases new with
    | none => by_cases hp : P.passes p <;> simp [change, Option.filter, hp]
    | some e =>
      by_cases h : p = e
      · subst h
        by_cases hp : P.passes p <;> simp [change, Option.filter, hp]
      · by_cases hk : p.kind = e.kind
        · have hpe : P.passes p = P.passes e := by simp [Params.passes, hk]
          by_cases he : P.passes e <;> simp [change, Option.filter, h, hk, hpe, he]
        · by_cases hp : P.passes p <;> by_cases he : P.passes e <;>
            simp [change, Option.filter, h, hk, hp, he]

/-! ### the consumer without the namespace bookkeeping

`CState0`, `delStep0 / creStep0 / updStep0 / handleEvent0` are the consumer loops with the namespace
object ignored. `handleEvent_sim` below shows that the model's loops (which create the namespace on
demand, refuse to update / delete without it, and run `_cleanSpace` after every delete) do exactly
the same to the maps and to the log, *because* the namespace exists iff one of its maps is not
empty (`NsOK`). -/

structure CState0 where
  store : Map (Nat × Name) Entity
  log : List Call

def delStep0 (P : Params) (c : CState0) (x : Name × Entity) : CState0 :=
  let key := (P.slot x.2.kind, x.1)
  match c.store.get key with
  | none => c
  | some old => { store := c.store.del key, log := c.log ++ [callClose P x.1 old] }

def creStep0 (P : Params) (c : CState0) (x : Name × Entity) : CState0 :=
  let key := (P.slot x.2.kind, x.1)
  if P.createChecks && (c.store.get key).isSome then c
  else { store := c.store.set key x.2, log := c.log ++ [callInit P x.1 x.2] }

def updStep0 (P : Params) (c : CState0) (x : Name × Entity) : CState0 :=
  let key := (P.slot x.2.kind, x.1)
  match c.store.get key with
  | none => c
  | some prev => { store := c.store.set key x.2, log := c.log ++ [callInherit P x.1 x.2 prev] }

def handleEvent0 (P : Params) (t : Nat) (c : CState0) (ev : Event) : CState0 :=
  let c1 := (P.order t 0 ev.del).foldl (delStep0 P) c
  let c2 := (P.order t 1 ev.cre).foldl (creStep0 P) c1
  (P.order t 2 ev.upd).foldl (updStep0 P) c2

/-! ### `handleEvent0`, seen at one name -/

/-- The consumer at one name: what each of its maps holds for the name, and the calls on it. -/
abbrev CView := (Nat → Option Entity) × List Call

def CState0.at (c : CState0) (n : Name) : CView :=
  (fun s => c.store.get (s, n), callsOf n c.log)

def upd (st : Nat → Option Entity) (s : Nat) (v : Option Entity) : Nat → Option Entity :=
  fun s' => if s' = s then v else st s'

def delF (P : Params) (n : Name) (e : Entity) (v : CView) : CView :=
  match v.1 (P.slot e.kind) with
  | none => v
  | some old => (upd v.1 (P.slot e.kind) none, v.2 ++ [callClose P n old])

def creF (P : Params) (n : Name) (e : Entity) (v : CView) : CView :=
  if P.createChecks && (v.1 (P.slot e.kind)).isSome then v
  else (upd v.1 (P.slot e.kind) (some e), v.2 ++ [callInit P n e])

def updF (P : Params) (n : Name) (e : Entity) (v : CView) : CView :=
  match v.1 (P.slot e.kind) with
  | none => v
  | some prev => (upd v.1 (P.slot e.kind) (some e), v.2 ++ [callInherit P n e prev])

theorem callsOf_snoc (n : Name) (l : List Call) (c : Call) :
    callsOf n (l ++ [c]) = callsOf n l ++ if c.name = n then [c] else [] := by
  by_cases h : c.name = n <;> simp [callsOf, h]

theorem delStep0_at (P : Params) (n : Name) (c : CState0) (m : Name) (e : Entity) :
    (delStep0 P c (m, e)).at n = if n = m then delF P n e (c.at n) else c.at n := by
  unfold delStep0 CState0.at delF upd
  simp only
  by_cases h : n = m
  · subst h
    cases c.store.get (P.slot e.kind, n) <;> simp [callsOf_snoc, callClose, Map.get_del]
  · cases c.store.get (P.slot e.kind, m) <;> simp [callsOf_snoc, callClose, Map.get_del, h, Ne.symm h]

theorem creStep0_at (P : Params) (n : Name) (c : CState0) (m : Name) (e : Entity) :
    (creStep0 P c (m, e)).at n = if n = m then creF P n e (c.at n) else c.at n := by
  unfold creStep0 CState0.at creF upd
  simp only
  by_cases h : n = m
  · subst h
    rw [if_pos rfl]
    split_ifs <;> simp [callsOf_snoc, callInit, Map.get_set]
  · rw [if_neg h]
    split_ifs <;> simp [callsOf_snoc, callInit, Map.get_set, h, Ne.symm h]

theorem updStep0_at (P : Params) (n : Name) (c : CState0) (m : Name) (e : Entity) :
    (updStep0 P c (m, e)).at n = if n = m then updF P n e (c.at n) else c.at n := by
  unfold updStep0 CState0.at updF upd
  simp only
  by_cases h : n = m
  · subst h
    cases c.store.get (P.slot e.kind, n) <;> simp [callsOf_snoc, callInherit, Map.get_set]
  · cases c.store.get (P.slot e.kind, m) <;> simp [callsOf_snoc, callInherit, Map.get_set, h, Ne.symm h]

/-- Every `range` oracle returns a permutation of the map it iterates. -/
def Params.OrderOK (P : Params) : Prop := ∀ t i m, (P.order t i m).Perm m

/-- What an event holds for one name: (delete, create, update). -/
def Event.at (ev : Event) (n : Name) : Option Entity × Option Entity × Option Entity :=
  (ev.del.get n, ev.cre.get n, ev.upd.get n)

/-- The three loops of `handleEvent` at one name, given what the event holds for it. -/
def applyEv (P : Params) (n : Name) (q : Option Entity × Option Entity × Option Entity) (v : CView) :
    CView :=
  optApply (updF P n) q.2.2 (optApply (creF P n) q.2.1 (optApply (delF P n) q.1 v))

theorem handleEvent0_at (P : Params) (ok : P.OrderOK) (t : Nat) (c : CState0) (ev : Event)
    (wd : ev.del.WF) (wc : ev.cre.WF) (wu : ev.upd.WF) (n : Name) :
    (handleEvent0 P t c ev).at n = applyEv P n (ev.at n) (c.at n) := by
  unfold handleEvent0
  simp only
  rw [foldl_proj (fun c : CState0 => c.at n) (updStep0_at P n) _ (Map.wf_perm (ok t 2 ev.upd) wu),
    foldl_proj (fun c : CState0 => c.at n) (creStep0_at P n) _ (Map.wf_perm (ok t 1 ev.cre) wc),
    foldl_proj (fun c : CState0 => c.at n) (delStep0_at P n) _ (Map.wf_perm (ok t 0 ev.del) wd),
    Map.get_perm (ok t 2 ev.upd) wu, Map.get_perm (ok t 1 ev.cre) wc, Map.get_perm (ok t 0 ev.del) wd]
  rfl

def emptyEv : Event := ⟨[], [], []⟩

theorem Event.eq_emptyEv {ev : Event} (h : ev.isEmpty = true) : ev = emptyEv := by
  obtain ⟨d, cr, u⟩ := ev
  simp only [Event.isEmpty, Bool.and_eq_true, List.isEmpty_iff] at h
  obtain ⟨⟨rfl, rfl⟩, rfl⟩ := h
  rfl

theorem order_nil {P : Params} (ok : P.OrderOK) (t i : Nat) : P.order t i [] = [] :=
  List.Perm.eq_nil (ok t i [])

theorem handleEvent0_empty (P : Params) (ok : P.OrderOK) (t : Nat) (c : CState0) (ev : Event)
    (h : ev.isEmpty = true) : handleEvent0 P t c ev = c := by
  rw [Event.eq_emptyEv h]
  simp [handleEvent0, emptyEv, order_nil ok]

theorem handleEvent_emptyEv {P : Params} (ok : P.OrderOK) (t : Nat) (c : CState) :
    handleEvent P t c emptyEv = c := by
  simp [handleEvent, emptyEv, order_nil ok]

/-! ### namespace bookkeeping: the model's loops simulate the abstract ones -/

def CState.toOld (c : CState) : CState0 := ⟨c.store, c.log⟩

def CState.at (c : CState) (n : Name) : CView := c.toOld.at n

/-- The hypotheses on the static parameters: every `range` oracle permutes, and a namespaced
consumer has exactly the two maps `_cleanSpace` probes (slot 0 = pipelines, slot 1 = trafficGates). -/
structure Params.WF (P : Params) : Prop where
  order : P.OrderOK
  slots : P.namespaced = true → ∀ k, P.slot k = 0 ∨ P.slot k = 1

/-- Namespace invariant of a namespaced consumer: the namespace object exists iff one of its maps
holds something, and every stored key is in one of the two maps. -/
def NsOK (P : Params) (c : CState) : Prop :=
  P.namespaced = true → c.ns = !c.store.isEmpty ∧ ∀ e ∈ c.store, e.1.1 = 0 ∨ e.1.1 = 1

/-- On a store whose keys are all in the two maps it probes, `_cleanSpace` only drops the namespace
flag of an empty store. -/
theorem cleanSpace_eq (c : CState) (hs : ∀ e ∈ c.store, e.1.1 = 0 ∨ e.1.1 = 1) :
    cleanSpace c = ⟨c.store, c.log, c.ns && !c.store.isEmpty⟩ := by
  obtain ⟨store, log, ns⟩ := c
  unfold cleanSpace
  cases store with
  | nil => cases ns <;> rfl
  | cons e r =>
    -- the head of the store is counted by one of the two probes
    have hpos : 0 < ((e :: r).filter (fun x => x.1.1 == 1)).length +
        ((e :: r).filter (fun x => x.1.1 == 0)).length := by
      have he : ∀ i, e.1.1 = i → 0 < ((e :: r).filter (fun x => x.1.1 == i)).length := fun i h =>
        List.length_pos_of_mem (List.mem_filter.mpr ⟨List.mem_cons_self, beq_iff_eq.mpr h⟩)
      rcases hs e List.mem_cons_self with h | h
      · exact Nat.add_pos_right _ (he 0 h)
      · exact Nat.add_pos_left (he 1 h) _
    simp only
    rw [if_neg (fun h0 => Nat.ne_of_gt hpos (beq_iff_eq.mp h0))]
    cases ns <;> rfl

theorem NsOK.store_nil {P : Params} {c : CState} (j : NsOK P c)
    (h : (P.namespaced && !c.ns) = true) : c.store = [] := by
  rw [Bool.and_eq_true, Bool.not_eq_true'] at h
  have := (j h.1).1
  rw [h.2] at this
  simpa using this.symm

theorem NsOK.set {P : Params} (ok : P.WF) {c : CState} (j : NsOK P c) (e : Entity) (n : Name)
    (log : List Call) :
    NsOK P ⟨c.store.set (P.slot e.kind, n) e, log, if P.namespaced then true else c.ns⟩ := by
  intro hn
  refine ⟨by rw [set_nonempty, if_pos hn]; rfl, fun x hx => ?_⟩
  rcases mem_set hx with h1 | h1
  · exact (j hn).2 x h1
  · rw [h1]; exact ok.slots hn e.kind

theorem delStep_sim (P : Params) (c : CState) (x : Name × Entity) (j : NsOK P c) :
    NsOK P (delStep P c x) ∧ (delStep P c x).toOld = delStep0 P c.toOld x := by
  unfold delStep delStep0 CState.toOld
  simp only
  by_cases hg : (P.namespaced && !c.ns) = true
  · rw [if_pos hg, j.store_nil hg]; exact ⟨j, rfl⟩
  · rw [if_neg hg]
    cases c.store.get (P.slot x.2.kind, x.1) with
    | none => exact ⟨j, rfl⟩
    | some old =>
      simp only
      by_cases hn : P.namespaced = true
      · obtain ⟨_, js⟩ := j hn
        have js' : ∀ e ∈ c.store.del (P.slot x.2.kind, x.1), e.1.1 = 0 ∨ e.1.1 = 1 :=
          fun e he => js e (List.mem_of_mem_filter he)
        have hns : c.ns = true := by simpa [hn] using hg
        rw [if_pos hn, cleanSpace_eq _ js']
        exact ⟨fun _ => ⟨by simp [hns], js'⟩, rfl⟩
      · rw [if_neg hn]; exact ⟨fun h => absurd h hn, rfl⟩

theorem creStep_sim (P : Params) (ok : P.WF) (c : CState) (x : Name × Entity) (j : NsOK P c) :
    NsOK P (creStep P c x) ∧ (creStep P c x).toOld = creStep0 P c.toOld x := by
  unfold creStep creStep0 CState.toOld
  by_cases h : (P.createChecks && (c.store.get (P.slot x.2.kind, x.1)).isSome) = true
  · rw [if_pos h, if_pos h]; exact ⟨j, rfl⟩
  · rw [if_neg h, if_neg h]; exact ⟨j.set ok x.2 x.1 _, rfl⟩

theorem updStep_sim (P : Params) (ok : P.WF) (c : CState) (x : Name × Entity) (j : NsOK P c) :
    NsOK P (updStep P c x) ∧ (updStep P c x).toOld = updStep0 P c.toOld x := by
  unfold updStep updStep0 CState.toOld
  simp only
  by_cases hg : (P.namespaced && !c.ns) = true
  · rw [if_pos hg, j.store_nil hg]; exact ⟨j, rfl⟩
  · rw [if_neg hg]
    cases c.store.get (P.slot x.2.kind, x.1) with
    | none => exact ⟨j, rfl⟩
    | some prev =>
      have hns : (if P.namespaced then true else c.ns) = c.ns := by
        by_cases hn : P.namespaced = true
        · simpa [hn] using hg
        · simp [hn]
      have := j.set ok x.2 x.1 (c.log ++ [callInherit P x.1 x.2 prev])
      rw [hns] at this
      exact ⟨this, rfl⟩

theorem foldl_sim {σ σ0 β : Type} (f : σ → β → σ) (f0 : σ0 → β → σ0) (π : σ → σ0) (J : σ → Prop)
    (h : ∀ c x, J c → J (f c x) ∧ π (f c x) = f0 (π c) x) :
    ∀ (l : List β) (c : σ), J c → J (l.foldl f c) ∧ π (l.foldl f c) = l.foldl f0 (π c)
  | [], _, j => ⟨j, rfl⟩
  | x :: r, c, j => by
    obtain ⟨j1, e1⟩ := h c x j
    rw [List.foldl_cons, List.foldl_cons, ← e1]
    exact foldl_sim f f0 π J h r _ j1

theorem handleEvent_sim (P : Params) (ok : P.WF) (t : Nat) (c : CState) (ev : Event) (j : NsOK P c) :
    NsOK P (handleEvent P t c ev) ∧ (handleEvent P t c ev).toOld = handleEvent0 P t c.toOld ev := by
  unfold handleEvent handleEvent0
  simp only
  obtain ⟨j1, e1⟩ := foldl_sim _ _ CState.toOld _ (delStep_sim P) (P.order t 0 ev.del) c j
  obtain ⟨j2, e2⟩ := foldl_sim _ _ CState.toOld _ (creStep_sim P ok) (P.order t 1 ev.cre) _ j1
  obtain ⟨j3, e3⟩ := foldl_sim _ _ CState.toOld _ (updStep_sim P ok) (P.order t 2 ev.upd) _ j2
  exact ⟨j3, by rw [e3, e2, e1]⟩

theorem handleEvent_at (P : Params) (ok : P.WF) (t : Nat) (c : CState) (ev : Event) (j : NsOK P c)
    (wd : ev.del.WF) (wc : ev.cre.WF) (wu : ev.upd.WF) (n : Name) :
    (handleEvent P t c ev).at n = applyEv P n (ev.at n) (c.at n) := by
  unfold CState.at
  rw [(handleEvent_sim P ok t c ev j).2]
  exact handleEvent0_at P ok.order t c.toOld ev wd wc wu n

/-! ### the consumer's maps have unique keys -/

theorem handleEvent0_storeWF (P : Params) (t : Nat) (c : CState0) (ev : Event) (h : c.store.WF) :
    (handleEvent0 P t c ev).store.WF := by
  unfold handleEvent0
  refine List.foldlRecOn (motive := fun c => c.store.WF) _ (updStep0 P)
    (List.foldlRecOn (motive := fun c => c.store.WF) _ (creStep0 P)
      (List.foldlRecOn (motive := fun c => c.store.WF) _ (delStep0 P) h (fun c h x _ => ?_))
      (fun c h x _ => ?_))
    (fun c h x _ => ?_)
  · unfold delStep0
    simp only
    cases c.store.get (P.slot x.2.kind, x.1) with
    | none => exact h
    | some old => exact Map.wf_del _ h
  · unfold creStep0
    simp only
    split_ifs
    · exact h
    · exact Map.wf_set _ _ h
  · unfold updStep0
    simp only
    cases c.store.get (P.slot x.2.kind, x.1) with
    | none => exact h
    | some prev => exact Map.wf_set _ _ h

theorem handleEvent_storeWF (P : Params) (ok : P.WF) (t : Nat) (c : CState) (ev : Event) (j : NsOK P c)
    (h : c.store.WF) : (handleEvent P t c ev).store.WF := by
  have e : (handleEvent P t c ev).store = (handleEvent0 P t c.toOld ev).store :=
    congrArg CState0.store (handleEvent_sim P ok t c ev j).2
  rw [e]
  exact handleEvent0_storeWF P t _ ev h

/-! ### one change of the consumer's view, seen at one name -/

/-- What the consumer's maps hold for a name whose live object is `v`: `v`, in the map of its kind. -/
def slotView (P : Params) (v : Option Entity) : Nat → Option Entity :=
  fun s => v.filter (fun e => decide (P.slot e.kind = s))

theorem slotView_some_self (P : Params) (e : Entity) : slotView P (some e) (P.slot e.kind) = some e := by
  simp [slotView, Option.filter]

theorem upd_slotView_none (P : Params) (e : Entity) :
    upd (slotView P (some e)) (P.slot e.kind) none = slotView P none := by
  funext s
  by_cases h : s = P.slot e.kind
  · simp [upd, slotView, h]
  · have h' : ¬ P.slot e.kind = s := fun x => h x.symm
    simp [upd, slotView, h, h', Option.filter]

theorem upd_slotView_some (P : Params) (v : Option Entity) (e : Entity)
    (hv : ∀ p, v = some p → p.kind = e.kind) :
    upd (slotView P v) (P.slot e.kind) (some e) = slotView P (some e) := by
  funext s
  by_cases h : s = P.slot e.kind
  · simp [upd, slotView, h, Option.filter]
  · have h' : ¬ P.slot e.kind = s := fun x => h x.symm
    cases v with
    | none => simp [upd, slotView, h, h', Option.filter]
    | some p => simp [upd, slotView, h, h', Option.filter, hv p rfl]

/-- Handling the change of the view from `v` to `v'` moves the maps from `v` to `v'` and makes
exactly the calls of `wordStep`. -/
theorem handle_change (P : Params) (n : Name) (v v' : Option Entity) (lg : List Call) :
    applyEv P n (change v v') (slotView P v, lg) = (slotView P v', lg ++ wordStep P n v v') := by
  cases v with
  | none =>
    cases v' with
    | none => simp [applyEv, change, optApply, wordStep]
    | some e =>
      simp [applyEv, change, optApply, wordStep, creF, slotView, upd_slotView_some P none e]
  | some p =>
    cases v' with
    | none => simp [applyEv, change, optApply, wordStep, delF, slotView_some_self, upd_slotView_none]
    | some e =>
      by_cases h : p = e
      · simp [applyEv, change, optApply, wordStep, h]
      · by_cases hk : p.kind = e.kind
        · have hs : slotView P (some p) (P.slot e.kind) = some p := by
            rw [← hk]; exact slotView_some_self P p
          simp [applyEv, change, optApply, wordStep, h, hk, updF, hs,
            upd_slotView_some P (some p) e (fun _ hq => by cases hq; exact hk)]
        · have hn : slotView P none (P.slot e.kind) = none := rfl
          simp [applyEv, change, optApply, wordStep, h, hk, delF, creF, slotView_some_self,
            upd_slotView_none, hn, upd_slotView_some P none e]

theorem wordStep_self (P : Params) (n : Name) (v : Option Entity) : wordStep P n v v = [] := by
  cases v <;> simp [wordStep]

/-! ### `watcher.entities` at one name -/

def wentsF (q : Option Entity × Option Entity × Option Entity) (w : Option Entity) : Option Entity :=
  optApply (fun e _ => some e) q.2.2 (optApply (fun e _ => some e) q.2.1 (optApply (fun _ _ => none) q.1 w))

theorem notify_wents (P : Params) (wents : Map Name Entity) (d : Diff)
    (wd : d.deleted.WF) (wc : d.created.WF) (wu : d.updated.WF) (n : Name) :
    (notify P wents d).1.get n = wentsF ((notify P wents d).2.at n) (wents.get n) := by
  have hset := foldl_proj (stepf := fun (m : Map Name Entity) e => m.set e.1 e.2) (fun m => m.get n)
    (f := fun e _ => some e) (fun st m b => Map.get_set st m b n)
  simp only [notify]
  rw [hset _ (Map.wf_filter _ wu), hset _ (Map.wf_filter _ wc),
    foldl_proj (stepf := fun (m : Map Name Entity) e => m.del e.1) (fun m => m.get n)
      (f := fun _ _ => none) (fun st m _ => Map.get_del st m n) _ (Map.wf_filter _ wd)]
  rfl

theorem wents_change (v v' : Option Entity) : wentsF (change v v') v = v' := by
  cases v with
  | none => cases v' <;> rfl
  | some p =>
    cases v' with
    | none => rfl
    | some e =>
      by_cases h : p = e
      · simp [change, wentsF, optApply, h]
      · by_cases hk : p.kind = e.kind <;> simp [change, wentsF, optApply, h, hk]

/-! ### one step of the system, seen at one name -/

def Item.WF : Item → Prop
  | .snap cfg => cfg.WF
  | .attach => True

/-- spec-level successor of (snapshot index, attached, registry object of `n`) -/
def nextG (g : Nat) : Item → Nat
  | .snap _ => g + 1
  | .attach => g

def nextAtt (att : Bool) : Item → Bool
  | .snap _ => att
  | .attach => true

def nextReg (n : Name) (g : Nat) (r : Option Entity) : Item → Option Entity
  | .snap cfg => regNext g r (cfg.get n)
  | .attach => r

/-- the event the watcher is sent for item `it` when the registry is in state `s` -/
def evOf (P : Params) (s : Sys) : Item → Event
  | .snap cfg => if s.w.attached then (notify P s.w.wents (diff s.g s.ents cfg)).2 else emptyEv
  | .attach => if s.w.attached then emptyEv else attachEvent P s.ents

/-- The step handles exactly that event (an empty event is not sent; handling it changes nothing). -/
theorem step_cons {P : Params} (ok : P.OrderOK) (s : Sys) (it : Item) :
    (step P s it).w.cons = handleEvent P s.t s.w.cons (evOf P s it) := by
  cases it with
  | snap cfg =>
    simp only [step, stepW, evOf]
    split
    · split
      · rename_i he; rw [Event.eq_emptyEv he, handleEvent_emptyEv ok]
      · rfl
    · exact (handleEvent_emptyEv ok _ _).symm
  | attach =>
    simp only [step, attachW, evOf]
    split
    · exact (handleEvent_emptyEv ok _ _).symm
    · rfl

theorem step_g (P : Params) (s : Sys) (it : Item) : (step P s it).g = nextG s.g it := by
  cases it <;> rfl

theorem step_attached (P : Params) (s : Sys) (it : Item) :
    (step P s it).w.attached = nextAtt s.w.attached it := by
  cases it with
  | snap cfg => cases h : s.w.attached <;> simp [step, stepW, nextAtt, h]
  | attach => cases h : s.w.attached <;> simp [step, attachW, nextAtt, h]

theorem step_reg (P : Params) (s : Sys) (it : Item) (wit : it.WF) (n : Name) :
    (step P s it).ents.get n = nextReg n s.g (s.ents.get n) it := by
  cases it with
  | snap cfg => exact congrArg Prod.fst (diff_at s.g s.ents cfg wit n)
  | attach => rfl

theorem evOf_wf (P : Params) (s : Sys) (wf : s.ents.WF) (it : Item) :
    (evOf P s it).del.WF ∧ (evOf P s it).cre.WF ∧ (evOf P s it).upd.WF := by
  have he : emptyEv.del.WF ∧ emptyEv.cre.WF ∧ emptyEv.upd.WF := ⟨Map.wf_nil, Map.wf_nil, Map.wf_nil⟩
  cases it with
  | snap cfg =>
    have dwf := diff_wf s.g s.ents cfg wf
    simp only [evOf]
    split
    · exact ⟨Map.wf_filter _ dwf.deleted, Map.wf_filter _ dwf.created, Map.wf_filter _ dwf.updated⟩
    · exact he
  | attach =>
    simp only [evOf]
    split
    · exact he
    · exact ⟨Map.wf_nil, Map.wf_filter _ wf, Map.wf_nil⟩

/-- The event of a step holds, for every name, the change of the watcher's view of that name. -/
theorem evOf_at (P : Params) (s : Sys) (wf : s.ents.WF) (it : Item) (wit : it.WF) (n : Name) :
    (evOf P s it).at n = change (view P s.w.attached (s.ents.get n))
      (view P (nextAtt s.w.attached it) (nextReg n s.g (s.ents.get n) it)) := by
  have hev : ∀ (m : Map Name Entity), m.WF →
      Map.get (m.filter (fun e => P.passes e.2)) n = (m.get n).filter P.passes :=
    fun m mwf => Map.get_filter_val mwf (fun e => P.passes e.2) n
  cases it with
  | snap cfg =>
    simp only [evOf, nextAtt, nextReg]
    cases s.w.attached with
    | true =>
      have dwf := diff_wf s.g s.ents cfg wf
      have hq : ((diff s.g s.ents cfg).deleted.get n, (diff s.g s.ents cfg).created.get n,
          (diff s.g s.ents cfg).updated.get n) = change _ _ :=
        congrArg Prod.snd (diff_at s.g s.ents cfg wit n)
      simp only [if_true, notify, Event.at, view]
      rw [hev _ dwf.deleted, hev _ dwf.created, hev _ dwf.updated, ← change_filter, ← hq]
    | false => rfl
  | attach =>
    simp only [evOf, nextAtt, nextReg]
    cases s.w.attached with
    | true => simp only [if_true, change_self]; rfl
    | false =>
      simp only [Bool.false_eq_true, if_false, attachEvent, Event.at, view, if_true, Map.get_nil,
        hev _ wf, change_none_left]

/-- The invariant tying registry, watcher and consumer together. -/
structure Inv (P : Params) (s : Sys) : Prop where
  wf : s.ents.WF
  store : ∀ n, (s.w.cons.at n).1 = slotView P (view P s.w.attached (s.ents.get n))
  ns : NsOK P s.w.cons
  /-- `watcher.entities` is the watcher's view of the registry -/
  wents : ∀ n, s.w.wents.get n = view P s.w.attached (s.ents.get n)
  swf : s.w.cons.store.WF

theorem inv_init (P : Params) : Inv P Sys.init :=
  ⟨Map.wf_nil, fun _ => rfl, fun _ => ⟨rfl, fun _ h => nomatch h⟩, fun _ => rfl, Map.wf_nil⟩

/-- The consumer at `n` after a step: its maps hold the new view, and the calls made are the
`wordStep` from the old view to the new one. -/
theorem step_cons_at (P : Params) (ok : P.WF) (s : Sys) (inv : Inv P s) (it : Item) (wit : it.WF)
    (n : Name) :
    (step P s it).w.cons.at n =
      (slotView P (view P (nextAtt s.w.attached it) (nextReg n s.g (s.ents.get n) it)),
        callsOf n s.w.cons.log ++ wordStep P n (view P s.w.attached (s.ents.get n))
          (view P (nextAtt s.w.attached it) (nextReg n s.g (s.ents.get n) it))) := by
  obtain ⟨wd, wc, wu⟩ := evOf_wf P s inv.wf it
  rw [step_cons ok.order, handleEvent_at P ok _ _ _ inv.ns wd wc wu n, evOf_at P s inv.wf it wit n,
    ← handle_change, ← inv.store n]
  rfl

theorem step_log (P : Params) (ok : P.WF) (s : Sys) (inv : Inv P s) (it : Item) (wit : it.WF)
    (n : Name) :
    callsOf n (step P s it).w.cons.log =
      callsOf n s.w.cons.log ++ wordStep P n (view P s.w.attached (s.ents.get n))
        (view P (nextAtt s.w.attached it) (nextReg n s.g (s.ents.get n) it)) :=
  congrArg Prod.snd (step_cons_at P ok s inv it wit n)

theorem step_wents (P : Params) (s : Sys) (inv : Inv P s) (it : Item) (wit : it.WF) (n : Name) :
    (step P s it).w.wents.get n =
      view P (nextAtt s.w.attached it) (nextReg n s.g (s.ents.get n) it) := by
  -- `watcher.entities` takes what the event holds for `n`
  have hev : (step P s it).w.wents.get n = wentsF ((evOf P s it).at n) (s.w.wents.get n) := by
    cases it with
    | snap cfg =>
      have dwf := diff_wf s.g s.ents cfg inv.wf
      simp only [step, stepW, evOf]
      split
      · exact notify_wents P _ _ dwf.deleted dwf.created dwf.updated n
      · rfl
    | attach =>
      simp only [step, attachW, evOf]
      split
      · rfl
      · rename_i hatt
        rw [inv.wents n, Bool.not_eq_true _ |>.mp hatt]
        unfold Event.at
        cases (attachEvent P s.ents).cre.get n <;> rfl
  rw [hev, evOf_at P s inv.wf it wit n, inv.wents n, wents_change]

theorem step_inv (P : Params) (ok : P.WF) (s : Sys) (inv : Inv P s) (it : Item) (wit : it.WF) :
    Inv P (step P s it) where
  wf := by
    cases it with
    | snap cfg => exact (diff_wf s.g s.ents cfg inv.wf).ents
    | attach => exact inv.wf
  store n := by rw [step_cons_at P ok s inv it wit n, step_attached, step_reg P s it wit n]
  ns := by rw [step_cons ok.order]; exact (handleEvent_sim P ok _ _ _ inv.ns).1
  wents n := by rw [step_wents P s inv it wit n, step_attached, step_reg P s it wit n]
  swf := by rw [step_cons ok.order]; exact handleEvent_storeWF P ok _ _ _ inv.ns inv.swf

def HistWF (h : List Item) : Prop := ∀ it ∈ h, it.WF

theorem HistWF.head {it : Item} {h : List Item} (wf : HistWF (it :: h)) : it.WF :=
  wf it List.mem_cons_self

theorem HistWF.tail {it : Item} {h : List Item} (wf : HistWF (it :: h)) : HistWF h :=
  fun x hx => wf x (List.mem_cons_of_mem _ hx)

theorem run_cons (P : Params) (s : Sys) (it : Item) (h : List Item) :
    run P s (it :: h) = run P (step P s it) h := rfl

theorem run_append (P : Params) (s : Sys) (a b : List Item) : run P s (a ++ b) = run P (run P s a) b :=
  List.foldl_append

theorem run_inv (P : Params) (ok : P.WF) : ∀ (h : List Item) (s : Sys), Inv P s → HistWF h →
    Inv P (run P s h)
  | [], _, inv, _ => inv
  | it :: h, s, inv, wf => run_inv P ok h _ (step_inv P ok s inv it wf.head) wf.tail

theorem reach_inv (P : Params) (ok : P.WF) (h : List Item) (wf : HistWF h) : Inv P (run P Sys.init h) :=
  run_inv P ok h Sys.init (inv_init P) wf

theorem specWord_cons (P : Params) (n : Name) (g : Nat) (att : Bool) (r : Option Entity) (it : Item)
    (rest : List Item) :
    specWord P n g att r (it :: rest) =
      wordStep P n (view P att r) (view P (nextAtt att it) (nextReg n g r it)) ++
        specWord P n (nextG g it) (nextAtt att it) (nextReg n g r it) rest := by
  cases it <;> rfl

theorem specFinal_cons (n : Name) (g : Nat) (att : Bool) (r : Option Entity) (it : Item)
    (rest : List Item) :
    specFinal n g att r (it :: rest) = specFinal n (nextG g it) (nextAtt att it) (nextReg n g r it) rest := by
  cases it <;> rfl

/-- The central induction: from any state satisfying the invariant, the calls on `n` are the
specification's word, and registry/attachment follow the specification. -/
theorem run_spec (P : Params) (ok : P.WF) (n : Name) : ∀ (h : List Item) (s : Sys), Inv P s → HistWF h →
    callsOf n (run P s h).w.cons.log =
        callsOf n s.w.cons.log ++ specWord P n s.g s.w.attached (s.ents.get n) h ∧
      ((run P s h).w.attached, (run P s h).ents.get n) = specFinal n s.g s.w.attached (s.ents.get n) h
  | [], s, _, _ => ⟨(List.append_nil _).symm, rfl⟩
  | it :: rest, s, inv, wf => by
    obtain ⟨i1, i2⟩ := run_spec P ok n rest (step P s it) (step_inv P ok s inv it wf.head) wf.tail
    rw [step_g, step_attached, step_reg P s it wf.head n] at i1 i2
    rw [run_cons, specWord_cons, specFinal_cons, i1, step_log P ok s inv it wf.head n,
      List.append_assoc]
    exact ⟨rfl, i2⟩

theorem run_final (P : Params) (ok : P.WF) (h : List Item) (wf : HistWF h) (n : Name) :
    (run P Sys.init h).w.attached = (specFinal n 0 false none h).1 ∧
      (run P Sys.init h).ents.get n = (specFinal n 0 false none h).2 :=
  Prod.ext_iff.mp (run_spec P ok n h Sys.init (inv_init P) wf).2

/-! ### the lifecycle automaton accepts the specification's words -/

theorem Auto.run_append (live : Option Entity) (a b : List Call) :
    Auto.run live (a ++ b) = match Auto.run live a with | none => none | some l => Auto.run l b := by
  induction a generalizing live with
  | nil => rfl
  | cons c r ih =>
    simp only [List.cons_append, Auto.run]
    cases Auto.step live c with
    | none => rfl
    | some l => exact ih l

theorem Auto.run_wordStep (P : Params) (n : Name) (old new : Option Entity) :
    Auto.run old (wordStep P n old new) = some new := by
  cases old with
  | none =>
    cases new with
    | none => rfl
    | some e => simp [wordStep, Auto.run, Auto.step, callInit]
  | some p =>
    cases new with
    | none => simp [wordStep, Auto.run, Auto.step, callClose]
    | some e =>
      by_cases h : p = e
      · simp [wordStep, h, Auto.run]
      · by_cases hk : p.kind = e.kind
        · simp [wordStep, h, hk, Auto.run, Auto.step, callInherit]
        · simp [wordStep, h, hk, Auto.run, Auto.step, callClose, callInit]

theorem Auto.run_specWord (P : Params) (n : Name) : ∀ (h : List Item) (g : Nat) (att : Bool)
    (r : Option Entity),
    Auto.run (view P att r) (specWord P n g att r h) =
      some (view P (specFinal n g att r h).1 (specFinal n g att r h).2)
  | [], _, _, _ => rfl
  | it :: rest, g, att, r => by
    rw [specWord_cons, specFinal_cons, Auto.run_append, Auto.run_wordStep]
    exact Auto.run_specWord P n rest _ _ _

theorem regNext_valid {g : Nat} {r : Option Entity} {k : Kind} {b : Body} :
    ∃ g', regNext g r (some (some (k, b))) = some ⟨g', k, b⟩ := by
  cases r with
  | none => exact ⟨g, rfl⟩
  | some p =>
    by_cases h : p.kind = k ∧ p.body = b
    · obtain ⟨gp, kp, bp⟩ := p
      exact ⟨gp, by simp only at h; simp [regNext, h.1, h.2]⟩
    · exact ⟨g, by simp [regNext, h]⟩

theorem regNext_idem (g g' : Nat) (r : Option Entity) (c : Option (Option (Kind × Body))) :
    regNext g' (regNext g r c) c = regNext g r c := by
  cases c with
  | none => cases r <;> rfl
  | some y =>
    cases y with
    | none => cases r <;> rfl
    | some kb =>
      obtain ⟨k, b⟩ := kb
      cases r with
      | none => simp [regNext]
      | some p => by_cases h : p.kind = k ∧ p.body = b <;> simp [regNext, h]

theorem specFinal_snoc_snap (n : Name) (cfg : Config) : ∀ (l : List Item) (g : Nat) (att : Bool)
    (r : Option Entity), ∃ g', specFinal n g att r (l ++ [.snap cfg]) =
      ((specFinal n g att r l).1, regNext g' (specFinal n g att r l).2 (cfg.get n))
  | [], g, _, _ => ⟨g, rfl⟩
  | it :: rest, g, att, r => by
    rw [List.cons_append, specFinal_cons, specFinal_cons]
    exact specFinal_snoc_snap n cfg rest _ _ _

theorem specFinal_attached (n : Name) : ∀ (l : List Item) (g : Nat) (att : Bool) (r : Option Entity),
    att = true ∨ Item.attach ∈ l → (specFinal n g att r l).1 = true
  | [], _, _, _, h => h.resolve_right (by simp)
  | .snap c :: rest, g, att, r, h =>
    specFinal_attached n rest _ att _ (h.imp_right (by simp))
  | .attach :: rest, g, _, r, _ => specFinal_attached n rest g true r (Or.inl rfl)

/-! ### what the specification's words depend on -/

theorem wordStep_congr (P P' : Params) (n : Name) (hp : ∀ op e, P.panics op n e = P'.panics op n e)
    (a b : Option Entity) : wordStep P n a b = wordStep P' n a b := by
  cases a <;> cases b <;> simp [wordStep, callInit, callClose, callInherit, hp]

theorem view_congr (P P' : Params) (hf : ∀ e, P.passes e = P'.passes e) (att : Bool)
    (r : Option Entity) : view P att r = view P' att r := by
  have : P.passes = P'.passes := funext hf
  simp [view, this]

theorem wordStep_erase (P P' : Params) (n : Name) (a b : Option Entity) :
    (wordStep P n a b).map Call.erase = (wordStep P' n a b).map Call.erase := by
  cases a with
  | none => cases b <;> simp [wordStep, callInit, Call.erase]
  | some p =>
    cases b with
    | none => simp [wordStep, callClose, Call.erase]
    | some e =>
      by_cases h : p = e
      · simp [wordStep, h]
      · by_cases hk : p.kind = e.kind <;> simp [wordStep, h, hk, callInit, callClose, callInherit, Call.erase]

theorem specWord_map_congr (f : Call → Call) (P P' : Params) (n : Name)
    (hf : ∀ e, P.passes e = P'.passes e)
    (hw : ∀ a b, (wordStep P n a b).map f = (wordStep P' n a b).map f) :
    ∀ (h : List Item) (g : Nat) (att : Bool) (r : Option Entity),
      (specWord P n g att r h).map f = (specWord P' n g att r h).map f
  | [], _, _, _ => rfl
  | it :: rest, g, att, r => by
    rw [specWord_cons, specWord_cons, List.map_append, List.map_append,
      specWord_map_congr f P P' n hf hw rest, view_congr P P' hf, view_congr P P' hf, hw]

/-- The specification's word for `n` depends on the parameters only through the filter and the
faults *of `n`* — not on the iteration-order oracle, the slots, or the faults of other names. -/
theorem specWord_congr (P P' : Params) (n : Name) (hf : ∀ e, P.passes e = P'.passes e)
    (hp : ∀ op e, P.panics op n e = P'.panics op n e) (h : List Item) (g : Nat) (att : Bool)
    (r : Option Entity) : specWord P n g att r h = specWord P' n g att r h := by
  have := specWord_map_congr id P P' n hf
    (fun a b => by rw [wordStep_congr P P' n hp]) h g att r
  rwa [List.map_id, List.map_id] at this

theorem specWord_erase (P P' : Params) (n : Name) (hf : ∀ e, P.passes e = P'.passes e)
    (h : List Item) (g : Nat) (att : Bool) (r : Option Entity) :
    (specWord P n g att r h).map Call.erase = (specWord P' n g att r h).map Call.erase :=
  specWord_map_congr Call.erase P P' n hf (wordStep_erase P P' n) h g att r

/-- In the specification's words every `inherit` has a predecessor of the same kind, and the
panic flag of every call is the object's own decision. -/
def Call.Sane (P : Params) (c : Call) : Prop :=
  match c.op with
  | .init => c.prev = none ∧ c.panicked = P.panics .init c.name c.ent
  | .close => c.prev = none ∧ c.panicked = P.panics .close c.name c.ent
  | .inherit => ∃ p, c.prev = some p ∧ p.kind = c.ent.kind ∧ c.panicked = P.panics .inherit c.name c.ent

theorem wordStep_sane (P : Params) (n : Name) (a b : Option Entity) :
    ∀ c ∈ wordStep P n a b, c.name = n ∧ c.Sane P := by
  cases a with
  | none => cases b <;> simp [wordStep, callInit, Call.Sane]
  | some p =>
    cases b with
    | none => simp [wordStep, callClose, Call.Sane]
    | some e =>
      by_cases h : p = e
      · simp [wordStep, h]
      · by_cases hk : p.kind = e.kind <;>
          simp [wordStep, h, hk, callInit, callClose, callInherit, Call.Sane]

theorem specWord_sane (P : Params) (n : Name) : ∀ (h : List Item) (g : Nat) (att : Bool)
    (r : Option Entity), ∀ c ∈ specWord P n g att r h, c.name = n ∧ c.Sane P
  | [], _, _, _, _, hc => nomatch hc
  | it :: rest, g, att, r, c, hc => by
    rw [specWord_cons] at hc
    rcases List.mem_append.mp hc with h1 | h1
    · exact wordStep_sane P n _ _ c h1
    · exact specWord_sane P n rest _ _ _ c h1

end EgVerif.Lifecycle
