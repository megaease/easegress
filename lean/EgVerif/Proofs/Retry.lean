import EgVerif.Spec.Retry
import Mathlib.Tactic.Ring
import Mathlib.Tactic.Linarith
/-!
Lemmas for C10 about the retry loop and the pool's `handle`. One induction over the loop (`loop_inv`)
carries everything the property theorems of `Props/C10.lean` say about a run: which attempts are made, that
all but the last failed, whose outcome is returned, and which back-off timers fire in between.
-/
namespace EgVerif.Retry

/-- the `k`-th attempt returns an error -/
def fails (fc : List Nat) (env : Env) (k : Nat) : Bool := (doHandle fc (env.attempt k) none).1.isSome

/-- `""` and `"shortCircuited"` are the result strings from which the judge reads "no error" and "refused by
the breaker"; no `serverPoolError` carries either. -/
theorem doHandle_result_ne (fc : List Nat) (a : Attempt) (r : Option Nat) (e : SPErr)
    (h : (doHandle fc a r).1 = some e) : e.result ≠ "" ∧ e.result ≠ "shortCircuited" := by
  cases a with
  | resp st =>
    rw [doHandle] at h
    split at h
    · cases h; exact ⟨by simp, by simp⟩
    · cases h
  | sendErr c => cases c <;> cases h <;> exact ⟨by simp, by simp⟩
  | _ => cases h; exact ⟨by simp, by simp⟩

theorem retryLoop_zero (fc : List Nat) (p : RetryPolicy) (env : Env) (k : Nat) (prev) :
    retryLoop fc p env 0 k prev = ⟨[], prev.1, prev.2⟩ := rfl

theorem calls_nil : calls [] = [] := rfl
theorem calls_cons_call (k : Nat) (r : List Event) : calls (.call k :: r) = k :: calls r := rfl
theorem calls_cons_sleep (k n d : Nat) (r : List Event) : calls (.sleep k n d :: r) = calls r := rfl
theorem calls_cons_stop (k : Nat) (r : List Event) : calls (.stop k :: r) = calls r := rfl

/-- the durations `⌊num/den⌋` (whole ns) of the back-off timers that fired, in order -/
def sleepDurs (evs : List Event) : List Nat :=
  evs.filterMap (fun e => match e with | .sleep _ n d => some (n / d) | _ => none)

theorem sleepDurs_nil : sleepDurs [] = [] := rfl
theorem sleepDurs_cons_call (k : Nat) (r : List Event) : sleepDurs (.call k :: r) = sleepDurs r := rfl
theorem sleepDurs_cons_stop (k : Nat) (r : List Event) : sleepDurs (.stop k :: r) = sleepDurs r := rfl
theorem sleepDurs_cons_sleep (k n d : Nat) (r : List Event) :
    sleepDurs (.sleep k n d :: r) = n / d :: sleepDurs r := rfl

theorem sleepNum_le (p : RetryPolicy) (k r : Nat) (hf : p.fNum ≤ p.fDen)
    (hr : r * sleepDen p k ≤ 2 * (baseNum p k * p.fNum)) :
    sleepNum p k r ≤ baseNum p k * (p.fDen + p.fNum) := by
  unfold sleepNum
  have h1 : baseNum p k * (p.fDen - p.fNum) + baseNum p k * p.fNum = baseNum p k * p.fDen := by
    rw [← Nat.mul_add, Nat.sub_add_cancel hf]
  have h2 := Nat.mul_add (baseNum p k) p.fDen p.fNum
  omega

/-- whatever `rand.Intn` returned, the timer runs for at least the whole nanoseconds of `base_k·(1 − f)` -/
theorem backoffLower_le (p : RetryPolicy) (k r : Nat) : backoffLower p k ≤ sleepNum p k r / sleepDen p k :=
  Nat.div_le_div_right (by unfold sleepNum; omega)

theorem baseDen_pos (p : RetryPolicy) (k : Nat) : 0 < baseDen p k := by
  unfold baseDen; split
  · exact Nat.pow_pos Nat.two_pos
  · exact Nat.one_pos

/-- What holds of a run `R` of the (possibly retried) handler that may make `fuel` attempts starting with
attempt `k`, under policy `p`: it makes attempts `k, …, k + m − 1`, all but the last failed with the client
still there, the last one's outcome is returned, and it gives up on a failure only when the attempts are used
up; between two attempts the back-off timer of the first one fires, and the timers that fire are those of
attempts `k, k + 1, …`, at least `m − 1` of them. -/
structure LoopInv (fc : List Nat) (p : RetryPolicy) (env : Env) (fuel k : Nat) (R : Run) (m : Nat) : Prop where
  le : m ≤ fuel
  pos : 0 < fuel → 0 < m
  calls : calls R.events = List.range' k m
  failed : ∀ i, k ≤ i → i + 1 < k + m → fails fc env i = true ∧ env.done i = false
  last : 0 < m → (R.err, R.resp) = doHandle fc (env.attempt (k + m - 1)) none
  full : 0 < m → fails fc env (k + m - 1) = true → env.done (k + m - 1) = false → m = fuel
  head : 0 < m → ∃ tl, R.events = .call k :: tl
  between : ∀ i, k ≤ i → i + 1 < k + m →
    [Event.call i, .sleep i (sleepNum p i (env.jitter i)) (sleepDen p i), .call (i + 1)] <:+: R.events
  durs : ∃ n, m ≤ n + 1 ∧
    sleepDurs R.events = (List.range' k n).map fun j => sleepNum p j (env.jitter j) / sleepDen p j

namespace LoopInv
variable {fc : List Nat} {p : RetryPolicy} {env : Env} {fuel k m : Nat} {R : Run}

theorem nil (he : R.events = []) : LoopInv fc p env 0 k R 0 where
  le := Nat.le_refl 0
  pos := id
  calls := by rw [he]; rfl
  failed i h1 h2 := absurd h2 (Nat.not_lt.mpr (Nat.le_succ_of_le h1))
  last h := absurd h (Nat.lt_irrefl 0)
  full h := absurd h (Nat.lt_irrefl 0)
  head h := absurd h (Nat.lt_irrefl 0)
  between i h1 h2 := absurd h2 (Nat.not_lt.mpr (Nat.le_succ_of_le h1))
  durs := ⟨0, Nat.zero_le 1, by rw [he]; rfl⟩

/-- a run that made the one attempt `k` and returned its outcome -/
theorem single {tl : List Event} (he : R.events = .call k :: tl) (hc : Retry.calls tl = [])
    (hl : (R.err, R.resp) = doHandle fc (env.attempt k) none)
    (hfull : fails fc env k = true → env.done k = false → fuel = 0)
    (hs : ∃ n, sleepDurs R.events = (List.range' k n).map fun j => sleepNum p j (env.jitter j) / sleepDen p j) :
    LoopInv fc p env (fuel + 1) k R 1 where
  le := Nat.succ_le_succ (Nat.zero_le _)
  pos _ := Nat.one_pos
  calls := by rw [he, calls_cons_call, hc]; rfl
  failed i h1 h2 := absurd h2 (by omega)
  last _ := hl
  full _ hf hd := congrArg (· + 1) (hfull hf hd).symm
  head _ := ⟨tl, he⟩
  between i h1 h2 := absurd h2 (by omega)
  durs := hs.imp fun n h => ⟨Nat.le_add_left 1 n, h⟩

/-- attempt `k` failed, its back-off timer fired, and the rest of the loop ran from attempt `k + 1` -/
theorem cons (ih : LoopInv fc p env (fuel + 1) (k + 1) R m) (hf : fails fc env k = true)
    (hd : env.done k = false) :
    LoopInv fc p env (fuel + 2) k
      ⟨.call k :: .sleep k (sleepNum p k (env.jitter k)) (sleepDen p k) :: R.events, R.err, R.resp⟩ (m + 1) := by
  have hm : 0 < m := ih.pos (Nat.succ_pos _)
  have hkm : k + (m + 1) = k + 1 + m := (Nat.add_right_comm k 1 m).symm
  refine ⟨Nat.succ_le_succ ih.le, fun _ => Nat.succ_pos m, ?_, fun i h1 h2 => ?_, fun _ => ?_,
    fun _ hf' hd' => ?_, fun _ => ⟨_, rfl⟩, fun i h1 h2 => ?_, ?_⟩
  · rw [calls_cons_call, calls_cons_sleep, ih.calls, List.range'_succ]
  · rcases Nat.eq_or_lt_of_le h1 with rfl | h
    · exact ⟨hf, hd⟩
    · exact ih.failed i h (hkm ▸ h2)
  · rw [hkm]
    exact ih.last hm
  · rw [hkm] at hf' hd'
    exact congrArg (· + 1) (ih.full hm hf' hd')
  · rcases Nat.eq_or_lt_of_le h1 with rfl | h
    · obtain ⟨tl, htl⟩ := ih.head hm
      exact ⟨[], tl, by rw [htl]; rfl⟩
    · exact List.infix_cons (List.infix_cons (ih.between i h (hkm ▸ h2)))
  · obtain ⟨n, hn, hs⟩ := ih.durs
    exact ⟨n + 1, Nat.succ_le_succ hn, by rw [sleepDurs_cons_call, sleepDurs_cons_sleep, hs, List.range'_succ]; rfl⟩

theorem durs_ge (inv : LoopInv fc p env fuel k R m) {j d : Nat} (h : (sleepDurs R.events)[j]? = some d) :
    backoffLower p (k + j) ≤ d := by
  obtain ⟨n, _, hs⟩ := inv.durs
  rw [hs, List.getElem?_map, Option.map_eq_some_iff] at h
  obtain ⟨i, hi, rfl⟩ := h
  obtain ⟨_, rfl⟩ := List.getElem?_eq_some_iff.mp hi
  rw [List.getElem_range', Nat.one_mul]
  exact backoffLower_le p _ _

/-- a run with `m` calls has at least `m − 1` back-offs (one between any two consecutive calls) -/
theorem durs_length (inv : LoopInv fc p env fuel k R m) :
    (Retry.calls R.events).length ≤ (sleepDurs R.events).length + 1 := by
  obtain ⟨n, hn, hs⟩ := inv.durs
  rw [inv.calls, hs, List.length_map, List.length_range', List.length_range']
  exact hn

end LoopInv

theorem loop_inv (fc : List Nat) (p : RetryPolicy) (env : Env) (fuel k : Nat) (prev) :
    ∃ m, LoopInv fc p env fuel k (retryLoop fc p env fuel k prev) m := by
  unfold retryLoop
  fun_induction retryLoopWith (handler fc env) p env fuel k prev with
  | case1 => exact ⟨0, .nil rfl⟩
  | case2 fuel k prev r hr =>
    have hr : (doHandle fc (env.attempt k) none).1 = none := hr
    exact ⟨1, .single rfl rfl (Prod.ext hr.symm rfl) (fun hf => by rw [fails, hr] at hf; cases hf) ⟨0, rfl⟩⟩
  | case3 fuel k prev r e hr hd =>
    exact ⟨1, .single rfl rfl (Prod.ext hr.symm rfl) (fun _ hd' => by rw [hd] at hd'; cases hd') ⟨0, rfl⟩⟩
  | case4 fuel k prev r e hr hd rest ih =>
    have hr : (doHandle fc (env.attempt k) none).1 = some e := hr
    cases fuel with
    | zero =>
      -- no attempt left: the back-off of attempt `k` is still waited, then its error is returned
      exact ⟨1, .single rfl rfl rfl (fun _ _ => rfl) ⟨1, rfl⟩⟩
    | succ fuel =>
      obtain ⟨m, ih⟩ := ih
      exact ⟨m + 1, ih.cons (by rw [fails, hr]; rfl) (Bool.eq_false_iff.mpr hd)⟩

/-- the loop does retry: a failed, un-cancelled attempt with attempts left is followed by the next -/
theorem retries (fc : List Nat) (p : RetryPolicy) (env : Env) : ∀ (fuel k : Nat) (prev) (i : Nat),
    i ∈ calls (retryLoop fc p env fuel k prev).events → fails fc env i = true → env.done i = false →
    i + 1 < k + fuel → i + 1 ∈ calls (retryLoop fc p env fuel k prev).events := by
  intro fuel k prev i h1 hf hd hlt
  obtain ⟨m, inv⟩ := loop_inv fc p env fuel k prev
  rw [inv.calls] at h1 ⊢
  obtain ⟨hk, hi⟩ := List.mem_range'_1.mp h1
  refine List.mem_range'_1.mpr ⟨Nat.le_succ_of_le hk, ?_⟩
  -- otherwise `i` is the last attempt made, and a failed last attempt means the attempts were used up
  by_contra hlast
  have him : k + m - 1 = i := by omega
  have := inv.full (by omega) (him ▸ hf) (him ▸ hd)
  omega

theorem sleepDurs_ge (fc : List Nat) (p : RetryPolicy) (env : Env) : ∀ (fuel k : Nat) (prev) (j d : Nat),
    (sleepDurs (retryLoop fc p env fuel k prev).events)[j]? = some d → backoffLower p (k + j) ≤ d :=
  fun fuel k prev _ _ h => (loop_inv fc p env fuel k prev).elim fun _ inv => inv.durs_ge h

theorem sleepDurs_length (fc : List Nat) (p : RetryPolicy) (env : Env) : ∀ (fuel k : Nat) (prev),
    (calls (retryLoop fc p env fuel k prev).events).length ≤
      (sleepDurs (retryLoop fc p env fuel k prev).events).length + 1 :=
  fun fuel k prev => (loop_inv fc p env fuel k prev).elim fun _ inv => inv.durs_length

section
variable (r : Run) (a : Nat) (c : List Bool)

theorem finish_events : (finish r a c).events = r.events := by
  unfold finish; split <;> rfl
theorem finish_acq : (finish r a c).cbAcquires = a := by
  unfold finish; split <;> rfl
theorem finish_recs : (finish r a c).cbRecords = c := by
  unfold finish; split <;> rfl
theorem finish_render : ((finish r a c).result, (finish r a c).status) = render (r.err, r.resp) := by
  unfold finish render
  cases h : r.err with
  | none => rfl
  | some e => cases h2 : r.resp <;> rfl

end

theorem handle_refused {pool : Pool} {permitted : Bool} (h : (pool.hasCB && !permitted) = true)
    (stream : Bool) (env : Env) :
    handle pool stream permitted env = ⟨[], "shortCircuited", some 503, 1, []⟩ := by
  rw [handle, if_pos h]

theorem handle_permitted {pool : Pool} {permitted : Bool} (h : (pool.hasCB && !permitted) = false)
    (stream : Bool) (env : Env) :
    handle pool stream permitted env =
      finish (inner pool stream env) (if pool.hasCB then 1 else 0)
        (if pool.hasCB then [(inner pool stream env).err.isSome] else []) := by
  rw [handle, if_neg (ne_true_of_eq_false h)]

/-- Without a retry policy, and for a stream, the handler runs once; otherwise the loop runs. `p` is the
pool's policy if it has one (a single call fires no timer, so any policy describes it). -/
theorem inner_inv (pool : Pool) (stream : Bool) (env : Env) :
    ∃ p m, (∀ q, pool.retry = some q → q = p) ∧
      LoopInv pool.failureCodes p env (maxCalls pool stream) 0 (inner pool stream env) m := by
  unfold inner maxCalls
  cases pool.retry with
  | none => exact ⟨⟨0, 0, false, 0, 0⟩, 1, nofun, .single rfl rfl rfl (fun _ _ => rfl) ⟨0, rfl⟩⟩
  | some p =>
    have hp : ∀ q, some p = some q → q = p := fun _ h => (Option.some.inj h).symm
    cases stream with
    | true => exact ⟨p, 1, hp, .single rfl rfl rfl (fun _ _ => rfl) ⟨0, rfl⟩⟩
    | false => exact (loop_inv pool.failureCodes p env _ 0 _).elim fun m inv => ⟨p, m, hp, inv⟩

/-- … and so for the events of `handle`: those of `inner`, or none when the breaker refuses -/
theorem handle_inv (pool : Pool) (stream permitted : Bool) (env : Env) :
    ∃ p fuel m R, (∀ q, pool.retry = some q → q = p) ∧ fuel ≤ maxCalls pool stream ∧
      (handle pool stream permitted env).events = R.events ∧ LoopInv pool.failureCodes p env fuel 0 R m := by
  obtain ⟨p, m, hp, inv⟩ := inner_inv pool stream env
  cases h : pool.hasCB && !permitted with
  | true => exact ⟨p, 0, 0, ⟨[], none, none⟩, hp, Nat.zero_le _, by rw [handle_refused h], .nil rfl⟩
  | false => exact ⟨p, _, m, _, hp, Nat.le_refl _, by rw [handle_permitted h, finish_events], inv⟩

theorem maxCalls_pos {pool : Pool} (hmax : ∀ p, pool.retry = some p → 1 ≤ p.maxAttempts) (stream : Bool) :
    0 < maxCalls pool stream := by
  unfold maxCalls
  cases hr : pool.retry with
  | none => exact Nat.one_pos
  | some p =>
    cases stream with
    | true => exact Nat.one_pos
    | false => exact Int.pos_iff_toNat_pos.mp (hmax p hr)

/-- the (possibly retried) inner handler returns what its last attempt returned -/
theorem inner_last (pool : Pool) (stream : Bool) (env : Env)
    (hmax : ∀ p, pool.retry = some p → 1 ≤ p.maxAttempts) :
    ((inner pool stream env).err, (inner pool stream env).resp) =
      doHandle pool.failureCodes (env.attempt ((calls (inner pool stream env).events).length - 1)) none := by
  obtain ⟨p, m, _, inv⟩ := inner_inv pool stream env
  rw [inv.calls, List.length_range', inv.last (inv.pos (maxCalls_pos hmax stream)), Nat.zero_add]

end EgVerif.Retry
