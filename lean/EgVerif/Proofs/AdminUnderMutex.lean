import EgVerif.Proofs.ClusterMutex
import EgVerif.Proofs.AdminAPI
/-!
# C18 — the admin handlers under the *real* cluster mutex

`AdminAPI.Sys` abstracts the cluster lock to `holder : Option Nat` and makes `holder = none` the guard
of `acquire`: there, serialization of the handlers is *assumed*. This file builds the product of the
mutex model (`ClusterMutex.step`: local mutex, etcd queue, grant, timeout …) with the handlers' etcd round
trips and proves that every run of the product **projects to a run of `Sys`** — the guard of `acquire`
is discharged by the mutex invariant (a grant happens only while no thread is in the critical section),
not assumed. `Props/C18.lean` then derives "concurrent admin mutations are serialized" for the product.

The product has **no** lock guard of its own: `granted t req` is enabled exactly when the mutex model
grants the etcd lock to `t`, `micro t` exactly when `t` is in the critical section (`.critical t` of the
mutex model carries one `AdminAPI.micro`), `unlock t` is the deferred `s.Unlock()` of a finished
handler.

The second half adds lease expiry (`PActX`, `runX`). One abstraction relation `R` and one step lemma
(`step_projects`) serve both: `R` keeps of the mutex only what survives an expiry.
-/
namespace EgVerif.AdminUnderMutex
open EgVerif

structure PState where
  mx : ClusterMutex.State
  etcd : AdminAPI.Etcd
  /-- handler state of the threads between `s.Lock()` and `s.Unlock()` -/
  cur : Nat → Option (AdminAPI.Req × AdminAPI.PC)
  /-- finished mutations in unlock order -/
  log : List (AdminAPI.Req × AdminAPI.Resp)

def PState.init (e : AdminAPI.Etcd) : PState := ⟨ClusterMutex.init, e, fun _ => none, []⟩

inductive PAct
  /-- a step of `mutex.Lock` / `mutex.Unlock` that does not touch a handler: local lock, enqueue, timeout,
  early error, the two local unlocks -/
  | lock (a : ClusterMutex.Act)
  /-- etcd grants the lock to `t`: `s.Lock()` returns, the handler of `req` starts -/
  | granted (t : Nat) (req : AdminAPI.Req)
  /-- `t`, inside the critical section, performs its handler's next etcd round trip -/
  | micro (t : Nat)
  /-- handler done: the deferred `s.Unlock()` starts (etcd key deleted), the mutation is logged -/
  | unlock (t : Nat)
  /-- unlocked read (getObject / listObjects / version attacher) -/
  | read (t : Nat)

def lockOnly : ClusterMutex.Act → Bool
  | .etcdGranted _ => false
  | .critical _ => false
  | .etcdUnlock _ => false
  | _ => true

def step (c : ClusterMutex.Cfg) (p : PState) : PAct → Option PState
  | .lock a =>
    if lockOnly a then (ClusterMutex.step c p.mx a).map (fun m => { p with mx := m }) else none
  | .granted t req =>
    (ClusterMutex.step c p.mx (.etcdGranted t)).map fun m =>
      { p with mx := m, cur := fun x => if x = t then some (req, .start) else p.cur x }
  | .micro t =>
    match ClusterMutex.step c p.mx (.critical t), p.cur t with
    | some m, some (req, pc) =>
      some { p with mx := m, etcd := (AdminAPI.micro req pc p.etcd).2,
                    cur := fun x => if x = t then some (req, (AdminAPI.micro req pc p.etcd).1) else p.cur x }
    | _, _ => none
  | .unlock t =>
    match p.cur t with
    | some (req, .done r) =>
      (ClusterMutex.step c p.mx (.etcdUnlock t)).map fun m =>
        { p with mx := m, cur := fun x => if x = t then none else p.cur x, log := p.log ++ [(req, r)] }
    | _ => none
  | .read _ => some p

def run (c : ClusterMutex.Cfg) : PState → List PAct → Option PState
  | p, [] => some p
  | p, a :: as => match step c p a with
    | none => none
    | some p' => run c p' as

/-- what the abstract system sees of a product action -/
def proj : PAct → List AdminAPI.Act
  | .lock _ => []
  | .granted t req => [.acquire t req]
  | .micro t => [.micro t]
  | .unlock t => [.release t]
  | .read t => [.read t]

/-- The abstraction relation: same etcd, handlers and log; the abstract holder is the thread in the
critical section of the mutex model. Of the mutex only the part of its invariant that survives lease expiry
is kept (`LiveInv`), together with "every holder's key is present" (`CritInQ`), so that the same relation
serves the runs with expiry. -/
structure R (c : ClusterMutex.Cfg) (p : PState) (s : AdminAPI.Sys) : Prop where
  etcd : s.etcd = p.etcd
  cur : s.cur = p.cur
  log : s.log = p.log
  hold : ∀ t, s.holder = some t ↔ p.mx.pc t = .crit
  live : ClusterMutex.LiveInv c p.mx
  ci : ClusterMutex.CritInQ c p.mx

theorem R_init (c : ClusterMutex.Cfg) (e : AdminAPI.Etcd) : R c (PState.init e) (AdminAPI.Sys.init e) :=
  ⟨rfl, rfl, rfl, fun t => by simp [AdminAPI.Sys.init, PState.init, ClusterMutex.init],
   ClusterMutex.live_init c, ClusterMutex.critInQ_init c⟩

/-- One product step is matched by the projected abstract steps. The guard of `Sys.acquire` is **derived**:
when the mutex model grants the lock, no thread is in the critical section (`LiveInv.head_free`). -/
theorem step_projects {c : ClusterMutex.Cfg} (h1 : ClusterMutex.OneObjectPerSession c)
    {p p' : PState} {s : AdminAPI.Sys} (r : R c p s) (a : PAct) (h : step c p a = some p') :
    ∃ s', AdminAPI.Sys.run s (proj a) = some s' ∧ R c p' s' := by
  have live' : ∀ {b m}, ClusterMutex.step c p.mx b = some m → ClusterMutex.LiveInv c m :=
    fun hm => ClusterMutex.live_step h1 r.live _ hm
  have ci' : ∀ {b m}, ClusterMutex.step c p.mx b = some m → ClusterMutex.CritInQ c m :=
    fun hm => ClusterMutex.critInQ_step h1 r.live r.ci _ hm
  cases a with
  | read t =>
    simp only [step, Option.some.injEq] at h; subst h
    exact ⟨s, rfl, r⟩
  | lock a =>
    simp only [step] at h
    split at h
    · rename_i hl
      obtain ⟨m, hm, rfl⟩ := Option.map_eq_some_iff.mp h
      -- a lock-only step is neither a grant nor an unlock, so nobody enters or leaves the critical section
      have hcrit := ClusterMutex.crit_iff_of_step (ClusterMutex.step_iff.mp hm)
        (fun t e => by subst e; cases hl) (fun t e => by subst e; cases hl)
      exact ⟨s, rfl, r.etcd, r.cur, r.log, fun t => (r.hold t).trans (hcrit t).symm, live' hm, ci' hm⟩
    · cases h
  | granted t req =>
    simp only [step] at h
    obtain ⟨m, hm, rfl⟩ := Option.map_eq_some_iff.mp h
    have hl := live' hm
    have hc := ci' hm
    cases ClusterMutex.step_iff.mp hm with
    | etcdGranted _ hp hq =>
      have hfree := r.live.head_free h1 r.ci hp hq
      have hnone : s.holder = none := by
        cases hh : s.holder with
        | none => rfl
        | some x => exact absurd ((r.hold x).mp hh) (hfree x)
      refine ⟨{ s with holder := some t, cur := fun x => if x = t then some (req, .start) else s.cur x },
        by simp [proj, AdminAPI.Sys.run, AdminAPI.Sys.step, hnone], r.etcd, by simp only [r.cur], r.log,
        fun x => ?_, hl, hc⟩
      by_cases hx : x = t
      · subst hx; simp
      · simp only [ClusterMutex.upd_other _ _ hx]
        exact ⟨fun h' => absurd (Option.some.inj h').symm hx, fun h' => absurd h' (hfree x)⟩
  | micro t =>
    simp only [step] at h
    split at h
    · rename_i m req pc hm hc
      cases h
      cases ClusterMutex.step_iff.mp hm with
      | critical _ hp =>
        have hh : s.holder = some t := (r.hold t).mpr hp
        have hcs : s.cur t = some (req, pc) := by rw [r.cur]; exact hc
        exact ⟨{ s with etcd := (AdminAPI.micro req pc s.etcd).2,
                        cur := fun x => if x = t then some (req, (AdminAPI.micro req pc s.etcd).1) else s.cur x },
          by simp [proj, AdminAPI.Sys.run, AdminAPI.Sys.step, hh, hcs], by simp only [r.etcd],
          by simp only [r.etcd, r.cur], r.log, r.hold, r.live, r.ci⟩
    · cases h
  | unlock t =>
    simp only [step] at h
    split at h
    · rename_i req rr hc
      obtain ⟨m, hm, rfl⟩ := Option.map_eq_some_iff.mp h
      have hl := live' hm
      have hci := ci' hm
      cases ClusterMutex.step_iff.mp hm with
      | etcdUnlock _ hp =>
        have hh : s.holder = some t := (r.hold t).mpr hp
        have hcs : s.cur t = some (req, .done rr) := by rw [r.cur]; exact hc
        refine ⟨{ s with holder := none, cur := fun x => if x = t then none else s.cur x,
                         log := s.log ++ [(req, rr)] },
          by simp [proj, AdminAPI.Sys.run, AdminAPI.Sys.step, hh, hcs], r.etcd, by simp only [r.cur],
          by simp only [r.log], fun x => ?_, hl, hci⟩
        simp only [reduceCtorEq, false_iff]
        by_cases hx : x = t
        · subst hx; simp
        · rw [ClusterMutex.upd_other _ _ hx]
          -- another thread inside would be the abstract holder as well
          intro h'
          have := (r.hold x).mpr h'
          rw [hh] at this
          exact hx (Option.some.inj this).symm
    · cases h

theorem sys_run_append : ∀ (s : AdminAPI.Sys) (xs ys : List AdminAPI.Act) (s' : AdminAPI.Sys),
    AdminAPI.Sys.run s xs = some s' → AdminAPI.Sys.run s (xs ++ ys) = AdminAPI.Sys.run s' ys
  | s, [], ys, s', h => by cases h; rfl
  | s, a :: xs, ys, s', h => by
    simp only [AdminAPI.Sys.run, List.cons_append] at h ⊢
    split at h
    · cases h
    · exact sys_run_append _ xs ys s' h

theorem run_projects {c : ClusterMutex.Cfg} (h1 : ClusterMutex.OneObjectPerSession c) :
    ∀ (as : List PAct) (p p' : PState) (s : AdminAPI.Sys), R c p s → run c p as = some p' →
      ∃ s', AdminAPI.Sys.run s (as.flatMap proj) = some s' ∧ R c p' s'
  | [], p, p', s, r, h => by cases h; exact ⟨s, rfl, r⟩
  | a :: as, p, p', s, r, h => by
    simp only [run] at h
    split at h
    · cases h
    · rename_i p1 hs
      obtain ⟨s1, hr1, r1⟩ := step_projects h1 r a hs
      obtain ⟨s', hr', r'⟩ := run_projects h1 as p1 p' s1 r1 h
      exact ⟨s', by rw [List.flatMap_cons, sys_run_append s (proj a) _ s1 hr1]; exact hr', r'⟩

/-! ### Lease expiry

The environment step "the lease of session k expires, etcd deletes its key" (`PActX.leaseExpire`). For histories in
which no lease expires **while one of its member's goroutines is in the critical section** (`SafeP`, the product
counterpart of `ClusterMutex.SafeRun`) every run still projects to `Sys.run` — so the admin mutations stay
serialized; without that hypothesis they do not (`Props/C18.lean` has the decided witness: two overlapping
handlers, both answered with the same version). -/

inductive PActX
  | base (a : PAct)
  | leaseExpire (k : Nat)

def stepX (c : ClusterMutex.Cfg) (p : PState) : PActX → Option PState
  | .base a => step c p a
  | .leaseExpire k => some { p with mx := p.mx.expire k }

def runX (c : ClusterMutex.Cfg) : PState → List PActX → Option PState
  | p, [] => some p
  | p, a :: as => match stepX c p a with
    | none => none
    | some p' => runX c p' as

/-- no lease expires while a goroutine of that member is in the critical section -/
def SafeP (c : ClusterMutex.Cfg) : PState → List PActX → Prop
  | _, [] => True
  | p, .base a :: as => match step c p a with
    | none => True
    | some p' => SafeP c p' as
  | p, .leaseExpire k :: as =>
    (∀ t, p.mx.pc t = .crit → c.sess (c.obj t) ≠ k) ∧ SafeP c { p with mx := p.mx.expire k } as

def projX : PActX → List AdminAPI.Act
  | .base a => proj a
  | .leaseExpire _ => []

theorem run_projectsX {c : ClusterMutex.Cfg} (h1 : ClusterMutex.OneObjectPerSession c) :
    ∀ (as : List PActX) (p p' : PState) (s : AdminAPI.Sys), R c p s → SafeP c p as → runX c p as = some p' →
      ∃ s', AdminAPI.Sys.run s (as.flatMap projX) = some s' ∧ R c p' s'
  | [], p, p', s, r, _, h => by cases h; exact ⟨s, rfl, r⟩
  | .base a :: as, p, p', s, r, hs, h => by
    simp only [runX, stepX] at h
    split at h
    · cases h
    · rename_i p1 hst
      simp only [SafeP, hst] at hs
      obtain ⟨s1, hr1, r1⟩ := step_projects h1 r a hst
      obtain ⟨s', hr', r'⟩ := run_projectsX h1 as p1 p' s1 r1 hs h
      exact ⟨s', by rw [List.flatMap_cons, projX, sys_run_append s (proj a) _ s1 hr1]; exact hr', r'⟩
  | .leaseExpire k :: as, p, p', s, r, hs, h => by
    simp only [runX, stepX] at h
    have r1 : R c { p with mx := p.mx.expire k } s :=
      ⟨r.etcd, r.cur, r.log, r.hold, ClusterMutex.live_expire r.live k,
       fun x a => (List.mem_erase_of_ne (hs.1 x a)).mpr (r.ci x a)⟩
    obtain ⟨s', hr', r'⟩ := run_projectsX h1 as _ p' s r1 hs.2 h
    exact ⟨s', by simpa [List.flatMap_cons, projX] using hr', r'⟩

end EgVerif.AdminUnderMutex
