import EgVerif.Proofs.Proxy
import EgVerif.Proofs.Lists
import EgVerif.Gen.FactsC03IR
import EgVerif.Model.ProxyFlow
/-!
Regenerated tie by translation for C03 (`notes/IR.md`, `notes/C03.md`): the definitions of
`Gen.FactsC03IR` are produced on every run by the go/ast micro-translator from the current bodies of the Go
functions. Here: what their loops compute, and the ties of `serverPoolContext.prepareRequest`,
`RequestAdaptor.Handle` and `Proxy.Handle` to the hand-written model; `Props/C03.lean` states the ties.
-/
namespace EgVerif.Proxy
open EgVerif.Gen.FactsC03IR

set_option linter.unusedSimpArgs false

/-! ### pool.go `cloneHeader` -/

theorem Hdr.delAll_cons (h : Hdr) (k : String) (ks : List String) :
    Hdr.delAll h (k :: ks) = Hdr.delAll (Hdr.del h k) ks := rfl

theorem Hdr.delAll_append (h : Hdr) (a b : List String) :
    Hdr.delAll h (a ++ b) = Hdr.delAll (Hdr.delAll h a) b := by
  unfold Hdr.delAll; rw [List.foldl_append]

theorem ofList_ne_empty (l : List Char) : (String.ofList l != "") = !l.isEmpty := by
  rw [Bool.eq_iff_iff, bne_iff_ne, ne_eq, String.ofList_eq_empty_iff, Bool.not_eq_true', List.isEmpty_eq_false_iff]

theorem trimS_ofList (l : List Char) : trimS (String.ofList l) = String.ofList (trimString l) := by
  unfold trimS
  rw [String.toList_ofList]

/-- the inner loop (tokens of one `Connection` line, split on characters as in the model) -/
theorem cloneHeader_regenerated_from_source_loop2 (canon : String → String) (hop : List String) (h0 out : Hdr)
    (ls : List (List Char)) :
    cloneHeaderIR_loop2 canon hop h0 out (ls.map String.ofList) =
      .inr (Hdr.delAll out ((ls.map trimString).filterMap fun sf =>
        if sf.isEmpty then none else some (canon (String.ofList sf)))) := by
  induction ls generalizing out with
  | nil => rfl
  | cons l t ih =>
    rw [List.map_cons, cloneHeaderIR_loop2, trimS_ofList, ofList_ne_empty, ih, List.map_cons, List.filterMap_cons]
    cases (trimString l).isEmpty <;> rfl

/-- the outer loop (all `Connection` lines) -/
theorem cloneHeader_regenerated_from_source_loop1 (canon : String → String) (hop : List String) (h0 out : Hdr)
    (fs : List String) :
    cloneHeaderIR_loop1 canon hop h0 out fs =
      .inr (Hdr.delAll out (fs.flatMap fun f => ((splitComma f.toList).map trimString).filterMap fun sf =>
        if sf.isEmpty then none else some (canon (String.ofList sf)))) := by
  induction fs generalizing out with
  | nil => rfl
  | cons f t ih =>
    rw [cloneHeaderIR_loop1, splitCommaS, cloneHeader_regenerated_from_source_loop2]
    dsimp only
    rw [ih, List.flatMap_cons, Hdr.delAll_append]

/-! ### compression.go -/

theorem acceptGzip_regenerated_from_source_loop (reqHdr : Hdr) (aes0 aes : List String) :
    acceptGzipIR_loop1 reqHdr aes0 aes =
      if aes.any (fun v => strContains v "*/*" || strContains v "gzip") then .inl true else .inr () := by
  induction aes with
  | nil => rfl
  | cons v t ih =>
    simp only [acceptGzipIR_loop1, ih, List.any_cons]
    by_cases h1 : strContains v "*/*" = true <;> by_cases h2 : strContains v "gzip" = true <;> simp [h1, h2]

theorem alreadyGziped_regenerated_from_source_loop (respHdr : Hdr) (ces : List String) :
    alreadyGzipedIR_loop1 respHdr ces =
      if ces.any (fun v => strContains v "gzip") then .inl true else .inr () := by
  induction ces with
  | nil => rfl
  | cons v t ih =>
    simp only [alreadyGzipedIR_loop1, ih, List.any_cons]
    by_cases h : strContains v "gzip" = true <;> simp [h]

/-! ### pool.go `prepareRequest` -/

/-- `prepareRequest` fails exactly when `http.NewRequestWithContext` rejects the URL (then `spCtx.stdReq`
stays nil); otherwise `spCtx.stdReq` is the model's `prepareRequest` — for the main pool and for a
mirror pool (`mirror = true`), with or without a tracing span. -/
theorem prepare_regenerated_from_source {π : Type} (canon : String → String) (urlOK : String → Bool) (stub : π)
    (span : Option Unit) (svr : ServerCfg) (mirror : Bool) (q : PReq π) :
    prepareIR canon urlOK stub span svr mirror q =
      if urlOK (targetURL svr.url q.escapedPath q.rawQuery) then
        (false, some (prepareRequest canon hopHeaders svr mirror stub q))
      else (true, none) := by
  unfold prepareIR newRequest prepareRequest
  dsimp only
  rw [← targetURL_eq]
  generalize cloneHeader canon hopHeaders q.hdr = H
  cases urlOK (targetURL svr.url q.escapedPath q.rawQuery)
  · rfl
  · cases mirror && q.isStream <;> rfl

theorem strLen_ne_zero (s : String) : (s.length != 0) = (s != "") := by
  rw [Bool.eq_iff_iff, bne_iff_ne, bne_iff_ne, ne_eq, ne_eq, String.length_eq_zero_iff]

/-! ### requestadaptor.go `Handle` -/

/-- `RequestAdaptor.Handle`, request line: method / decoded path / Host afterwards are the model's `adaptReqLine`
(whatever the body / compress / decompress part does, also when it fails). -/
theorem handleReqAd_regenerated_from_source_line {β : Type} (ops : BodyOps β) (σ : Nat → String → String → String)
    (esc : String → String) (a : ReqLineAd) (hsec : Option AdSpec) (body compress decompress : String)
    (q : ReqLine) (m : ReqMsg β) :
    (handleReqAdIR ops σ a hsec body compress decompress q m).2.1 =
      ((adaptReqLine σ esc a q).method, (adaptReqLine σ esc a q).path, (adaptReqLine σ esc a q).host) := by
  simp only [handleReqAdIR, apply_ite (fun r : String × (String × String × String) × ReqMsg β => r.2.1), ite_self,
    adaptReqLine, strLen_ne_zero]
  cases a.path <;> simp

theorem reqCompressR_snd {β : Type} (ops : BodyOps β) (m : ReqMsg β) : (reqCompressR ops m).2 = "" := by
  unfold reqCompressR
  split <;> rfl

/-- The message part of the translated `Handle`: header section, body, then `processCompress` and
`processDecompress` when configured; the result string is that of `processDecompress`. -/
theorem handleReqAdIR_stages {β : Type} (ops : BodyOps β) (σ : Nat → String → String → String)
    (a : ReqLineAd) (ad : AdSpec) (c d : Bool) (q : ReqLine) (m : ReqMsg β) :
    let m1 : ReqMsg β := if ad.body.isEmpty then ⟨adaptHeader ad m.hdr, m.payload⟩
      else ⟨(adaptHeader ad m.hdr).del keyCE, .bytes (ops.ofStr ad.body)⟩
    let m2 := if c then (reqCompressR ops m1).1 else m1
    let e := if d then reqDecompressR ops m2 else (m2, "")
    let out := handleReqAdIR ops σ a (some ad) ad.body (if c then "gzip" else "") (if d then "gzip" else "") q m
    out.1 = e.2 ∧ out.2.2 = e.1 := by
  intro m1 m2 e out
  unfold out
  unfold handleReqAdIR
  simp only [strLen_ne_zero, Option.isSome_some, if_true, Option.getD_some]
  have hM : (if (ad.body != "") = true then ((adaptHeader ad m.hdr).del "Content-Encoding", Pl.bytes (ops.ofStr ad.body))
      else (adaptHeader ad m.hdr, m.payload)) = (m1.hdr, m1.payload) := by
    by_cases hb : ad.body = "" <;> simp [m1, hb, keyCE]
  rw [hM]
  dsimp only
  clear_value m1
  clear hM
  cases c <;> cases d <;> simp [m2, e, reqCompressR_snd]
  -- `d = true`: the code returns `processDecompress`'s result string when it is not empty, `""` otherwise
  all_goals
    generalize reqDecompressR ops _ = x
    obtain ⟨x1, x2⟩ := x
    by_cases h : x2 = ""
    · rw [if_pos h]
      exact ⟨h.symm, rfl⟩
    · rw [if_neg h]
      exact ⟨rfl, rfl⟩

/-- The model's `reqAdaptorHandle` in the same shape; it fails exactly when `processDecompress` returns a result
string, and that string is `decompressFailed`. -/
theorem reqAdaptorHandle_stages {β : Type} (ops : BodyOps β) (ad : AdSpec) (m : ReqMsg β) :
    let m1 : ReqMsg β := if ad.body.isEmpty then m else ⟨m.hdr.del keyCE, .bytes (ops.ofStr ad.body)⟩
    let m2 := if ad.compress then (reqCompressR ops m1).1 else m1
    let e := if ad.decompress then reqDecompressR ops m2 else (m2, "")
    reqAdaptorHandle ops ad m = (if e.2 = "" then some e.1 else none) ∧ (e.2 = "" ∨ e.2 = "decompressFailed") := by
  unfold reqAdaptorHandle
  dsimp only
  generalize (if ad.body.isEmpty then m else ⟨m.hdr.del keyCE, .bytes (ops.ofStr ad.body)⟩ : ReqMsg β) = m1
  have h2 : (if ad.compress && (m1.hdr.get keyCE).head?.getD "" == "" then
      ⟨m1.hdr.set keyCE "gzip", m1.payload.map ops.gz⟩ else m1) = if ad.compress then (reqCompressR ops m1).1 else m1 := by
    unfold reqCompressR
    cases ad.compress
    · rfl
    · rw [Bool.true_and, if_pos rfl]
      split <;> rfl
  rw [h2]
  generalize (if ad.compress then (reqCompressR ops m1).1 else m1) = m2
  unfold reqDecompressR
  cases ad.decompress
  · exact ⟨rfl, Or.inl rfl⟩
  · rw [Bool.true_and, if_pos rfl]
    split
    · split
      · exact ⟨rfl, Or.inr rfl⟩
      · exact ⟨rfl, Or.inl rfl⟩
    · exact ⟨rfl, Or.inl rfl⟩

/-! ### proxy.go `Handle` -/

theorem proxyHandle_regenerated_from_source_loop (mirror : Option (Nat × Bool)) (main : Nat × Bool) (cands0 : List (Nat × Bool))
    (mirrored : Bool) (sp : Nat × Bool) (cs : List (Nat × Bool)) :
    proxyHandleIR_loop1 mirror main cands0 mirrored () sp cs = .inr ((cs.find? (·.2)).getD sp) := by
  induction cs with
  | nil => rfl
  | cons v t ih =>
    simp only [proxyHandleIR_loop1, ih, List.find?_cons]
    by_cases h : v.2 = true <;> simp [h]

/-- `Proxy.Handle`: the mirror pool is started exactly when it exists and its filter matches; the request is
served by the first candidate pool whose filter matches, else by the main pool — the mirror never is that pool. -/
theorem proxyHandle_regenerated_from_source (mirror : Option (Nat × Bool)) (main : Nat × Bool) (cands : List (Nat × Bool)) :
    proxyHandleIR mirror main cands = proxyHandle mirror main cands := by
  simp only [proxyHandleIR, proxyHandle_regenerated_from_source_loop, proxyHandle]
  cases mirror <;> simp

end EgVerif.Proxy
