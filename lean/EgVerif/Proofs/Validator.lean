import EgVerif.Proofs.Bytes
import EgVerif.Spec.Validator
/-!
Lemmas for the Validator part of C06: the encoders of `Model/Sha256.lean` (`hex` is injective and its output is free of
separator bytes, base64 decoding undoes encoding), the repaired `parseCredentials` and the JWT key function against their
specification, and `handle` = `Spec.expected`. `ite_gate` / `ite_step` are for the translated `if` chains of `Proofs/*IR.lean`.
-/
namespace EgVerif

/-- Go's `if v.X != nil { if err := …; err != nil { return F } }; K`: the translation repeats the continuation `K` in both
branches of the outer `if` -/
theorem ite_gate {β : Type} (p e : Bool) (F K : β) :
    (if p = true then (if e = true then F else K) else K) = if (p && e) = true then F else K := by
  cases p <;> cases e <;> rfl

theorem ite_step {β : Type} {c c' : Bool} {F K K' : β} (hc : c = c') (hK : K = K') :
    (if c = true then F else K) = if c' = true then F else K' := by
  rw [hc, hK]

end EgVerif

namespace EgVerif.Sha256

theorem hexDigit_fin : ∀ i j : Fin 16, hexDigit i.val = hexDigit j.val → i = j := by decide +kernel

theorem hexDigit_inj {i j : Nat} (hi : i < 16) (hj : j < 16) (h : hexDigit i = hexDigit j) : i = j := by
  have := hexDigit_fin ⟨i, hi⟩ ⟨j, hj⟩ h
  exact Fin.mk.inj_iff.mp this

theorem hex_injective : ∀ {x y : Bytes}, hex x = hex y → x = y
  | [], [], _ => rfl
  | [], _ :: _, h => by simp [hex] at h
  | _ :: _, [], h => by simp [hex] at h
  | a :: r, c :: r', h => by
    simp only [hex, List.cons.injEq] at h
    obtain ⟨h1, h2, h3⟩ := h
    have ha := a.toNat_lt
    have hc := c.toNat_lt
    have e1 := hexDigit_inj (by omega) (by omega) h1
    have e2 := hexDigit_inj (by omega) (by omega) h2
    have : a.toNat = c.toNat := by omega
    rw [UInt8.toNat_inj.mp this, hex_injective h3]

def hexClean (c : UInt8) : Prop :=
  EgVerif.Signer.isWs c = false ∧ c ≠ 44 ∧ c ≠ 10 ∧ c ≠ 47 ∧ c ≠ 59

instance (c : UInt8) : Decidable (hexClean c) := by unfold hexClean; infer_instance

theorem hexDigit_clean_fin : ∀ i : Fin 16, hexClean (hexDigit i.val) := by decide +kernel

/-- a hex string is free of the bytes at which `initFromHeader` splits the Authorization header (white space, `,`, `/`, `;`)
and of LF -/
theorem hex_clean : ∀ (x : Bytes), ∀ c ∈ hex x, hexClean c
  | [], c, h => by simp [hex] at h
  | a :: r, c, h => by
    have ha := a.toNat_lt
    simp only [hex, List.mem_cons] at h
    rcases h with rfl | rfl | h
    · exact hexDigit_clean_fin ⟨a.toNat / 16, by omega⟩
    · exact hexDigit_clean_fin ⟨a.toNat % 16, by omega⟩
    · exact hex_clean r c h

theorem b64_fin : ∀ n : Fin 64, b64Val (b64Char n.val) = some n.val ∧ b64Char n.val ≠ 61 := by decide +kernel

theorem b64Val_char {n : Nat} (h : n < 64) : b64Val (b64Char n) = some n := (b64_fin ⟨n, h⟩).1
theorem b64Char_ne_pad {n : Nat} (h : n < 64) : b64Char n ≠ 61 := (b64_fin ⟨n, h⟩).2

theorem b64_roundtrip : ∀ x : Bytes, b64Decode (b64Encode x) = some x
  | [] => by simp [b64Encode, b64Decode, b64DecodeWith]
  | [a] => by
    have ha := a.toNat_lt
    have h1 : a.toNat / 4 < 64 := by omega
    have h2 : a.toNat % 4 * 16 < 64 := by omega
    simp only [b64Encode, b64Decode, b64DecodeWith, b64Val_char h1, b64Val_char h2]
    have : (a.toNat / 4 * 64 + a.toNat % 4 * 16) / 16 % 256 = a.toNat := by omega
    simp [this]
  | [a, c] => by
    have ha := a.toNat_lt
    have hc := c.toNat_lt
    generalize hn : a.toNat * 256 + c.toNat = n
    have h1 : n / 1024 < 64 := by omega
    have h2 : n / 16 % 64 < 64 := by omega
    have h3 : n % 16 * 4 < 64 := by omega
    simp only [b64Encode, hn, b64Decode, b64DecodeWith, b64Val_char h1, b64Val_char h2, b64Val_char h3,
      b64Char_ne_pad h3, if_false]
    have e1 : ((n / 1024 * 64 + n / 16 % 64) * 64 + n % 16 * 4) / 1024 % 256 = a.toNat := by omega
    have e2 : ((n / 1024 * 64 + n / 16 % 64) * 64 + n % 16 * 4) / 4 % 256 = c.toNat := by omega
    simp [e1, e2]
  | a :: c :: d :: r => by
    have ha := a.toNat_lt
    have hc := c.toNat_lt
    have hd := d.toNat_lt
    have ih := b64_roundtrip r
    unfold b64Decode at ih
    generalize hn : a.toNat * 65536 + c.toNat * 256 + d.toNat = n
    have h1 : n / 262144 < 64 := by omega
    have h2 : n / 4096 % 64 < 64 := by omega
    have h3 : n / 64 % 64 < 64 := by omega
    have h4 : n % 64 < 64 := by omega
    simp only [b64Encode, hn, b64Decode, b64DecodeWith, b64Val_char h1, b64Val_char h2, b64Val_char h3,
      b64Val_char h4, b64Char_ne_pad h3, b64Char_ne_pad h4, if_false, ih]
    have e0 : ((n / 262144 * 64 + n / 4096 % 64) * 64 + n / 64 % 64) * 64 + n % 64 = n := by omega
    have e1 : n / 65536 % 256 = a.toNat := by omega
    have e2 : n / 256 % 256 = c.toNat := by omega
    have e3 : n % 256 = d.toNat := by omega
    simp [e0, e1, e2, e3]

end EgVerif.Sha256

namespace EgVerif.Validator
open EgVerif.Sha256 (Bytes)
open EgVerif.Signer

theorem parseCreds_eq_firstColon : ∀ creds : Bytes, parseCreds creds = Spec.firstColon creds
  | [] => by simp [parseCreds, splitFirst, Spec.firstColon]
  | x :: r => by
    have ih := parseCreds_eq_firstColon r
    unfold parseCreds at ih ⊢
    unfold Spec.firstColon at ih ⊢
    simp only [splitFirst]
    by_cases h : x = 58
    · subst h; simp
    · have hb : (x != 58) = true := by simpa using h
      simp only [h, if_false, List.dropWhile_cons, List.takeWhile_cons, hb, if_true]
      rw [ih]
      cases List.dropWhile (fun x => x != 58) r <;> rfl

theorem basicValidate_eq_spec (env : Env) (h : Header) : basicValidate env.users h = Spec.basicUser env h := by
  unfold basicValidate basicValidateWith Spec.basicUser parseBasicAuthorizationHeader
  cases stripPrefix (b "Basic ") (hget h authHeader) with
  | none => rfl
  | some tok =>
    dsimp only
    cases Sha256.b64Decode tok with
    | none => rfl
    | some creds => dsimp only; rw [parseCreds_eq_firstColon]; rfl

theorem jwtParse_keyFunc (c : JwtCfg) (lib : JwtLib) (t : Bytes) :
    jwtParse lib t (jwtKeyFunc c) = (lib.headerAlg t == some c.alg && lib.claimsOK t && lib.sigOK t c.alg c.secret) := by
  unfold jwtParse jwtKeyFunc
  cases h : lib.headerAlg t with
  | none => simp
  | some a =>
    by_cases e : a = c.alg
    · subst e; simp
    · simp [e]

theorem jwtValidate_eq_spec (c : JwtCfg) (env : Env) (h : Header) :
    jwtValidate c env.jwtLib env.cookie h = Spec.jwtOK c env h := by
  unfold jwtValidate Spec.jwtOK
  cases jwtToken c env.cookie h with
  | none => rfl
  | some t => exact jwtParse_keyFunc c env.jwtLib t

theorem outcome_bool (a c d o e : Bool) :
    (if (!a) = true then Outcome.invalid 400 else if (!c) = true then Outcome.invalid 401
      else if (!d) = true then Outcome.invalid 401 else if (!o) = true then Outcome.invalid 401
      else if (!e) = true then Outcome.invalid 401 else Outcome.pass)
    = (if (a && c && d && o && e) = true then Outcome.pass else if a = true then Outcome.invalid 401 else Outcome.invalid 400) := by
  cases a <;> cases c <;> cases d <;> cases o <;> cases e <;> rfl

theorem oauthValidate_eq_spec (o : JwtCfg) (env : Env) (h : Header) :
    oauthValidate o env.jwtLib h = Spec.jwtOK ⟨o.alg, o.secret, []⟩ { env with cookie := fun _ => none } h :=
  jwtValidate_eq_spec ⟨o.alg, o.secret, []⟩ { env with cookie := fun _ => none } h

theorem handle_eq_expected (cfg : Cfg) (env : Env) (r : Request) : handle cfg env r = Spec.expected cfg env r := by
  have key := outcome_bool (Spec.rulesOK cfg env r)
    (match cfg.jwt with | some j => Spec.jwtOK j env r.std.headers | none => true)
    (match cfg.sig with | some s => sigValidate s env r (some r.payload) | none => true)
    (match cfg.oauth2 with
      | some o => Spec.jwtOK ⟨o.alg, o.secret, []⟩ { env with cookie := fun _ => none } r.std.headers | none => true)
    (!cfg.basic || (Spec.basicUser env r.std.headers).isSome)
  -- `key`'s right-hand side is `Spec.expected` unfolded; its left-hand side is `handle`'s chain, test by test
  refine Eq.trans ?_ key
  unfold handle handleWith
  refine ite_step (by unfold Spec.rulesOK; cases cfg.headers <;> rfl) ?_
  refine ite_step (by cases cfg.jwt with | none => rfl | some j => exact congrArg not (jwtValidate_eq_spec j env _)) ?_
  refine ite_step (by cases cfg.sig <;> rfl) ?_
  refine ite_step (by cases cfg.oauth2 with | none => rfl | some o => exact congrArg not (oauthValidate_eq_spec o env _)) ?_
  refine ite_step ?_ rfl
  rw [show basicValidateWith parseCreds = basicValidate from rfl, basicValidate_eq_spec]
  cases cfg.basic <;> cases Spec.basicUser env r.std.headers <;> rfl

theorem pow10_pos (e : Nat) : (0 : Int) < (10 : Int) ^ e := Int.pow_pos (by decide)

end EgVerif.Validator
