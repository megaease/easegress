import EgVerif.Model.MuxCache
import EgVerif.Gen.FactsMuxIR
/-!
Regenerated tie by translation for `muxInstance.search` and `allowIP` (`notes/IR.md`).

`Gen.FactsMuxIR.searchIR o c q cached` is produced on every run by the go/ast micro-translator from the
current body of `muxInstance.search` (local closure `allow` inlined, `&route{…}` literals as `GoRoute`,
`getRouteFromCache` = the binder `cached`, `putRouteToCache` = the state variable `put`, three generated
loop functions). It is proved equal, for all inputs and oracles, to

* the cache-hit branch `MuxCache.hit` when the lookup returned a route, and
* the miss path `MuxCache.searchMiss` (result **and** the route put into the cache) otherwise,

through `routeGo` / `CRoute.go` (the Go view of a route has no rule / path indices).
-/
namespace EgVerif.MuxCache
open EgVerif.Mux EgVerif.Gen.FactsMuxIR

/-- `allowIP`: `none` would be a nil dereference; it never is. -/
theorem allowIP_regenerated_from_source (o : Oracle) (f : Option Nat) (ip : String) :
    allowIPIR o f ip = some (allowIP o f ip) := by
  cases f <;> simp [allowIPIR, allowIP]

theorem consult_map (cs : List Nat) (f : Option Nat) :
    (if f.isSome = true then cs.map some ++ [f] else cs.map some) = (consult cs f).map some := by
  cases f <;> simp [consult]

/-- the hit branch's loop over the recorded filters -/
theorem search_regenerated_from_source_loop1 (o : Oracle) (c : Cfg) (q : Req) (cached put : Option GoRoute)
    (hm mm : Bool) (ip : String) (r : Option GoRoute) (fs : List Nat) :
    searchIR_loop1 o c q cached put hm mm ip r (fs.map some) =
      if fs.all (fun f => o.allow f ip) then .inr () else .inl ((403, none), put) := by
  induction fs with
  | nil => rfl
  | cons f rest ih =>
    simp only [List.map_cons, searchIR_loop1, ih, allowIP, List.all_cons, routeRes]
    rcases Bool.eq_false_or_eq_true (o.allow f ip) with h | h <;> simp [h]

/-- the inner loop (paths of one rule) against `searchPathsC` -/
theorem search_regenerated_from_source_loop3 (o : Oracle) (c : Cfg) (q : Req) (cached : Option GoRoute)
    (r : Option GoRoute) (ri : Nat) (es : List PathEntry) :
    ∀ (pi : Nat) (cs : List Nat) (put : Option GoRoute) (hm mm : Bool),
      searchIR_loop3 o c q cached put hm mm q.ip r (cs.map some) es =
        match searchPathsC o q ri cs pi es hm mm with
        | .found x p => .inl (routeGo x, (p.map CRoute.go).or put)
        | .cont hm' mm' => .inr (put, hm', mm', r, cs.map some) := by
  induction es with
  | nil => intro _ _ _ _ _; rfl
  | cons e es ih =>
    intro pi cs put hm mm
    replace ih := ih (pi + 1) cs
    have hlen : decide (e.headers.length > 0) = !e.headers.isEmpty := by cases e.headers <;> rfl
    have hlen0 : (e.headers.length == 0) = e.headers.isEmpty := by cases e.headers <;> rfl
    simp only [searchIR_loop3, searchPathsC, hlen, hlen0, consult_map]
    cases matchPath o e q
    · exact ih put hm mm
    cases matchMethod e q
    · exact ih put hm true
    cases (!e.headers.isEmpty && !matchHeaders o e q)
    · cases allowIP o e.ipFilter q.ip <;> cases (e.headers.isEmpty && !hm) <;> rfl
    · exact ih put true mm

/-- the tail of `search` after the rule loop: an early return is passed on, otherwise 400 / 405 / 404 -/
def finishIR (x : Sum SearchRes (Option GoRoute × Bool × Bool × Option GoRoute × List (Option Nat))) : SearchRes :=
  match x with
  | .inl res => res
  | .inr (put, hm, mm, _, consulted) =>
    if hm then ((400, none), put)
    else if mm then ((405, none), some ⟨405, none, consulted⟩)
    else ((404, none), some ⟨404, none, consulted⟩)

/-- the outer loop (rules) followed by the tail, against `searchRulesC` -/
theorem search_regenerated_from_source_loop2 (o : Oracle) (c : Cfg) (q : Req) (cached : Option GoRoute)
    (r : Option GoRoute) (rs : List Rule) :
    ∀ (ri : Nat) (cs : List Nat) (put : Option GoRoute) (hm mm : Bool),
      finishIR (searchIR_loop2 o c q cached put hm mm q.ip r (cs.map some) rs) =
        (routeGo (searchRulesC o q ri rs cs hm mm).1, ((searchRulesC o q ri rs cs hm mm).2.map CRoute.go).or put) := by
  induction rs with
  | nil => intro _ _ _ hm mm; cases hm <;> cases mm <;> rfl
  | cons ru rs ih =>
    intro ri cs put hm mm
    replace ih := ih (ri + 1)
    simp only [searchIR_loop2, searchRulesC, consult_map]
    cases ruleMatch o ru q
    · exact ih cs put hm mm
    cases allowIP o ru.ipFilter q.ip
    · rfl
    · have h3 := search_regenerated_from_source_loop3 o c q cached r ri ru.paths 0 (consult cs ru.ipFilter) put hm mm
      simp only [Bool.not_true, Bool.false_eq_true, if_false, h3]
      cases searchPathsC o q ri (consult cs ru.ipFilter) 0 ru.paths hm mm with
      | found x p => rfl
      | cont hm' mm' => exact ih (consult cs ru.ipFilter) put hm' mm'

/-- **`muxInstance.search`, cache miss** (also `cache == nil`): the generated definition returns the
model's `searchMiss` — the route and the (at most one) route handed to `putRouteToCache`. -/
theorem search_regenerated_from_source (o : Oracle) (c : Cfg) (q : Req) :
    searchIR o c q none = (routeGo (searchMiss o c q).1, (searchMiss o c q).2.map CRoute.go) := by
  have h2 := search_regenerated_from_source_loop2 o c q none none c.rules 0 (consult [] c.ipFilter) none false false
  have hc := consult_map [] c.ipFilter
  simp only [List.map_nil] at hc
  simp only [searchIR, searchMiss, Option.isSome_none, Bool.false_eq_true, if_false, hc]
  cases allowIP o c.ipFilter q.ip
  · rfl
  · simp only [Bool.not_true, Bool.false_eq_true, if_false]
    exact h2.trans (by rw [Option.or_none])

/-- **`muxInstance.search`, cache hit**: the generated definition re-checks exactly the recorded filters
and returns the cached route or `forbidden` — the model's `hit`; nothing is put. -/
theorem search_regenerated_from_source_hit (o : Oracle) (c : Cfg) (q : Req) (r : CRoute) :
    searchIR o c q (some r.go) = (routeGo (hit o r q), none) := by
  simp only [searchIR, Option.isSome_some, if_true, routeFilters, CRoute.go,
    search_regenerated_from_source_loop1, hit]
  cases r.filters.all (fun f => o.allow f q.ip) <;> rfl

end EgVerif.MuxCache
