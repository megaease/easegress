/-!
# Model of `pkg/cluster/mutex.go` + the etcd lock recipe it is layered on (property C18)

Mirrored Go code: `mutex.Lock` (`m.lock.Lock()`; `m.m.Lock(ctx)` with the request timeout;
deferred `m.lock.Unlock()` when the etcd lock failed), `mutex.Unlock` (`m.m.Unlock(ctx)` then
the deferred `m.lock.Unlock()`), `cluster.Mutex` (a new mutex object on the member's single
session, `cluster.getSession`).

The contract assumed of `concurrency.Mutex` (etcd client v3.5, `tryAcquire` / `waitDeletes` /
`Unlock`), for one lock name:

* the keys under the lock prefix form a queue ordered by create revision; a session owns **one**
  key per name (`pfx + lease id`): `Lock` creates it if absent and *re-uses* it otherwise;
* `Lock` returns `nil` once no key with a smaller create revision exists (the session's key is
  the head of the queue);
* `Lock` that fails while waiting (context deadline) deletes the session's key
  (`m.Unlock(client.Ctx())`); `Lock` whose *first* request fails returns the error without
  deleting anything — the key exists if the request was applied and only its response was lost;
* `Unlock` deletes the session's key (a no-op when there is none).

`mutex.Lock` (with fixes/C18-stale-lock-key.patch) calls `m.m.Unlock` whenever `m.m.Lock`
failed, so in every failure path the key is gone before the local mutex is released:
`etcdTimeout` (key present: waited and timed out, or response of the first request lost, then
cleanup) and `etcdErrorEarly` (first request failed without effect; the cleanup delete is a no-op).
The unrepaired code lacks the cleanup in the lost-response case; `Props/C18.lean` shows the
resulting stuck lock as a concrete witness (`old_code_leaves_stale_key`).

Because the key is per *session*, two goroutines of one member are not excluded by etcd: the
process-local `sync.Mutex` of the (single) mutex object does that.

Threads (goroutines) are natural numbers; `Cfg.obj t` is the mutex object thread `t` calls,
`Cfg.sess o` the session (= member) the object was created on.
-/
namespace EgVerif.ClusterMutex

inductive PC
  | idle        -- outside Lock/Unlock
  | haveLocal   -- `m.lock.Lock()` returned, etcd `Lock` not yet issued
  | waiting     -- key present (created or re-used), waiting for earlier keys to go away
  | crit        -- `Lock` returned nil: inside the critical section
  | failing     -- etcd `Lock` returned an error (key removed), deferred local unlock pending
  | releasing   -- `m.m.Unlock` done (key removed), deferred local unlock pending
deriving Repr, DecidableEq

structure Cfg where
  obj : Nat → Nat
  sess : Nat → Nat

structure State where
  pc : Nat → PC
  /-- `sync.Mutex` of mutex object `o` is locked -/
  held : Nat → Bool
  /-- sessions owning a key under the lock prefix, by create revision (head = owner) -/
  queue : List Nat

def init : State := { pc := fun _ => .idle, held := fun _ => false, queue := [] }

def upd {β : Type} (f : Nat → β) (a : Nat) (v : β) : Nat → β := fun x => if x = a then v else f x

inductive Act
  | localLock (t : Nat)
  | etcdEnqueue (t : Nat)
  | etcdGranted (t : Nat)
  | etcdTimeout (t : Nat)
  | etcdErrorEarly (t : Nat)
  | localUnlockFail (t : Nat)
  | critical (t : Nat)
  | etcdUnlock (t : Nat)
  | localUnlock (t : Nat)
deriving Repr, DecidableEq

def step (c : Cfg) (s : State) : Act → Option State
  | .localLock t =>
    if s.pc t = .idle ∧ s.held (c.obj t) = false then
      some { s with pc := upd s.pc t .haveLocal, held := upd s.held (c.obj t) true }
    else none
  | .etcdEnqueue t =>
    if s.pc t = .haveLocal then
      let k := c.sess (c.obj t)
      some { s with pc := upd s.pc t .waiting,
                    queue := if k ∈ s.queue then s.queue else s.queue ++ [k] }
    else none
  | .etcdGranted t =>
    if s.pc t = .waiting ∧ s.queue.head? = some (c.sess (c.obj t)) then
      some { s with pc := upd s.pc t .crit }
    else none
  | .etcdTimeout t =>
    if s.pc t = .waiting then
      some { s with pc := upd s.pc t .failing, queue := s.queue.erase (c.sess (c.obj t)) }
    else none
  | .etcdErrorEarly t =>
    if s.pc t = .haveLocal then
      some { s with pc := upd s.pc t .failing, queue := s.queue.erase (c.sess (c.obj t)) }
    else none
  | .localUnlockFail t =>
    if s.pc t = .failing then
      some { s with pc := upd s.pc t .idle, held := upd s.held (c.obj t) false }
    else none
  | .critical t => if s.pc t = .crit then some s else none
  | .etcdUnlock t =>
    if s.pc t = .crit then
      some { s with pc := upd s.pc t .releasing, queue := s.queue.erase (c.sess (c.obj t)) }
    else none
  | .localUnlock t =>
    if s.pc t = .releasing then
      some { s with pc := upd s.pc t .idle, held := upd s.held (c.obj t) false }
    else none

def run (c : Cfg) : State → List Act → Option State
  | s, [] => some s
  | s, a :: as => match step c s a with
    | none => none
    | some s' => run c s' as

/-- Schedules the judge uses to replay an observed trace. -/
def acquireSeq (t : Nat) : List Act := [.localLock t, .etcdEnqueue t, .etcdGranted t, .critical t]
def releaseSeq (t : Nat) : List Act := [.etcdUnlock t, .localUnlock t]
def failSeq (t : Nat) : List Act := [.localLock t, .etcdEnqueue t, .etcdTimeout t, .localUnlockFail t]

/-! ### `mutex.Lock` / `mutex.Unlock` as one function per call (extension "cluster", 2026-09-30)

The target of the tie by translation (`Gen/FactsC18IR.lean`, `Proofs/ClusterMutexIR.lean`):
`lockCall` / `unlockCall` are what one call of `mutex.Lock` / `mutex.Unlock` does to the two pieces
of state it touches — `held` (the object's `sync.Mutex`) and `key` (the member's key under the lock
prefix) — together with the **sequence of atomic events** in program order (`MEv`), so that the
order of the local and the etcd operations is part of what is compared. The etcd client is the
environment: `lockO ctx` is the outcome of `concurrency.Mutex.Lock(ctx)`, `delO ctx` says whether
`concurrency.Mutex.Unlock(ctx)` succeeded. `Proofs/ClusterMutexIR.lean` maps the event sequences to
schedules of `step` (`lockCall_granted` / `lockCall_failed` against `run_granted` / `run_failed` / `run_release`;
put side by side in `C18.translated_lock_is_schedule`, `C18.translated_unlock_is_schedule`). -/

/-- `context.Background()` / the `n`-th `context.WithTimeout(context.Background(), d)` of the call (two
contexts with the same timeout are different: the first may have expired when the second is created). -/
inductive Ctx
  | background
  | timeout (d : Nat) (n : Nat)
deriving Repr, DecidableEq

/-- Outcomes of etcd's `concurrency.Mutex.Lock(ctx)` (see the contract above). -/
inductive LockOutcome
  | granted        -- nil: the key exists and is the head of the queue
  | timedOut       -- error while waiting: etcd's own cleanup has deleted the key
  | lostResponse   -- error of the first request although it was applied: the key exists
  | earlyError     -- error of the first request, not applied: nothing changed
deriving Repr, DecidableEq

inductive MEv
  | localLock | localUnlock
  | etcdLock (o : LockOutcome)
  | etcdUnlock (ok : Bool)
deriving Repr, DecidableEq

/-- `m.m.Lock(ctx)`: (key afterwards, err != nil) -/
def etcdLockCall (key : Bool) : LockOutcome → Bool × Bool
  | .granted => (true, false)
  | .timedOut => (false, true)
  | .lostResponse => (true, true)
  | .earlyError => (key, true)

/-- `m.m.Unlock(ctx)`: (key afterwards, err != nil) -/
def etcdUnlockCall (key : Bool) (ok : Bool) : Bool × Bool := if ok then (false, false) else (key, true)

structure MOut where
  held : Bool
  key : Bool
  err : Bool
  trace : List MEv
deriving Repr, DecidableEq

/-- `mutex.Lock()` (returns once the local mutex could be taken). -/
def lockCall (tmo : Nat) (lockO : Ctx → LockOutcome) (delO : Ctx → Bool) (key : Bool) : MOut :=
  let o := lockO (.timeout tmo 1)
  let r := etcdLockCall key o
  if r.2 then
    let d := delO (.timeout tmo 2)
    ⟨false, (etcdUnlockCall r.1 d).1, true, [.localLock, .etcdLock o, .etcdUnlock d, .localUnlock]⟩
  else ⟨true, r.1, false, [.localLock, .etcdLock o]⟩

/-- `mutex.Unlock()` -/
def unlockCall (tmo : Nat) (delO : Ctx → Bool) (key : Bool) : MOut :=
  let d := delO (.timeout tmo 1)
  ⟨false, (etcdUnlockCall key d).1, (etcdUnlockCall key d).2, [.etcdUnlock d, .localUnlock]⟩

/-- The schedule of `step` a call of `mutex.Lock` by thread `t` stands for (cleanup delete succeeded). -/
def lockActs (t : Nat) : LockOutcome → List Act
  | .granted => [.localLock t, .etcdEnqueue t, .etcdGranted t]
  | .timedOut => [.localLock t, .etcdEnqueue t, .etcdTimeout t, .localUnlockFail t]
  | .lostResponse => [.localLock t, .etcdEnqueue t, .etcdTimeout t, .localUnlockFail t]
  | .earlyError => [.localLock t, .etcdErrorEarly t, .localUnlockFail t]

/-! ### Lease expiry (extension "cluster", 2026-09-30)

etcd deletes a session's keys when its lease expires — also while a goroutine of that member is inside the
critical section (the member does not notice). `ActX` adds that environment step to `Act`; `step` / `run`
are unchanged (they are the histories without expiry: `runX_base`). -/

inductive ActX
  | base (a : Act)
  | leaseExpire (k : Nat)   -- the lease of session k expires: its key is deleted
deriving Repr, DecidableEq

def State.expire (s : State) (k : Nat) : State := { s with queue := s.queue.erase k }

def stepX (c : Cfg) (s : State) : ActX → Option State
  | .base a => step c s a
  | .leaseExpire k => some (s.expire k)

def runX (c : Cfg) : State → List ActX → Option State
  | s, [] => some s
  | s, a :: as => match stepX c s a with
    | none => none
    | some s' => runX c s' as

end EgVerif.ClusterMutex
